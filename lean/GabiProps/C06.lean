/-
  C06 — the issuance sub-proofs: `ProofS` (the issuer knows `e⁻¹`, so the signature was made
  with the private key) and `ProofU` (the user knows a representation of the commitment `U`).
  Completeness on the executable model, special soundness in the unit group.

  Algebra: `GabiProofs.GroupAlgebra`; transport between `goExp` and `(ZMod n)ˣ`: `GabiProofs.Bridge`,
  `GabiProofs.IssuanceLemmas`.
-/
import GabiModel.Prover
import GabiProofs.IssuanceLemmas
namespace Gabi.C06
open Gabi

/-- **Completeness of ProofS.**  If `A` lies in a subgroup of exponent dividing `order`
    (`A^order ≡ 1 mod n`; for an honestly issued signature `A ∈ QR_n`, `order = p'q'`), the proof
    produced by `Issuer.proveSignature` — for *any* commitment randomness `eCommit`, context and
    nonce — is accepted by `ProofS.Verify`.  `proveSignature … = some ps` contains the existence
    of `d = e⁻¹ mod order`. -/
theorem proofS_complete (pk : PublicKey) (order : Int) (sig : CLSignature)
    (ctx nonce2 eCommit : Int) (ps : ProofS)
    (hn : 1 < pk.n) (ho : 1 < order) (hA : goExp sig.a order pk.n = some 1)
    (h : proveSignature pk order sig ctx nonce2 eCommit = some ps) :
    ps.verify pk sig ctx nonce2 = .ok true := by
  obtain ⟨n, hN, hn⟩ := exists_nat_modulus hn
  rw [hN] at hA
  have ho0 : 0 < order := by omega
  have hu := isUnit_of_goExp_one (by omega : 0 < n) ho0 hA
  have oA := zunit_pow_order hn ho0 hA
  unfold proveSignature at h
  simp only [hN, Option.bind_eq_bind, Option.bind_eq_some_iff, Option.pure_def,
    Option.some.injEq] at h
  obtain ⟨q, hq, d, hd, aC, haC, rfl⟩ := h
  obtain ⟨_, _, qc⟩ := goExp_unit_eq hn hu hq
  obtain ⟨aC0, aC1, aCc⟩ := goExp_unit_eq hn (isUnit_of_cast qc) haC
  rw [zunit_of_cast qc] at aCc
  obtain ⟨_, _, hde⟩ := goModInverse_some hd
  have hoa : (order.natAbs : Int) = order := Int.natAbs_of_nonneg (by omega)
  rw [hoa, Int.emod_eq_of_lt (by omega : (0:Int) ≤ 1) ho] at hde
  have hd' : sig.e * d = 1 + (sig.e * d / order) * order := by
    have := Int.emod_add_mul_ediv (sig.e * d) order
    rw [hde] at this
    linear_combination -this
  set c : Int := (hashCommit [ctx, q, sig.a, nonce2, aC] false : Int) with hc
  have heR : (eCommit - c * d) % order =
      eCommit - c * d + (-((eCommit - c * d) / order)) * order := by
    have := Int.emod_add_mul_ediv (eCommit - c * d) order
    linear_combination this
  have key := Alg.proofS_complete' (A := zunit n sig.a) (e := sig.e) (eC := eCommit) (c := c)
    oA hd' heR
  obtain ⟨x, hx, x0, x1, xc⟩ := goExp_unit hn hu (c + (eCommit - c * d) % order * sig.e)
  have hxa : x = aC := eq_of_cast_eq x0 x1 aC0 aC1 (by rw [xc, aCc, key])
  subst hxa
  rw [← hN] at hx hq
  rw [proofS_verify_eq pk ⟨c, (eCommit - c * d) % order⟩ sig ctx nonce2 hx hq]
  exact congrArg _ (decide_eq_true hc)

/-- `Issuer.proveSignature` succeeds when `A` lies in the subgroup of exponent dividing `order` and
    `e` is invertible modulo `order`. -/
theorem proveSignature_succeeds (pk : PublicKey) (order : Int) (sig : CLSignature)
    (ctx nonce2 eCommit : Int) (hn : 1 < pk.n) (ho : 1 < order)
    (hA : goExp sig.a order pk.n = some 1) (he : Int.gcd sig.e order = 1) :
    ∃ ps, proveSignature pk order sig ctx nonce2 eCommit = some ps := by
  obtain ⟨n, hN, hn'⟩ := exists_nat_modulus hn
  rw [hN] at hA
  have hA := isUnit_of_goExp_one (n := n) (by omega) (by omega) hA
  obtain ⟨q, hq, _, _, qc⟩ := goExp_unit hn' hA sig.e
  obtain ⟨aC, haC, _⟩ := goExp_unit hn' (isUnit_of_cast qc) eCommit
  cases hd : goModInverse sig.e order with
  | none => exact absurd he ((goModInverse_none_iff sig.e order (by omega)).mp hd)
  | some d =>
    unfold proveSignature
    simp only [hN, hq, hd, haC, Option.bind_eq_bind, Option.bind_some, Option.pure_def]
    exact ⟨_, rfl⟩

/-- Special soundness of ProofS in `(ZMod n)ˣ`: two responses `(c, eR) ≠ (c', eR')` for which the
    verifier recomputes the same commitment `A^(c + eR·e) = A^(c' + eR'·e)` give
    `A^((c - c') + (eR - eR')·e) = 1`, i.e. a multiple of the order of `A` — from which `e⁻¹`
    modulo that order is computed when `c ≠ c'`.  (Abstract form: `Gabi.Alg.proofS_special_soundness`.) -/
theorem proofS_special_soundness (pk : PublicKey) (sig : CLSignature) (c c' eR eR' x : Int)
    (hn : 1 < pk.n) (hA : Int.gcd sig.a pk.n = 1)
    (h1 : goExp sig.a (c + eR * sig.e) pk.n = some x)
    (h2 : goExp sig.a (c' + eR' * sig.e) pk.n = some x) :
    zunit pk.n.toNat sig.a ^ ((c - c') + (eR - eR') * sig.e) = 1 := by
  obtain ⟨n, hN, hn'⟩ := exists_nat_modulus hn
  rw [hN] at hA h1 h2 ⊢
  rw [Int.toNat_natCast]
  have hu := (isUnit_iff_gcd sig.a).mpr hA
  obtain ⟨_, _, c1⟩ := goExp_unit_eq hn' hu h1
  obtain ⟨_, _, c2⟩ := goExp_unit_eq hn' hu h2
  exact Alg.proofS_special_soundness (AC := zunit n sig.a ^ (c + eR * sig.e)) rfl
    (Units.ext (by rw [← c2, c1]))

/-- the parameter fact `ProofU` completeness needs: the challenge has 256 bits (SHA-256), so
    `vPrimeCommit + c·vPrime < 2^(LvPrimeCommit+1)` requires `256 + LvPrime ≤ LvPrimeCommit`. It
    holds for the three default parameter sets. -/
theorem default_params_vPrime :
    ∀ bits ∈ [1024, 2048, 4096], ∀ p, defaultSysParams bits = some p →
      256 + p.LvPrime ≤ p.LvPrimeCommit := by
  intro bits _ p h
  have s := default_params_sound (isDefaultParams_of_lookup h)
  have := s.hv_le
  have := s.Lh_eq
  omega

/-- **Completeness of ProofU.**  A `CredentialBuilder` whose `U` is the user commitment to
    `(secret, vPrime, mUser)` (no keyshare server), with `vPrimeCommit ∈ [0, 2^LvPrimeCommit)`
    and `vPrime ∈ [0, 2^LvPrime)`, on a key with invertible `S`, `R_i`, blind-attribute indices in
    `[1, len R)`: `Commit` returns `[U, Ũ]` and the proof created for the Fiat–Shamir challenge
    of `[U, Ũ]` is accepted by `ProofU.Verify` — for every `skRandomizer`, every
    `mUserCommit`, context and nonce. -/
theorem proofU_complete (pk : PublicKey) (b : CredBuilder) (skRandomizer ctx nonce : Int)
    (hn : 1 < pk.n) (hs : Int.gcd pk.s pk.n = 1) (hr : ∀ x ∈ pk.r, Int.gcd x pk.n = 1)
    (hr0 : pk.r ≠ [])
    (hkeys : ∀ kv ∈ b.mUser, 1 ≤ kv.1 ∧ kv.1 < pk.r.length)
    (hU : userCommitment pk b.secret b.vPrime b.mUser none = .ok b.u)
    (hvc0 : 0 ≤ b.vPrimeCommit) (hvc1 : b.vPrimeCommit < 2 ^ pk.params.LvPrimeCommit)
    (hv0 : 0 ≤ b.vPrime) (hv1 : b.vPrime < 2 ^ pk.params.LvPrime)
    (hpar : 256 + pk.params.LvPrime ≤ pk.params.LvPrimeCommit) :
    ∃ Ut, b.commit pk skRandomizer = .ok [b.u, Ut] ∧
      (b.createProof skRandomizer (createChallenge ctx nonce [b.u, Ut] false)).verify pk ctx nonce =
        .ok true := by
  obtain ⟨n, hN, hn⟩ := exists_nat_modulus hn
  rw [hN] at hs hr
  obtain ⟨Ut, hUt, hrec⟩ := createProof_reconstructs pk b skRandomizer hN hn
    ((isUnit_iff_gcd _).mpr hs) (fun x hx => (isUnit_iff_gcd _).mpr (hr x hx)) hr0
    (fun kv h => ⟨by have := (hkeys kv h).1; omega, (hkeys kv h).2⟩) hU
  refine ⟨Ut, hUt, ?_⟩
  set c : Int := (createChallenge ctx nonce [b.u, Ut] false : Int) with hc
  have hwf := createProof_wellFormed pk b skRandomizer c hr0 hkeys
  -- `vPrimeResponse = vPrimeCommit + c·vPrime` is in range: the challenge is a SHA-256 value
  have hcl : c < 2 ^ 256 := by
    have : hashCommit (ctx :: [b.u, Ut] ++ [nonce]) false < 2 ^ 256 := intHashSha256_lt _
    rw [hc, createChallenge]; exact_mod_cast this
  have hc0 : 0 ≤ c := by rw [hc]; exact Int.natCast_nonneg _
  have hsz := response_range (H := 256) hpar hvc0 hvc1 hc0 hcl hv0 hv1.le
  unfold ProofU.verify ProofU.challengeContribution ProofU.verifyWithChallenge
    ProofU.correctResponseSizes
  simp only [hwf, hrec c, deref, bind, Except.bind, pure, Except.pure, Bool.not_true,
    Bool.false_eq_true, if_false]
  simp only [CredBuilder.createProof, ← hc]
  simp [hsz.1, Int.le_sub_one_iff.mpr hsz.2]

/-- Special soundness of ProofU (`Gabi.Alg.proofU_special_soundness`): two accepting
    transcripts with the same `U`, `Ũ` and challenges `c`, `c'` give
    `U^(c-c') = S^(Δv) · R0^(Δs) · ∏ R_i^(Δm_i)`. Restated here for the unit group of `ZMod n`. -/
theorem proofU_special_soundness {n : ℕ} {U Ut S R0 : (ZMod n)ˣ} {ι : Type} (R : ι → (ZMod n)ˣ)
    (L : List ι) (mR mR' : ι → ℤ) {c c' vR vR' sR sR' : ℤ}
    (h1 : U ^ (-c) * S ^ vR * R0 ^ sR * Alg.rep R mR L = Ut)
    (h2 : U ^ (-c') * S ^ vR' * R0 ^ sR' * Alg.rep R mR' L = Ut) :
    U ^ (c - c') = S ^ (vR - vR') * R0 ^ (sR - sR') * Alg.rep R (fun j => mR j - mR' j) L :=
  Alg.proofU_special_soundness R L mR mR' h1 h2

/-! ### non-vacuity (toy key `Gabi.toyKey`: `n = 77`, bases in `QR_77`, `order = 15`) -/

/-- hypotheses of `proofS_complete` are satisfiable: `A = 15` is the signature of C05's example
    (`15^15 ≡ 1 mod 77`). -/
example : ∃ ps, proveSignature toyKey 15 { a := 15, e := 11, v := 6 } 7 8 5 = some ps ∧
    ps.verify toyKey { a := 15, e := 11, v := 6 } 7 8 = .ok true := by
  have hA : goExp (15 : Int) 15 toyKey.n = some 1 := by
    rw [goExp_nonneg 15 15 toyKey.n (by decide) (by decide)]; decide
  obtain ⟨ps, h⟩ := proveSignature_succeeds toyKey 15 { a := 15, e := 11, v := 6 } 7 8 5
    (by decide) (by decide) hA (by decide)
  exact ⟨ps, h, proofS_complete toyKey 15 _ 7 8 5 ps (by decide) (by decide) hA h⟩

set_option exponentiation.threshold 400 in
/-- hypotheses of `proofU_complete` are satisfiable (one blind attribute at index 2). -/
example : ∃ (b : CredBuilder) (Ut : Int), b.commit toyKey 123 = .ok [b.u, Ut] ∧
    (b.createProof 123 (createChallenge 7 8 [b.u, Ut] false)).verify toyKey 7 8 = .ok true := by
  have hn : 1 < toyKey.n := by decide
  have hs : Int.gcd toyKey.s toyKey.n = 1 := by decide
  have hr : ∀ x ∈ toyKey.r, Int.gcd x toyKey.n = 1 := by decide
  obtain ⟨U, hU, _⟩ := userCommitment_spec (n := 77) toyKey 5 9 [(2, 4)] rfl (by decide)
    ((isUnit_iff_gcd _).mpr hs) (fun x hx => (isUnit_iff_gcd _).mpr (hr x hx)) (by decide)
    (by decide)
  let b : CredBuilder :=
    { secret := 5, vPrime := 9, vPrimeCommit := 1000, mUser := [(2, 4)], mUserCommit := [(2, 77)],
      u := U, keyshareP := none, context := 7, nonce2 := 8 }
  have hkeys : ∀ kv ∈ b.mUser, 1 ≤ kv.1 ∧ kv.1 < toyKey.r.length := by
    intro kv hkv
    have : kv = (2, 4) := by simpa [b] using hkv
    subst this; decide
  obtain ⟨Ut, h1, h2⟩ := proofU_complete toyKey b 123 7 8 hn hs hr (by decide) hkeys hU
    (show (0 : Int) ≤ 1000 by decide) (show (1000 : Int) < 2 ^ 300 by decide)
    (show (0 : Int) ≤ 9 by decide) (show (9 : Int) < 2 ^ 8 by decide) (by decide)
  exact ⟨b, Ut, h1, h2⟩

end Gabi.C06

#print axioms Gabi.C06.proofS_complete
#print axioms Gabi.C06.proveSignature_succeeds
#print axioms Gabi.C06.proofS_special_soundness
#print axioms Gabi.C06.default_params_vPrime
#print axioms Gabi.C06.proofU_complete
#print axioms Gabi.C06.proofU_special_soundness
