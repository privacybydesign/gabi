/-
  C19 (companion) — the inner routine of `SumFourSquares` and the sieve of `RandomPrimeInRange`.

  `GabiProps/C19.lean` proves the `SumFourSquares` wrapper correct *given* the postcondition of the
  randomised inner routine `sumFourSquaresSpecial`. This file removes that assumption down to the two
  library oracles the routine calls (`ProbablyPrime`, `ModSqrt`): the deterministic core of the routine —
  Cornacchia's descent, i.e. Euclid's algorithm on `(p, √−1 mod p)` stopped at the first remainder
  below `√p` — is transcribed statement by statement from the Go loop (`Gabi.Cornacchia.cornacchia`)
  and proved sound and complete. The transcription stands in a proof module,
  which the model driver cannot run: no op of `./check C19` compares it with the Go loop (`sum4`
  compares the wrapper, `sum4-inner` only tests the postcondition of the Go routine's output), so
  its faithfulness rests on reading the two side by side. What remains unproved is only that the
  outer loop finds a suitable random draw (probabilistic termination) and the correctness of the
  two oracles.

  Second part: the small-prime sieve of `RandomPrimeInRange` discards no prime, and every candidate
  it builds lies in the requested interval. `Gabi.Sieve.candidate`, the byte construction, is such
  a transcription too; the op `randprime-member` checks the values the real
  `RandomPrimeInRange` returns against the interval and the sieve predicate, not the construction.

  Helper lemmas: GabiProofs.Cornacchia, GabiProofs.Sieve.
-/
import GabiProofs.Cornacchia
import GabiProofs.Sieve
namespace Gabi.C19
open Gabi Gabi.Cornacchia Gabi.Sieve

/-! ### Cornacchia's descent (the loop of `sumFourSquaresSpecial`) -/

/-- the `BitLen` pre-test in front of every `p > r²` comparison of `sumFourSquaresSpecial` is only an
    optimisation: it holds whenever the comparison does. -/
theorem cornacchia_bitLen_pretest {p r : Nat} (h : p > r * r) :
    2 * (natBitLen r : Int) - 1 ≤ (natBitLen p : Int) := bitLen_pretest h

/-- the loop of `sumFourSquaresSpecial` as written, guarded tests included, is plain Euclidean descent
    on `(p, w)`, stopped at the first remainder `r` with `r² < p`. -/
theorem cornacchia_is_euclid (p w : Nat) : cornacchia p w = descent p true p w :=
  cornacchia_eq_descent p w

/-- soundness: for a prime `p ≡ 1 (mod 4)` and a root `w` of `−1` modulo `p`, `0 < w < p`,
    whatever pair the loop of `sumFourSquaresSpecial` returns is a decomposition `a² + b² = p`. -/
theorem cornacchia_sound {p w a b : Nat} (hp : p.Prime) (h4 : p % 4 = 1) (hw0 : 0 < w) (hwp : w < p)
    (hw : (w * w + 1) % p = 0) (h : cornacchia p w = some (a, b)) : a * a + b * b = p :=
  Cornacchia.cornacchia_sound ⟨hp, by omega, hw0, hwp, hw⟩ h

/-- completeness: for a prime `p ≡ 1 (mod 4)` and a root `w` of `−1` modulo `p`, `0 < w < p`, the loop
    of `sumFourSquaresSpecial` terminates with a decomposition `a² + b² = p`; it never `break`s
    (no Euclidean remainder becomes 0 before one drops below `√p`), so no retry is caused by it. -/
theorem cornacchia_complete {p w : Nat} (hp : p.Prime) (h4 : p % 4 = 1) (hw0 : 0 < w) (hwp : w < p)
    (hw : (w * w + 1) % p = 0) : ∃ a b, cornacchia p w = some (a, b) ∧ a * a + b * b = p :=
  cornacchia_total ⟨hp, by omega, hw0, hwp, hw⟩

/-! ### one iteration of the outer loop of `sumFourSquaresSpecial` -/

/-- postcondition of a successful iteration of `sumFourSquaresSpecial(n)` with the random draws `x, y`:
    if `z = n − x² − y²` is a prime `≡ 1 (mod 4)` the output `(x, y, a, b)` has non-negative entries
    with `x² + y² + a² + b² = n`;
    the shortcut `z = 2` returns `(x, y, 1, 1)` with `x² + y² + 1 + 1 = n`. `isPrime` is
    `ProbablyPrime(10)`, `sqrtNegOne z` is `ModSqrt(z − 1, z)`; both are assumed correct (`OraclesOk`). -/
theorem special_postcondition {isPrime : Nat → Bool} {sqrtNegOne : Nat → Nat}
    (ho : OraclesOk isPrime sqrtNegOne) {n x y : Nat} {q : Quad}
    (h : specialAttempt isPrime sqrtNegOne n x y = some q) : QuadOk n q := by
  rcases (specialAttempt_eq_some_iff rfl).mp h with ⟨hz, rfl⟩ | ⟨hz0, hz4, hpr, a, b, hc, rfl⟩
  · exact quadOk_mk.mpr ⟨Int.natCast_nonneg x, Int.natCast_nonneg y, zero_le_one, zero_le_one,
      by linarith⟩
  · have hs : ((a * a + b * b : Nat) : Int) = _ :=
      congrArg Nat.cast (Cornacchia.cornacchia_sound (ho.input hpr hz4) hc)
    rw [Int.toNat_of_nonneg hz0.le] at hs
    exact quadOk_mk.mpr ⟨Int.natCast_nonneg x, Int.natCast_nonneg y, Int.natCast_nonneg a,
      Int.natCast_nonneg b, by push_cast at hs; linarith⟩

/-- the shortcut of `sumFourSquaresSpecial`: when `z = n − x² − y²` is 2 the iteration returns
    `(x, y, 1, 1)`,
    and `x² + y² + 1 + 1 = n`. -/
theorem special_shortcut (isPrime : Nat → Bool) (sqrtNegOne : Nat → Nat) {n x y : Nat}
    (hz : (n : Int) - x * x - y * y = 2) :
    specialAttempt isPrime sqrtNegOne n x y = some ((x : Int), (y : Int), 1, 1) ∧
      (x : Int) * x + y * y + 1 + 1 = n := by
  exact ⟨(specialAttempt_eq_some_iff rfl).mpr (Or.inl ⟨hz, rfl⟩), by linarith⟩

/-- an iteration of `sumFourSquaresSpecial(n)` with the draws `x, y` returns exactly when
    `z = n − x² − y²` is 2 or an accepted prime `≡ 1 (mod 4)` (otherwise: next random draw); the descent
    itself never causes a retry. -/
theorem special_pass_succeeds_iff {isPrime : Nat → Bool} {sqrtNegOne : Nat → Nat}
    (ho : OraclesOk isPrime sqrtNegOne) (n x y : Nat) :
    (specialAttempt isPrime sqrtNegOne n x y).isSome = true ↔
      ((n : Int) - x * x - y * y = 2 ∨
        (0 < (n : Int) - x * x - y * y ∧ ((n : Int) - x * x - y * y).toNat % 4 = 1 ∧
          isPrime ((n : Int) - x * x - y * y).toNat = true)) := by
  rw [Option.isSome_iff_exists]
  constructor
  · rintro ⟨q, hq⟩
    rcases (specialAttempt_eq_some_iff rfl).mp hq with ⟨hz, -⟩ | ⟨hz0, hz4, hpr, -⟩
    exacts [Or.inl hz, Or.inr ⟨hz0, hz4, hpr⟩]
  · rintro (hz | ⟨hz0, hz4, hpr⟩)
    · exact ⟨_, (specialAttempt_eq_some_iff rfl).mpr (Or.inl ⟨hz, rfl⟩)⟩
    · -- the descent never fails on an accepted prime
      obtain ⟨a, b, hc, -⟩ := cornacchia_total (ho.input hpr hz4)
      exact ⟨_, (specialAttempt_eq_some_iff rfl).mpr (Or.inr ⟨hz0, hz4, hpr, a, b, hc, rfl⟩)⟩

/-- every value `sumFourSquaresSpecial(n)` can return on an argument `n ≡ 2 (mod 4)` (the constant for
    `n < 4`, else the result of a successful iteration) is a correct decomposition. -/
theorem special_output_ok {isPrime : Nat → Bool} {sqrtNegOne : Nat → Nat}
    (ho : OraclesOk isPrime sqrtNegOne) {n : Nat} (hn : n % 4 = 2) {q : Quad}
    (h : SpecialOutput isPrime sqrtNegOne n q) : QuadOk n q := by
  rcases h with ⟨h4, rfl⟩ | ⟨-, x, y, h⟩
  · obtain rfl : n = 2 := by omega
    exact quadOk_mk.mpr (by norm_num)
  · exact special_postcondition ho h

/-! ### `SumFourSquares` end to end -/

/-- `SumFourSquares n` is correct for every `n`, given only that the inner routine returned *some*
    value it can return (i.e. its random search ended) and that `ProbablyPrime` / `ModSqrt` are correct:
    the result is non-negative with `x² + y² + z² + w² = n`. Combines `sumFourSquares_wrapper`
    (C19.lean) with `special_output_ok`. -/
theorem sumFourSquares_correct_given_descent {isPrime : Nat → Bool} {sqrtNegOne : Nat → Nat}
    (ho : OraclesOk isPrime sqrtNegOne) (special : Nat → Quad) (n : Nat)
    (hs : n ≠ 0 → SpecialOutput isPrime sqrtNegOne (sumFourSquaresInnerArg n)
      (special (sumFourSquaresInnerArg n))) :
    QuadOk n (sumFourSquaresWith special n) :=
  sumFourSquaresWith_spec_arg special n
    (fun hn => special_output_ok ho (sumFourSquaresInnerArg_mod n hn) (hs hn))

/-! ### `RandomPrimeInRange`: sieve and interval -/

/-- a candidate of `RandomPrimeInRange` (always `≥ 2^start`) rejected by the small-prime sieve is
    composite: the sieve discards no prime. -/
theorem sieve_sound {start p : Nat} (hge : 2 ^ start ≤ p)
    (h : randomPrimeCandidateOk Gen.smallPrimes Gen.smallPrimesProduct start p = false) :
    ¬ p.Prime := by
  intro hp
  obtain ⟨hq, h6 | hne⟩ := rejected_prime h hp
  · -- `p ≤ 53 < 2^7 ≤ 2^start ≤ p`
    have := (smallPrimes_le _ hq).2
    have : 2 ^ 7 ≤ 2 ^ start := Nat.pow_le_pow_right (by norm_num) h6
    omega
  · have := (smallPrimes_le _ hq).2
    exact hne (Nat.mod_eq_of_lt (by unfold Gen.smallPrimesProduct; omega))

/-- a prime rejected by the small-prime sieve of `RandomPrimeInRange`, whatever its size relative to
    `2^start`, is one of the table primes: the sieve rejects no prime larger than 53. -/
theorem sieve_rejects_only_small_primes {start p : Nat}
    (h : randomPrimeCandidateOk Gen.smallPrimes Gen.smallPrimesProduct start p = false)
    (hp : p.Prime) : p ∈ Gen.smallPrimes ∧ p ≤ 53 :=
  ⟨(rejected_prime h hp).1, (smallPrimes_le _ (rejected_prime h hp).1).2⟩

/-- the sieve of `RandomPrimeInRange` rejects a candidate exactly when some table prime `q` divides it
    (and, for `start ≤ 6`, the candidate's residue modulo the table product is not `q` itself). -/
theorem sieve_rejected_iff (start p : Nat) :
    randomPrimeCandidateOk Gen.smallPrimes Gen.smallPrimesProduct start p = false ↔
      ∃ q ∈ Gen.smallPrimes, q ∣ p ∧ (6 < start ∨ p % Gen.smallPrimesProduct ≠ q) :=
  candidate_rejected_iff start p

/-- the table `SmallPrimes` of randomprime.go consists of primes, and `SmallPrimesProduct` is their
    product. -/
theorem sieve_table : (∀ q ∈ Gen.smallPrimes, q.Prime) ∧ Gen.smallPrimes.prod = Gen.smallPrimesProduct :=
  ⟨smallPrimes_prime, smallPrimes_prod⟩

/-- every candidate `RandomPrimeInRange` builds from `(length+7)/8` random bytes (first byte masked to
    `length mod 8` bits, 8 if that is 0; last bit set; added to `2^start`) lies in
    `(2^start, 2^start + 2^length)` and is odd; hence so does every returned value, by construction
    and not only by the checked membership predicate. -/
theorem randomPrime_candidate_in_range {start length : Nat} {bytes : List UInt8} (hl : 1 ≤ length)
    (hlen : bytes.length = (length + 7) / 8) :
    2 ^ start < candidate start length bytes ∧
      candidate start length bytes < 2 ^ start + 2 ^ length ∧
      (1 ≤ start → candidate start length bytes % 2 = 1) :=
  candidate_in_range hl hlen

/-! ### non-vacuity -/

/-- the hypotheses of `cornacchia_sound` / `cornacchia_complete` hold for `p = 13`, `w = 5` (and the
    result is `3² + 2² = 13`). -/
example : ∃ a b, cornacchia 13 5 = some (a, b) ∧ a * a + b * b = 13 :=
  cornacchia_complete (by norm_num) (by norm_num) (by norm_num) (by norm_num) (by norm_num)

/-- oracles satisfying `OraclesOk` exist (and accept every prime). -/
example : ∃ (isPrime : Nat → Bool) (sqrtNegOne : Nat → Nat),
    OraclesOk isPrime sqrtNegOne ∧ ∀ z, z.Prime → isPrime z = true := exists_oracles

/-- a successful iteration exists: `n = 18`, draws `x = 2, y = 1` give `z = 13`. -/
example : ∃ isPrime sqrtNegOne, OraclesOk isPrime sqrtNegOne ∧
    (specialAttempt isPrime sqrtNegOne 18 2 1).isSome = true := by
  obtain ⟨ip, sq, ho, hacc⟩ := exists_oracles
  refine ⟨ip, sq, ho, ?_⟩
  have h13 : ((18 : Nat) : Int) - ((2 : Nat) : Int) * (2 : Nat) - ((1 : Nat) : Int) * (1 : Nat) = 13 := by
    norm_num
  rw [special_pass_succeeds_iff ho, h13]
  exact Or.inr ⟨by norm_num, by decide, hacc 13 (by norm_num)⟩

/-- a rejected candidate in range: `start = 7`, `p = 129 = 3·43`. -/
example : 2 ^ 7 ≤ 129 ∧ randomPrimeCandidateOk Gen.smallPrimes Gen.smallPrimesProduct 7 129 = false := by
  decide

/-- a byte string of the right length for `length = 12`. -/
example : ([0xff, 0xfe] : List UInt8).length = (12 + 7) / 8 := by decide

end Gabi.C19

#print axioms Gabi.C19.cornacchia_bitLen_pretest
#print axioms Gabi.C19.cornacchia_is_euclid
#print axioms Gabi.C19.cornacchia_sound
#print axioms Gabi.C19.cornacchia_complete
#print axioms Gabi.C19.special_postcondition
#print axioms Gabi.C19.special_shortcut
#print axioms Gabi.C19.special_pass_succeeds_iff
#print axioms Gabi.C19.special_output_ok
#print axioms Gabi.C19.sumFourSquares_correct_given_descent
#print axioms Gabi.C19.sieve_sound
#print axioms Gabi.C19.sieve_rejects_only_small_primes
#print axioms Gabi.C19.sieve_rejected_iff
#print axioms Gabi.C19.sieve_table
#print axioms Gabi.C19.randomPrime_candidate_in_range
