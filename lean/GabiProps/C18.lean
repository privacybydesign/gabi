/-
  C18 — Serialisation round trips preserve meaning; key files stay private.
  Property theorems only; helper lemmas live in GabiProofs.Serial / SerialKeys / NumLemmas.

  GabiModel.Serial is the executable reference: base64 (RFC 4648) and decimal codecs, the
  big.Int (un)marshalers of big/int.go, key documents as element lists with the readers of
  gabikeys/keys.go + marshaling.go (as of /repo commit dd11d6a, in which they refuse missing
  mandatory elements and negative bases and check the key length of a file),
  PrivateKey.WriteToFile over abstract file states, and the compressed event list of
  revocation/api.go. The correspondence run of
  `./check C18` compares it with the real code op by op; whole protocol messages are round-tripped
  through the real codecs and re-verified by the real verifier (msg-roundtrip).
-/
import GabiModel.Serial
import GabiProofs.Serial
import GabiProofs.SerialKeys
import GabiProofs.NumLemmas
namespace Gabi.C18
open Gabi Gabi.Serial

/-! ## integers -/

/-- `SetBytes(Bytes(n)) = n`: the big-endian byte form loses nothing. -/
theorem bytes_nat_roundtrip (n : Nat) : ofBytesBE (natBytesBE n) = n := ofBytesBE_natBytesBE n

/-- `SetBytes` ignores leading zero bytes. -/
theorem bytes_leading_zeros (k : Nat) (bs : List UInt8) :
    ofBytesBE (List.replicate k 0 ++ bs) = ofBytesBE bs := by
  rw [ofBytesBE_append, ofBytesBE_replicate_zero, Nat.zero_mul, Nat.zero_add]

/-- RFC 4648 base64 with padding: decoding an encoding returns the bytes. -/
theorem base64_roundtrip (bs : List UInt8) : b64Decode (b64Encode bs) = some bs := b64Decode_encode bs

/-- Decimal text: `SetString(String(z), 10) = z`, for naturals and signed integers. -/
theorem decimal_roundtrip (n : Nat) (z : Int) :
    decToNat? (natToDec n) = some n ∧ parseDecInt? (intToDec z) = some z :=
  ⟨decToNat_natToDec n, parseDecInt_intToDec z⟩

/-- JSON: a non-negative integer is written as a quoted base64 string and read back unchanged,
    both through encoding/json (`jsonUnmarshalInt`) and by calling `UnmarshalJSON` directly;
    the result does not depend on the previous value of the receiver. -/
theorem int_json_roundtrip (prev z : Int) (h : 0 ≤ z) :
    ∃ t, marshalJSON z = .ok t ∧ jsonUnmarshalInt prev t = .ok z ∧ unmarshalJSON prev t = .ok z := by
  refine ⟨_, marshalJSON_nonneg z h, ?_, ?_⟩
  · rw [jsonUnmarshalInt_quoted, ofNat_bytes_toNat h]
  · rw [unmarshalJSON_quoted, ofNat_bytes_toNat h]

/-- JSON, unquoted decimal form: read as the same value when non-negative, refused when negative. -/
theorem int_json_decimal (prev z : Int) :
    unmarshalJSON prev (intToDec z) = if z < 0 then .error .negative else .ok z := by
  have hch := intToDec_chars z
  have hun : unmarshalJSON prev (intToDec z) = unmarshalJSONUnquoted prev (intToDec z) := by
    unfold unmarshalJSON
    split
    · next r heq =>
      have := hch 34 (heq ▸ List.mem_cons_self ..)
      omega
    · rfl
  have hnull : intToDec z ≠ [110, 117, 108, 108] := fun h => by
    have := hch 110 (h ▸ List.mem_cons_self ..)
    omega
  rw [hun, unmarshalJSONUnquoted]
  simp only [trimJson_intToDec, hnull, if_false]
  by_cases hz : z < 0
  · rw [intToDec_neg z hz, if_pos hz]
    simp [jsonIntBody_natToDec, decToNat_natToDec]
    omega
  · obtain ⟨c, r, hcr, hd⟩ := natToDec_head z.toNat
    rw [isDigit_iff] at hd
    have hneg : (natToDec z.toNat).head? ≠ some 45 := by
      rw [hcr, List.head?_cons, ne_eq, Option.some.injEq]
      omega
    rw [intToDec_nonneg z (Int.not_lt.mp hz), if_neg hz]
    simp only [hneg, if_false, jsonIntBody_natToDec, if_true, decToNat_natToDec, false_and]
    exact congrArg _ (Int.toNat_of_nonneg (Int.not_lt.mp hz))

/-- XML: what `MarshalXML` writes, `UnmarshalXML` reads back unchanged — or refuses if negative. -/
theorem int_xml_roundtrip (z : Int) :
    unmarshalXML (marshalXML z) = if z < 0 then .error .negative else .ok z :=
  unmarshalXML_marshalXML z

/-- A non-negative integer survives `MarshalBinary`/`UnmarshalBinary`, and the CBOR byte string
    that `cbor.Marshal` wraps around its bytes decodes to these bytes (stated for fewer than 65536
    bytes; `Serial.cborBytes_roundtrip` covers every length below `2^64`). -/
theorem int_binary_roundtrip (z : Int) (h : 0 ≤ z) :
    unmarshalBinary (marshalBinary z) = z ∧
    ((marshalBinary z).length < 65536 → cborBytesDecode? (cborOfInt z) = some (marshalBinary z)) := by
  refine ⟨?_, fun hl => cborBytes_roundtrip _ (lt_trans hl (by norm_num))⟩
  rw [unmarshalBinary, marshalBinary, ofBytesBE_natBytesBE]
  exact Int.natAbs_of_nonneg h

/-- The text encodings refuse negative integers with an error instead of altering them:
    `MarshalText` (hence JSON marshalling), and reading `-d…` from XML or from unquoted JSON. -/
theorem text_rejects_negative (prev z : Int) (h : z < 0) :
    marshalText z = .error .negative ∧ marshalJSON z = .error .negative ∧
    unmarshalXML (intToDec z) = .error .negative ∧ unmarshalJSON prev (intToDec z) = .error .negative := by
  have ht : marshalText z = .error .negative := if_pos h
  refine ⟨ht, by rw [marshalJSON, ht], ?_, ?_⟩
  · rw [← marshalXML, unmarshalXML_marshalXML, if_pos h]
  · rw [int_json_decimal, if_pos h]

/-! ## key documents -/

/-- A public key written with `WriteTo` and read back is identical in every serialised field
    (Counter, ExpiryDate, n, Z, S, G, H, every base, EpochLength, ECDSA string), for any number
    of bases and with or without the revocation part. `Valid` = the Go field types plus
    non-negative integers, a supported modulus length and a parsable ECDSA key when present. -/
theorem key_roundtrip_public (env : Env) (k : PubKeyData) (hv : k.Valid env) :
    parsePub env (printPub k) = .ok k := by
  have hroot : ¬((printPub k).ns ≠ idemixNs ∨ (printPub k).root ≠ "IssuerPublicKey") :=
    not_or.mpr ⟨not_not.mpr rfl, not_not.mpr rfl⟩
  rw [parsePub, if_neg hroot, foldItems_printPub hv]
  dsimp only
  rw [if_neg (not_not.mpr hv.supported), if_neg fun ⟨hg, hh, he, hno⟩ => hno (hv.ecdsa hg hh he)]

/-- A private key written with `WriteTo` and read back is identical in every serialised field
    (Counter, ExpiryDate, p, q, p', q', ECDSA string): in demo mode for any non-negative numbers,
    outside demo mode for keys that pass `Validate`. -/
theorem key_roundtrip_private (env : Env) (demo : Bool) (k : PrivKeyData) (hv : k.Valid env demo) :
    parsePriv env demo (printPriv k) = .ok k := by
  have hroot : ¬((printPriv k).ns ≠ idemixNs ∨ (printPriv k).root ≠ "IssuerPrivateKey") :=
    not_or.mpr ⟨not_not.mpr rfl, not_not.mpr rfl⟩
  have hvalid : (if demo = true then (Except.ok () : Except ParseErr Unit) else validatePriv k) = .ok () := by
    cases demo with
    | true => rfl
    | false => exact (if_neg Bool.false_ne_true).trans (hv.validate rfl)
  rw [parsePriv, if_neg hroot, foldItems_printPriv hv]
  dsimp only
  rw [hvalid]
  dsimp only
  rw [if_neg fun ⟨he, hno⟩ => hno (hv.ecdsa he)]

/-- Missing mandatory elements: a public key document without `n`, `Z` or `S`, a private key
    document without `p`, `q`, `pPrime` or `qPrime` is refused (in demo mode too). -/
theorem key_parse_rejects_missing (env : Env) (doc : KeyDoc) (name : String) :
    (name ∈ ["n", "Z", "S"] → (∀ t, Item.elem name t ∉ doc.items) → IsError (parsePub env doc)) ∧
    (∀ demo, name ∈ ["p", "q", "pPrime", "qPrime"] → (∀ t, Item.elem name t ∉ doc.items) →
      IsError (parsePriv env demo doc)) := by
  refine ⟨fun hn hno => isError_of_ne_ok fun k hk => ?_,
    fun demo hn hno => isError_of_ne_ok fun k hk => ?_⟩
  -- the field stayed as it was in the empty state, yet the reader found it set
  · obtain ⟨acc, hf, hn', hz, hs, -⟩ := parsePub_ok hk
    simp only [List.mem_cons, List.not_mem_nil, or_false] at hn
    rcases hn with rfl | rfl | rfl
    · cases hn'.symm.trans (foldItems_keeps (fun a it a' h => (pubStep_frame a it a' h).1) hno hf)
    · cases hz.symm.trans (foldItems_keeps (fun a it a' h => (pubStep_frame a it a' h).2.1) hno hf)
    · cases hs.symm.trans (foldItems_keeps (fun a it a' h => (pubStep_frame a it a' h).2.2) hno hf)
  · obtain ⟨acc, hf, hp, hq, hpp, hqp, -⟩ := parsePriv_ok hk
    simp only [List.mem_cons, List.not_mem_nil, or_false] at hn
    rcases hn with rfl | rfl | rfl | rfl
    · cases hp.symm.trans (foldItems_keeps (fun a it a' h => (privStep_frame a it a' h).1) hno hf)
    · cases hq.symm.trans (foldItems_keeps (fun a it a' h => (privStep_frame a it a' h).2.1) hno hf)
    · cases hpp.symm.trans (foldItems_keeps (fun a it a' h => (privStep_frame a it a' h).2.2.1) hno hf)
    · cases hqp.symm.trans (foldItems_keeps (fun a it a' h => (privStep_frame a it a' h).2.2.2) hno hf)

/-- Negative or non-decimal numbers: a document in which any occurrence of a big-integer
    element holds a text that is not a base 10 integer, or a negative one, is refused. -/
theorem key_parse_rejects_bad_number (env : Env) (doc : KeyDoc) (name : String) (t : Text)
    (hbad : BadNumber t) (hmem : Item.elem name t ∈ doc.items) :
    (name ∈ pubBigNames → IsError (parsePub env doc)) ∧
    (∀ demo, name ∈ privBigNames → IsError (parsePriv env demo doc)) :=
  ⟨fun hn => parsePub_error_of_mem env hmem fun acc => pubStep_bad_number acc name t hn hbad,
   fun demo hn => parsePriv_error_of_mem env demo hmem fun acc => privStep_bad_number acc name t hn hbad⟩

/-- The decimal text of a negative number is one of the texts that
    `key_parse_rejects_bad_number` speaks of. -/
theorem negative_is_bad_number (z : Int) (h : z < 0) : BadNumber (intToDec z) :=
  Or.inr ⟨z, parseDecInt_intToDec z, h⟩

/-- Base lists whose count or numbers are wrong: unreadable `num`, `num` different from the
    number of entries, or an entry that is not a non-negative base 10 integer. -/
theorem key_parse_rejects_bad_bases (env : Env) (doc : KeyDoc) (num : Option Text)
    (entries : List (String × Text)) (hbad : BadBases num entries)
    (hmem : Item.bases num entries ∈ doc.items) : IsError (parsePub env doc) :=
  parsePub_error_of_mem env hmem fun _ => except_map_error (parseBases_bad num entries hbad)

/-- Unsupported modulus lengths: an accepted public key has a modulus length for which system
    parameters exist (the same reader serves XML strings, byte slices and files). -/
theorem key_parse_rejects_key_length (env : Env) (doc : KeyDoc) (k : PubKeyData)
    (h : parsePub env doc = .ok k) : env.supported (bitLen k.n) = true :=
  let ⟨_, _, _, _, _, hsup⟩ := parsePub_ok h
  hsup

/-- Inconsistent or non-safe primes outside demo mode: an accepted private key has
    `p' = (p-1)/2`, `q' = (q-1)/2` and both `p` and `q` pass the safe-prime test. -/
theorem key_parse_rejects_bad_primes (env : Env) (doc : KeyDoc) (k : PrivKeyData)
    (h : parsePriv env false doc = .ok k) :
    (k.p - 1) / 2 = k.pPrime ∧ (k.q - 1) / 2 = k.qPrime ∧ safePrime k.p = true ∧ safePrime k.q = true :=
  let ⟨_, _, _, _, _, _, hv⟩ := parsePriv_ok h
  validatePriv_ok k (hv rfl)

/-- non-vacuity of `Valid`: a key with three bases (one of them 0), `H` but no `G`, a negative
    expiry date. -/
example : PubKeyData.Valid { supported := fun _ => true, ecdsaOk := fun _ => false }
    { counter := 3, expiry := -5, n := 11, z := 2, s := 3, g := none, h := some 4, r := [0, 7, 10],
      epoch := 432000, ecdsa := [] } := by
  constructor <;> simp

/-- non-vacuity for private keys in demo mode. -/
example : PrivKeyData.Valid { supported := fun _ => true, ecdsaOk := fun _ => false } true
    { counter := 0, expiry := 0, p := 11, q := 23, pPrime := 5, qPrime := 11, ecdsa := [] } := by
  constructor <;> simp

/-! ## private key files -/

/-- After a successful `PrivateKey.WriteToFile` the file the path resolves to has no group or
    other permission bits, whatever was at the path before (nothing, a file of any mode, a
    directory, a symbolic link to any of these), for every umask, with and without
    `forceOverwrite`, privileged or not. (POSIX open/fchmod semantics as modelled in
    `FilePerm.writeToFile` are the assumption; the filemode op compares them with the kernel.) -/
theorem private_key_mode (p : FilePerm.Proc) (force : Bool) (prior : FilePerm.Prior) (m : Nat)
    (h : FilePerm.writeToFile p force prior = .ok m) : m &&& 0o077 = 0 := by
  rcases FilePerm.writeToFile_mode h with rfl | rfl
  · rfl
  · exact FilePerm.created_private p

/-- The statement is not vacuous, and both ingredients of the code are needed: with `os.Create`
    semantics (mode 0666, no fchmod) an existing 0644 file stays group/world readable and a new
    one is created 0644 under the usual umask. -/
theorem private_key_mode_needs_fchmod :
    FilePerm.writeToFile { umask := 0o022, root := false } true (.file 0o644) = .ok 0o600 ∧
    FilePerm.writeToFileOsCreate { umask := 0o022, root := false } true (.file 0o644) = .ok 0o644 ∧
    FilePerm.writeToFileOsCreate { umask := 0o022, root := false } true .absent = .ok 0o644 := by
  decide

/-! ## compressed event lists -/

/-- `EventList`/`Update` transport only the first index, the first parent hash and the `E`s;
    for a chain that `Verify` accepts (consecutive indices, each parent hash the hash of the
    event before) the receiver rebuilds exactly the events that were sent. -/
theorem compressed_update_roundtrip {H : Type} (hash : Events.Event H → H) (dflt : H)
    (evs : List (Events.Event H)) (hc : Events.Chained hash evs) :
    Events.uncompress hash (Events.compress dflt evs) = evs := by
  cases evs with
  | nil => rfl
  | cons ev rest => exact Events.rebuild_map hash rest ev hc

end Gabi.C18
