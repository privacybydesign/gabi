/-
  C04 — Selective disclosure hides what is not disclosed: parameters, ranges, shape, counting.
  The default parameter sets (1024/2048/4096) satisfy the inequalities the zero-knowledge and
  soundness arguments need, the toy set (`Ln = 256`) of the test-suite does not; honest responses
  stay inside the ranges the verifier checks; a disclosure proof carries the true values on
  exactly the keys `D` and responses on exactly the complementary keys; a response `r + c·m` with
  `r` uniform in `[0, 2^LmCommit)` is within statistical distance `2^(-Lstatzk)` of the response
  for any other attribute value. Ranges versus the group order: GabiProps.C01; completeness and
  the extractor's equation on the model: GabiProps.C04E2E. Helper lemmas: GabiProofs.Params.
  The model definitions (`GabiModel.Prover`, `GabiModel.Keys`, `GabiModel.Generated`) are compared
  with the Go code by the correspondence run of `./check C04`.
-/
import GabiModel.Prover
import GabiProofs.Params
namespace Gabi.C04
open Gabi

/-! ### parameter sets -/

/-- Every default parameter set satisfies all consistency facts collected in `ParamsSound`
    (`Lh = 256 ≤ Lm`, the definitions of the derived lengths, `Lh + Lm ≤ LmCommit`, response
    ranges below `2^(Ln-4)`, …). The conditions on the base parameters are evaluated on the table
    extracted from gabikeys/sysparams.go (`decide`); the derived lengths follow by `omega`. -/
theorem default_params_sound {P : SysParams} (h : IsDefaultParams P) : ParamsSound P :=
  Gabi.default_params_sound h

/-- For every default parameter set: `c·m` and `c·e'` are absorbed by the randomisers
    (`Lh + Lm ≤ LmCommit`, `Lh + LePrime ≤ LeCommit + 1`), both response ranges and the attribute
    length stay below `2^(Ln-4)`, `LePrime < Le`, the `v'`-response fits its commitment length, and
    `Lv` is the sum its definition gives. -/
theorem derived_params_consistent {P : SysParams} (h : IsDefaultParams P) :
    P.Lh + P.Lm ≤ P.LmCommit ∧ P.Lh + P.LePrime - 1 + 1 ≤ P.LeCommit + 1 ∧
    P.LmCommit + 1 < P.Ln - 4 ∧ P.LeCommit + 1 < P.Ln - 4 ∧ P.Lm < P.Ln - 4 ∧
    P.LePrime < P.Le ∧ P.LvPrime + P.Lh + 1 ≤ P.LvPrimeCommit + 1 ∧
    P.Lv = P.Ln + 2 * P.Lstatzk + P.Lh + P.Lm + 4 :=
  Gabi.derived_params_consistent h

/-- Every entry of `DefaultSystemParameters` is a default set in the sense of `IsDefaultParams`. -/
theorem defaultSysParams_isDefault {bits : Nat} {P : SysParams} (h : defaultSysParams bits = some P) :
    IsDefaultParams P := isDefaultParams_of_lookup h

/-- `DefaultSystemParameters` has entries for 1024, 2048 and 4096 bits. -/
theorem default_sets_exist :
    (∃ P, defaultSysParams 1024 = some P) ∧ (∃ P, defaultSysParams 2048 = some P) ∧
    (∃ P, defaultSysParams 4096 = some P) := Gabi.default_sets_exist

/-- The toy set of the test-suite (`Ln = 256 = Lm`) is *not* sound: the response ranges and the
    attribute length are not below `2^(Ln-4)`. Tests that use it exercise the code paths, not the
    security margins. -/
theorem toy_params_unsound :
    ¬ (toyParams.LmCommit + 1 < toyParams.Ln - 4) ∧ ¬ (toyParams.LeCommit + 1 < toyParams.Ln - 4) ∧
    ¬ (toyParams.Lm < toyParams.Ln - 4) ∧ ¬ ParamsSound toyParams ∧ ¬ IsDefaultParams toyParams :=
  have hs : ¬ ParamsSound toyParams := fun hs => absurd hs.mResp_lt (by decide)
  ⟨by decide, by decide, by decide, hs, fun hd => hs (Gabi.default_params_sound hd)⟩

/-! ### honest responses are in range -/

/-- The exponent used for a non-negative attribute is non-negative and below `2^max(lm,256)`:
    short values are used as they are, long ones are replaced by a SHA-256 value. -/
theorem attrExp_range {lm : Nat} {a : Int} (ha : 0 ≤ a) :
    0 ≤ attrExp lm a ∧ attrExp lm a < 2 ^ (max lm 256) := Gabi.attrExp_range ha

/-- For a sound parameter set (`Lm ≥ 256`) the exponent used for a non-negative attribute is in
    `[0, 2^Lm)`, whether the value is used as it is or hashed. -/
theorem attrExp_lt {P : SysParams} (hP : ParamsSound P) {a : Int} (ha : 0 ≤ a) :
    0 ≤ attrExp P.Lm a ∧ attrExp P.Lm a < 2 ^ P.Lm := attrExp_lt_Lm hP.Lm_ge ha

/-- The challenge is a SHA-256 value, i.e. below `2^Lh`. -/
theorem challenge_lt {P : SysParams} (hP : ParamsSound P) (context nonce : Int) (cs : List Int) (issig : Bool) :
    (createChallenge context nonce cs issig : Int) < 2 ^ P.Lh := by
  rw [hP.Lh_eq]
  exact_mod_cast (intHashSha256_lt _ : hashCommit (context :: cs ++ [nonce]) issig < 2 ^ 256)

/-- Attribute response `r + c·m` with `r < 2^LmCommit`, `c < 2^Lh`, `m < 2^Lm` lies in
    `[0, 2^(LmCommit+1))` – exactly the range `correctResponseSizes` accepts. -/
theorem responses_in_range {P : SysParams} (hP : ParamsSound P) {r c m : Int}
    (hr0 : 0 ≤ r) (hr : r < 2 ^ P.LmCommit) (hc0 : 0 ≤ c) (hc : c < 2 ^ P.Lh)
    (hm0 : 0 ≤ m) (hm : m < 2 ^ P.Lm) :
    0 ≤ r + c * m ∧ r + c * m < 2 ^ (P.LmCommit + 1) :=
  mResponse_in_range hP hr0 hr hc0 hc hm0 hm

/-- `e`-response `eCommit + c·(e − 2^(Le−1))` for `e` in the signature interval lies in
    `[0, 2^(LeCommit+1))`. -/
theorem e_response_in_range {P : SysParams} (hP : ParamsSound P) {eCommit c e : Int}
    (hr0 : 0 ≤ eCommit) (hr : eCommit < 2 ^ P.LeCommit) (hc0 : 0 ≤ c) (hc : c < 2 ^ P.Lh)
    (he0 : 2 ^ (P.Le - 1) ≤ e) (he : e ≤ 2 ^ (P.Le - 1) + 2 ^ (P.LePrime - 1)) :
    0 ≤ eCommit + c * (e - 2 ^ (P.Le - 1)) ∧
      eCommit + c * (e - 2 ^ (P.Le - 1)) < 2 ^ (P.LeCommit + 1) :=
  eResponse_in_range hP hr0 hr hc0 hc he0 he

/-- A proof built by `DisclosureProofBuilder.CreateProof` from in-range randomness,
    non-negative attributes, a challenge below `2^Lh` and a signature exponent in its interval
    passes the verifier's `correctResponseSizes`. -/
theorem honest_proof_sizes_ok {pk : PublicKey} (hP : ParamsSound pk.params) {attrs D U : List Int}
    {sigR : CLSignature} {rnd : DisclosureRandomness} {c : Int} {p : ProofD}
    (hrnd : rnd.InRange pk.params) (hc0 : 0 ≤ c) (hc : c < 2 ^ pk.params.Lh)
    (hattrs : ∀ a ∈ attrs, 0 ≤ a) (he : eInInterval pk.params sigR.e = true)
    (h : disclosureCreateProof pk attrs D U sigR rnd c = .ok p) :
    p.correctResponseSizes pk = .ok true := by
  obtain ⟨-, rfl⟩ := disclosureCreateProof_ok h
  have he' := (eInInterval_iff _ _).mp he
  have hE := eResponse_in_range hP hrnd.2.2.1 hrnd.2.2.2.1 hc0 hc he'.1 he'.2
  refine correctResponseSizes_of_ranges ?_ rfl hE.1 (by omega)
  intro kv hkv
  obtain ⟨v, _, rfl⟩ := List.mem_map.mp hkv
  have hr := attrRand_range hrnd v
  have hm := attrExp_lt_Lm hP.Lm_ge (getD_nonneg hattrs v.toNat)
  have hM := mResponse_in_range hP hr.1 hr.2 hc0 hc hm.1 hm.2
  exact ⟨_, rfl, hM.1, by omega⟩

/-- The output of `Credential.CreateDisclosureProof` on in-range randomness, non-negative
    attributes and a signature exponent in its interval passes `correctResponseSizes`: its
    challenge is a SHA-256 value, hence below `2^Lh`. -/
theorem honest_disclosure_sizes_ok {pk : PublicKey} (hP : ParamsSound pk.params) {sig : CLSignature}
    {attrs D : List Int} {rnd : DisclosureRandomness} {context nonce : Int} {issig : Bool} {p : ProofD}
    (hrnd : rnd.InRange pk.params) (hattrs : ∀ a ∈ attrs, 0 ≤ a)
    (he : eInInterval pk.params sig.e = true)
    (h : createDisclosureProof pk sig attrs D rnd context nonce issig = .ok p) :
    p.correctResponseSizes pk = .ok true := by
  obtain ⟨commit, _, _, hp⟩ := createDisclosureProof_ok h
  have he' : eInInterval pk.params (clRandomize pk sig rnd.r).e = true := he
  exact honest_proof_sizes_ok hP hrnd (Int.natCast_nonneg _) (challenge_lt hP _ _ _ _) hattrs he' hp

/-! ### shape of a disclosure proof -/

/-- `getUndisclosedAttributes` returns the ascending complement of `D` in `[0,n)`. -/
theorem undisclosed_is_complement {D : List Int} {n : Nat} {U : List Int}
    (h : getUndisclosedAttributes D n = .ok U) :
    (∀ i, i ∈ U ↔ (0 ≤ i ∧ i < (n : Int) ∧ i ∉ D)) ∧ U.Pairwise (· < ·) := by
  obtain ⟨rfl, _⟩ := getUndisclosed_ok h
  exact ⟨mem_complementList D n, complementList_sorted D n⟩

/-- `getUndisclosedAttributes` panics (index out of range, as the Go code does on `check[v]`)
    exactly when some disclosed index is outside `[0,n)`. -/
theorem undisclosed_error_iff (D : List Int) (n : Nat) :
    (∃ e, getUndisclosedAttributes D n = .error e) ↔ ∃ v ∈ D, v < 0 ∨ v ≥ (n : Int) := by
  rw [getUndisclosed_eq]
  split
  · next h => exact ⟨fun _ => h, fun _ => ⟨_, rfl⟩⟩
  · next h => exact ⟨fun ⟨_, he⟩ => (nomatch he), fun h' => absurd h' h⟩

/-- `getUndisclosedAttributes` returns exactly when every disclosed index is inside `[0,n)`. -/
theorem undisclosed_ok_iff (D : List Int) (n : Nat) :
    (∃ U, getUndisclosedAttributes D n = .ok U) ↔ ∀ v ∈ D, 0 ≤ v ∧ v < (n : Int) :=
  ⟨fun ⟨_, h⟩ => (getUndisclosed_ok h).2, fun h => ⟨_, getUndisclosed_of_bounds h⟩⟩

/-- `CreateProof`: the disclosed map has exactly the keys `D` (in order) carrying the *true*
    attribute values; the response map has exactly the keys `U`, each response being
    `randomiser + c·attrExp(value)`; nothing else about the attributes enters the proof. All
    indices are valid positions of `attrs`. -/
theorem proof_shape {pk : PublicKey} {attrs D U : List Int} {sigR : CLSignature}
    {rnd : DisclosureRandomness} {c : Int} {p : ProofD}
    (h : disclosureCreateProof pk attrs D U sigR rnd c = .ok p) :
    (∀ v ∈ D ++ U, 0 ≤ v ∧ v.toNat < attrs.length) ∧
    p.aDisclosed = D.map (fun v => (v, some (attrs.getD v.toNat 0))) ∧
    p.aDisclosed.map (·.1) = D ∧
    p.aResponses.map (·.1) = U ∧
    p.aResponses = U.map (fun v =>
      (v, some (rnd.attrRand v + c * attrExp pk.params.Lm (attrs.getD v.toNat 0)))) ∧
    p.c = some c ∧ p.a = some sigR.a ∧
    p.eResponse = some (rnd.eCommit + c * (sigR.e - 2 ^ (pk.params.Le - 1))) ∧
    p.vResponse = some (rnd.vCommit + c * sigR.v) ∧ p.nonrev = none ∧ p.rangeProofs = none := by
  obtain ⟨hidx, rfl⟩ := disclosureCreateProof_ok h
  refine ⟨fun v hv => (List.mem_append.mp hv).elim (hidx.2 v) (hidx.1 v), rfl, ?_, ?_,
    rfl, rfl, rfl, rfl, rfl, rfl, rfl⟩
  · simp [honestProofD, List.map_map, Function.comp_def]
  · simp [honestProofD, List.map_map, Function.comp_def]

/-- `CreateProof` fails (panics) only on an index outside `attrs`. -/
theorem proof_total {pk : PublicKey} {attrs D U : List Int} {sigR : CLSignature}
    {rnd : DisclosureRandomness} {c : Int}
    (h : ∀ v ∈ D ++ U, 0 ≤ v ∧ v.toNat < attrs.length) :
    ∃ p, disclosureCreateProof pk attrs D U sigR rnd c = .ok p := by
  rw [disclosureCreateProof_eq, if_pos]
  · exact ⟨_, rfl⟩
  · exact ⟨fun v hv => h v (List.mem_append_right _ hv), fun v hv => h v (List.mem_append_left _ hv)⟩

/-- `Credential.CreateDisclosureProof`: disclosed keys are exactly `D` with the true values, hidden
    keys are exactly the ascending complement of `D` in `[0, len attrs)`; the two key sets are
    disjoint and cover every attribute position. -/
theorem disclosure_proof_shape {pk : PublicKey} {sig : CLSignature} {attrs D : List Int}
    {rnd : DisclosureRandomness} {context nonce : Int} {issig : Bool} {p : ProofD}
    (h : createDisclosureProof pk sig attrs D rnd context nonce issig = .ok p) :
    p.aDisclosed = D.map (fun v => (v, some (attrs.getD v.toNat 0))) ∧
    (∀ i, i ∈ p.aResponses.map (·.1) ↔ (0 ≤ i ∧ i < (attrs.length : Int) ∧ i ∉ D)) ∧
    (p.aResponses.map (·.1)).Pairwise (· < ·) ∧
    (∀ i : Int, 0 ≤ i → i < (attrs.length : Int) → (i ∈ D ∨ i ∈ p.aResponses.map (·.1))) := by
  obtain ⟨commit, _, _, hp⟩ := createDisclosureProof_ok h
  obtain ⟨_, hd, _, hu, _⟩ := proof_shape hp
  refine ⟨hd, ?_, ?_, ?_⟩
  · rw [hu]; exact mem_complementList D attrs.length
  · rw [hu]; exact complementList_sorted D attrs.length
  · intro i h0 h1
    by_cases hi : i ∈ D
    · exact Or.inl hi
    · right; rw [hu]; exact (mem_complementList D attrs.length i).mpr ⟨h0, h1, hi⟩

/-- The timestamp-request contributions depend on `D` and the disclosed values only: two
    attribute lists of equal length that agree on the disclosed positions give the same list. -/
theorem timestamp_independent {attrs attrs' D : List Int} (hlen : attrs.length = attrs'.length)
    (hag : ∀ i : Nat, (i : Int) ∈ D → attrs.getD i 0 = attrs'.getD i 0) :
    timestampContributions attrs D = timestampContributions attrs' D := by
  unfold timestampContributions
  rw [hlen]
  refine List.map_congr_left fun i _ => ?_
  by_cases h : D.contains (Int.ofNat i)
  · rw [if_pos h, if_pos h]; exact hag i (List.contains_iff_mem.mp h)
  · rw [if_neg h, if_neg h]

/-- `TimestampRequestContributions` has one entry per attribute: the attribute at a disclosed
    position, `0` at a hidden one. -/
theorem timestamp_entries (attrs D : List Int) :
    (timestampContributions attrs D).length = attrs.length ∧
    ∀ i : Nat, i < attrs.length →
      (timestampContributions attrs D)[i]? = some (if (i : Int) ∈ D then attrs.getD i 0 else 0) :=
  ⟨by simp [timestampContributions], fun i hi => by simp [timestampContributions, hi]⟩

/-- A hidden attribute contributes `0` to the timestamp request, whatever its value. -/
theorem timestamp_hidden_zero (attrs D : List Int) (i : Nat) (hi : i < attrs.length)
    (hD : (i : Int) ∉ D) : (timestampContributions attrs D)[i]? = some 0 := by
  rw [(timestamp_entries attrs D).2 i hi, if_neg hD]

/-! ### statistical hiding, counting form -/

section Hiding
open Finset

/-- For offsets `x, x' ≤ B` the response sets `{r + x | r < N}` and `{r + x' | r < N}` differ in
    at most `B` points (in each direction): all but `B` of the `N` possible responses are
    equally likely under both secrets. -/
theorem response_hiding (N B x x' : Nat) (hx : x ≤ B) (hx' : x' ≤ B) :
    ((range N).image (· + x) \ (range N).image (· + x')).card ≤ B ∧
    ((range N).image (· + x') \ (range N).image (· + x)).card ≤ B ∧
    ((range N).image (· + x)).card = N ∧ ((range N).image (· + x')).card = N :=
  ⟨shifted_range_sdiff_card_le N B x x' hx hx', shifted_range_sdiff_card_le N B x' x hx' hx,
   image_add_range_card N x, image_add_range_card N x'⟩

/-- The statistical distance between the uniform distributions on two `N`-element sets is
    `(|A∖A'| + |A'∖A|) / 2N`. -/
theorem statDist_formula (A A' : Finset Nat) (N : Nat) :
    uniformStatDist A A' N = (((A \ A').card + (A' \ A).card : Nat) : ℚ) / (2 * N) :=
  uniformStatDist_eq A A' N

/-- For offsets `x, x' ≤ B` with `B·2^L ≤ N` the uniform distributions on the response sets
    `{r + x | r < N}` and `{r + x' | r < N}` are within statistical distance `2^(-L)`. -/
theorem response_hiding_dist (N B L x x' : Nat) (hx : x ≤ B) (hx' : x' ≤ B)
    (hN : B * 2 ^ L ≤ N) (hN0 : 0 < N) :
    uniformStatDist ((range N).image (· + x)) ((range N).image (· + x')) N ≤ 1 / 2 ^ L := by
  rw [uniformStatDist_eq, div_le_div_iff₀ (by positivity) (by positivity)]
  have h := Nat.mul_le_mul_right (2 ^ L)
    (Nat.add_le_add (shifted_range_sdiff_card_le N B x x' hx hx')
      (shifted_range_sdiff_card_le N B x' x hx' hx))
  rw [← two_mul, mul_assoc] at h
  exact_mod_cast h.trans (by omega : 2 * (B * 2 ^ L) ≤ 1 * (2 * N))

/-- The instance of `response_hiding_dist` for attribute responses: `N = 2^LmCommit` randomisers,
    offsets `c·m ≤ B = 2^(Lh+Lm)`, and `B · 2^Lstatzk = N`. -/
theorem params_hiding_ratio {P : SysParams} (hP : ParamsSound P) :
    2 ^ (P.Lh + P.Lm) * 2 ^ P.Lstatzk = 2 ^ P.LmCommit := by
  rw [← pow_add, hP.LmCommit_eq]; congr 1; omega

/-- For any challenge `c < 2^Lh` and any two attribute exponents `m, m' < 2^Lm` the responses
    `r + c·m` and `r + c·m'` (`r` uniform below `2^LmCommit`) are within statistical distance
    `2^(-Lstatzk)` (`Lstatzk = 80` for the 1024-bit set, `128` for the 2048- and 4096-bit sets). -/
theorem attribute_response_hiding {P : SysParams} (hP : ParamsSound P) {c m m' : Nat}
    (hc : c < 2 ^ P.Lh) (hm : m < 2 ^ P.Lm) (hm' : m' < 2 ^ P.Lm) :
    uniformStatDist ((range (2 ^ P.LmCommit)).image (· + c * m))
      ((range (2 ^ P.LmCommit)).image (· + c * m')) (2 ^ P.LmCommit) ≤ 1 / 2 ^ P.Lstatzk := by
  have hb : ∀ {k}, k < 2 ^ P.Lm → c * k ≤ 2 ^ (P.Lh + P.Lm) := by
    intro k hk; rw [pow_add]; exact Nat.mul_le_mul hc.le hk.le
  exact response_hiding_dist _ (2 ^ (P.Lh + P.Lm)) P.Lstatzk _ _ (hb hm) (hb hm')
    (params_hiding_ratio hP).le (by positivity)

end Hiding

/-! ### non-vacuity -/

/-- a default set satisfies the hypotheses `ParamsSound`. -/
example : ∃ P, IsDefaultParams P ∧ ParamsSound P := by
  obtain ⟨P, hP⟩ := Gabi.default_sets_exist.2.1
  exact ⟨P, isDefaultParams_of_lookup hP, Gabi.default_params_sound (isDefaultParams_of_lookup hP)⟩

/-- the range hypotheses of `responses_in_range` / `e_response_in_range` are satisfiable. -/
example : ∃ (P : SysParams) (r c m : Int), ParamsSound P ∧ 0 ≤ r ∧ r < 2 ^ P.LmCommit ∧ 0 ≤ c ∧
    c < 2 ^ P.Lh ∧ 0 ≤ m ∧ m < 2 ^ P.Lm := by
  obtain ⟨P, hP⟩ := Gabi.default_sets_exist.1
  exact ⟨P, 0, 0, 0, Gabi.default_params_sound (isDefaultParams_of_lookup hP), le_refl _, by positivity,
    le_refl _, by positivity, le_refl _, by positivity⟩

/-- `getUndisclosedAttributes` and `timestampContributions` on a small instance (5 attributes,
    positions 1 and 3 disclosed; a disclosed index 5 is out of range). -/
example : getUndisclosedAttributes [1, 3] 5 = .ok [0, 2, 4] := by decide
example : getUndisclosedAttributes [1, 5] 5 = .error (GoPanic.indexOutOfRange "check[v]") := by decide
example : timestampContributions [10, 11, 12, 13, 14] [1, 3] = [0, 11, 0, 13, 0] := by decide

/-- counting bound on a small instance: windows of length 8 shifted by 1 and 3. -/
example : ((Finset.range 8).image (· + 1) \ (Finset.range 8).image (· + 3)).card = 2 := by decide

end Gabi.C04

#print axioms Gabi.C04.default_params_sound
#print axioms Gabi.C04.derived_params_consistent
#print axioms Gabi.C04.toy_params_unsound
#print axioms Gabi.C04.attrExp_range
#print axioms Gabi.C04.challenge_lt
#print axioms Gabi.C04.responses_in_range
#print axioms Gabi.C04.e_response_in_range
#print axioms Gabi.C04.honest_proof_sizes_ok
#print axioms Gabi.C04.honest_disclosure_sizes_ok
#print axioms Gabi.C04.undisclosed_is_complement
#print axioms Gabi.C04.undisclosed_error_iff
#print axioms Gabi.C04.undisclosed_ok_iff
#print axioms Gabi.C04.proof_shape
#print axioms Gabi.C04.proof_total
#print axioms Gabi.C04.disclosure_proof_shape
#print axioms Gabi.C04.timestamp_independent
#print axioms Gabi.C04.timestamp_entries
#print axioms Gabi.C04.timestamp_hidden_zero
#print axioms Gabi.C04.response_hiding
#print axioms Gabi.C04.statDist_formula
#print axioms Gabi.C04.response_hiding_dist
#print axioms Gabi.C04.attribute_response_hiding
