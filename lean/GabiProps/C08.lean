/-
  C08 — Malformed proof lists are rejected with a verdict, never a panic.
  Property theorems about the executable model GabiModel.Proofs (compared output-for-output with
  proofs.go / prooflist.go / revocation/proof.go / rangeproof/proof.go by `./check C08`).
  In the model a Go panic is the `.error` outcome of `GoM = Except GoPanic`, an `error` return is
  `failure` of `GoE`, and the decoded proof types carry `Option` in every nil-able position, so
  "every syntactically decodable proof" is "every value of `ProofD` / `ProofU`".
  Helper lemmas: GabiProofs.VerifyLogic, GabiProofs.ListLogic.

  FINDING (see `verifyD_panics_without_units`): `reconstructZ` multiplies by
  `new(big.Int).Exp(R_i, a_i, N)` without a nil check; for a *negative* disclosed attribute and a
  base `R_i` that is not a unit modulo `N` Go's `Exp` returns nil and the multiplication panics.
  `PublicKey.WellFormed` (bases in `(0,n)`) does not exclude this; a key whose bases are units
  (every honestly generated key: `R_i ∈ QR_n`) does. The totality theorems for disclosure proofs
  therefore assume `Int.gcd R_i N = 1` for all bases (or, alternatively, non-negative disclosed
  attributes).
-/
import GabiModel.Proofs
import GabiProofs.ListLogic
namespace Gabi.C08
open Gabi

/-! ### issuance proofs (`ProofU`) -/

/-- `ProofU.Verify` returns a verdict for every decoded value and every key (no hypothesis on
    the key at all), whatever is missing (`U`, `c`, a response) and whatever keys and nil values
    `m_user_responses` holds. -/
theorem verifyU_total (pk : PublicKey) (p : ProofU) (ctx nonce : Int) :
    ∃ b, p.verify pk ctx nonce = .ok b := by
  unfold ProofU.verify
  apply GoM.isOk_bind (ProofU.challengeContribution_isOk pk p)
  intro r _
  split
  · exact GoM.isOk_pure _
  · exact ProofU.verifyWithChallenge_isOk pk p _

/-- `ProofU.Verify` returns `false` for every `ProofU` that is not well-formed for the key
    (missing `U`, `c` or response; `m_user_responses` key outside `[1, len R)` or nil value; a key
    without bases). -/
theorem malformedU_rejected (pk : PublicKey) (p : ProofU) (ctx nonce : Int)
    (h : ¬ p.wellFormed pk) : p.verify pk ctx nonce = .ok false := by
  rw [ProofU.verify, ProofU.challengeContribution_of_not_wellFormed (Bool.eq_false_iff.2 h)]
  rfl

/-! ### disclosure proofs (`ProofD`) -/

/-- A `ProofD` that is not well-formed for the key (missing/null field, index outside the key's
    bases or negative, index both disclosed and hidden, secret key not hidden, range proof on a
    non-hidden index or nil range proof) is rejected — for every key, oracle and choice. -/
theorem malformedD_rejected (o : SigOracle) (kid : String) (pk : PublicKey) (p : ProofD)
    (ctx nonce : Int) (issig : Bool) (i1 i2 : Int) (h : ¬ p.wellFormed pk) :
    p.verifyWith o kid pk ctx nonce issig i1 i2 = .ok false := by
  rw [ProofD.verifyWith, ProofD.challengeContribution_of_not_wellFormed i1 (Bool.eq_false_iff.2 h)]
  rfl

/-- Most general form of totality for `ProofD.Verify`: the only dereference that well-formedness
    does not guard is the result of `Exp(R_i, a_i, N)` in `reconstructZ`; if those exponentiations
    have results (`ProofD.ExpSafe`), verification returns a verdict. Covers partial, misplaced
    and inconsistent non-revocation and range sub-proofs, and every choice `i1`, `i2` of
    `revocationAttrIndex` (also choices that are not candidates). -/
theorem verifyD_total_of_expSafe (o : SigOracle) (kid : String) (pk : PublicKey) (p : ProofD)
    (ctx nonce : Int) (issig : Bool) (i1 i2 : Int)
    (hs : p.wellFormed pk = true → p.ExpSafe pk) :
    ∃ b, p.verifyWith o kid pk ctx nonce issig i1 i2 = .ok b := by
  unfold ProofD.verifyWith
  apply GoM.isOk_bind (ProofD.challengeContribution_isOk o kid pk p i1 hs)
  intro r _
  split
  · exact GoM.isOk_pure _
  · apply GoM.isOk_bind (ProofD.verifyWithChallenge_isOk ..)
    intro _ _; exact GoM.isOk_pure _

/-- Totality for keys whose bases are units modulo `n` (true for every honestly generated key;
    this is the "well-formed public key" of the property). No other hypothesis: the proof is an
    arbitrary decoded value. -/
theorem verifyD_total (o : SigOracle) (kid : String) (pk : PublicKey) (p : ProofD)
    (ctx nonce : Int) (issig : Bool) (i1 i2 : Int)
    (hpk : ∀ b ∈ pk.r, Int.gcd b pk.n = 1) :
    ∃ b, p.verifyWith o kid pk ctx nonce issig i1 i2 = .ok b :=
  verifyD_total_of_expSafe o kid pk p ctx nonce issig i1 i2 (fun _ => ProofD.expSafe_of_coprime pk p hpk)

/-- Totality for an arbitrary key when no disclosed attribute is negative. -/
theorem verifyD_total_of_nonneg (o : SigOracle) (kid : String) (pk : PublicKey) (p : ProofD)
    (ctx nonce : Int) (issig : Bool) (i1 i2 : Int)
    (hnn : ∀ kv ∈ p.aDisclosed, ∀ a, kv.2 = some a → 0 ≤ a) :
    ∃ b, p.verifyWith o kid pk ctx nonce issig i1 i2 = .ok b :=
  verifyD_total_of_expSafe o kid pk p ctx nonce issig i1 i2 (fun _ => ProofD.expSafe_of_nonneg pk p hnn)

/-- The hypothesis of `verifyD_total` cannot be weakened to `PublicKey.WellFormed`: for the key
    `n = 15, R = [4, 3]` (well-formed in that sense, but `gcd(3,15) ≠ 1`) and the well-formed
    proof disclosing attribute 1 as `-1`, verification panics (nil result of `Exp`). -/
theorem verifyD_panics_without_units :
    cexPk.WellFormed ∧ cexD.wellFormed cexPk = true ∧
    ∀ (o : SigOracle) (kid : String) (ctx nonce : Int) (issig : Bool) (i1 i2 : Int),
      cexD.verifyWith o kid cexPk ctx nonce issig i1 i2 = .error (.nilDeref "Exp") := by
  have hinv : goModInverse 3 15 = none := (goModInverse_none_iff 3 15 (by decide)).mpr (by decide)
  have hexp : goExp 3 (attrExp cexPk.params.Lm (-1)) cexPk.n = none := by
    have : Nat.log2 1 = 0 := by decide
    simp [show cexPk.params.Lm = 256 from rfl, show cexPk.n = 15 from rfl, attrExp, bitLen, this,
      goExp, hinv]
  have hz : cexD.reconstructZ cexPk = .error (.nilDeref "Exp") :=
    ProofD.reconstructZ_panics (i := 1) (b := 3) rfl rfl rfl rfl rfl rfl hexp
  refine ⟨⟨by decide, by decide, by decide, ?_⟩, by decide, fun o kid ctx nonce issig i1 i2 => ?_⟩
  · intro b hb
    simp [cexPk] at hb
    rcases hb with rfl | rfl <;> decide
  · unfold ProofD.verifyWith ProofD.challengeContribution
    simp only [show cexD.wellFormed cexPk = true by decide, Bool.not_true, Bool.false_eq_true,
      if_false, OptionT.run_bind]
    simp only [GoE.ofGoMOption, OptionT.run_mk, hz]
    rfl

/-! ### proof lists -/

/-- an empty proof list is rejected. -/
theorem verifyList_empty_rejected (o : SigOracle) (keys : List (String × PublicKey))
    (ctx nonce : Int) (issig : Bool) (kss : List String) (choices : List (Int × Int)) :
    proofListVerifyWith o keys [] ctx nonce issig kss choices = .ok false :=
  proofListVerifyWith_guard o keys [] ctx nonce issig kss choices (Or.inl rfl)

/-- a list with a different number of proofs than keys, or than (a non-empty list of) keyshare
    server names, is rejected. -/
theorem verifyList_length_mismatch_rejected (o : SigOracle) (keys : List (String × PublicKey))
    (pl : List Proof) (ctx nonce : Int) (issig : Bool) (kss : List String) (choices : List (Int × Int))
    (h : pl.length ≠ keys.length ∨ (kss ≠ [] ∧ pl.length ≠ kss.length)) :
    proofListVerifyWith o keys pl ctx nonce issig kss choices = .ok false :=
  proofListVerifyWith_guard o keys pl ctx nonce issig kss choices (Or.inr h)

/-- `ProofList.Verify` returns a verdict, never a panic, as soon as the exponentiations
    `Exp(R_i, a_i, N)` of the well-formed disclosure proofs in the list have results
    (`ProofD.ExpSafe`). The proof is `proofListVerifyWith_isOk` of GabiProofs.ListLogic. -/
theorem verifyList_total_of_expSafe (o : SigOracle) (keys : List (String × PublicKey)) (pl : List Proof)
    (ctx nonce : Int) (issig : Bool) (kss : List String) (choices : List (Int × Int))
    (hs : ∀ x ∈ pl.zip keys, ∀ p, x.1 = .d p → p.wellFormed x.2.2 = true → p.ExpSafe x.2.2) :
    ∃ b, proofListVerifyWith o keys pl ctx nonce issig kss choices = .ok b :=
  proofListVerifyWith_isOk o keys pl ctx nonce issig kss choices hs

/-- `ProofList.Verify` returns a verdict for all arguments — any mix of proofs, any number of
    keys, keyshare names and choices (also fewer choices than proofs) — when the bases of the
    keys are units. The second loop dereferences stored secret-key responses; the proof shows
    they are present for every proof whose own check succeeded. -/
theorem verifyList_total (o : SigOracle) (keys : List (String × PublicKey)) (pl : List Proof)
    (ctx nonce : Int) (issig : Bool) (kss : List String) (choices : List (Int × Int))
    (hpk : ∀ kp ∈ keys, ∀ b ∈ kp.2.r, Int.gcd b kp.2.n = 1) :
    ∃ b, proofListVerifyWith o keys pl ctx nonce issig kss choices = .ok b :=
  verifyList_total_of_expSafe o keys pl ctx nonce issig kss choices
    (fun x hx p _ _ => ProofD.expSafe_of_coprime x.2.2 p (hpk x.2 (List.of_mem_zip hx).2))

/-- A list that contains a proof which is malformed for its key is never accepted (for any
    key material). `j` is the position; `choices` must cover it (see `verifyList_short_choices`). -/
theorem verifyList_malformed_not_accepted (o : SigOracle) (keys : List (String × PublicKey))
    (pl : List Proof) (ctx nonce : Int) (issig : Bool) (kss : List String) (choices : List (Int × Int))
    (j : Nat) (h1 : j < pl.length) (h2 : j < keys.length) (h3 : j < choices.length)
    (hmal : (pl[j]).wellFormed (keys[j]).2 = false) :
    proofListVerifyWith o keys pl ctx nonce issig kss choices ≠ .ok true := by
  intro h
  have hmem : ((pl[j], keys[j]), choices[j]) ∈ plItems pl keys choices :=
    List.mem_iff_getElem.mpr ⟨j, by simp only [plItems, List.length_zip]; omega,
      by simp only [plItems, List.getElem_zip]⟩
  have hw := ((accepted_items h).2.1 _ hmem).1.shape.1
  rw [hmal] at hw
  cases hw

/-- A list that contains a proof which is malformed for its key gets the verdict `false` (no
    panic) when the bases of the keys are units. -/
theorem verifyList_malformed_rejected (o : SigOracle) (keys : List (String × PublicKey))
    (pl : List Proof) (ctx nonce : Int) (issig : Bool) (kss : List String) (choices : List (Int × Int))
    (hpk : ∀ kp ∈ keys, ∀ b ∈ kp.2.r, Int.gcd b kp.2.n = 1)
    (j : Nat) (h1 : j < pl.length) (h2 : j < keys.length) (h3 : j < choices.length)
    (hmal : (pl[j]).wellFormed (keys[j]).2 = false) :
    proofListVerifyWith o keys pl ctx nonce issig kss choices = .ok false := by
  obtain ⟨b, hb⟩ := verifyList_total o keys pl ctx nonce issig kss choices hpk
  cases b with
  | false => exact hb
  | true => exact absurd hb (verifyList_malformed_not_accepted o keys pl ctx nonce issig kss choices j h1 h2 h3 hmal)

/-- Modelling caveat, not a Go behaviour: the model parameter `choices` (the picks of the two
    `revocationAttrIndex` calls per proof) is zipped with the proofs, so proofs beyond
    `choices.length` are skipped; with no choices every list passing the length guard is
    "accepted". Statements about acceptance of lists must assume `choices.length = pl.length`
    (`choiceCombos` only produces such lists). -/
theorem verifyList_short_choices (o : SigOracle) (keys : List (String × PublicKey)) (pl : List Proof)
    (ctx nonce : Int) (issig : Bool) (kss : List String)
    (h1 : pl ≠ []) (h2 : pl.length = keys.length) (h3 : kss = [] ∨ pl.length = kss.length) :
    proofListVerifyWith o keys pl ctx nonce issig kss [] = .ok true :=
  proofListVerifyWith_nil_choices o keys pl ctx nonce issig kss ⟨h1, h2, h3.imp_right Eq.symm⟩

/-! ### non-vacuity of the hypotheses -/

/-- a key whose bases are units (toy size). -/
example : ∀ b ∈ ([4, 9] : List Int), Int.gcd b 253 = 1 := by decide

/-- a malformed proof exists for every key: everything missing. -/
example (pk : PublicKey) :
    ¬ (ProofD.wellFormed pk ⟨none, none, none, none, [], [], none, none⟩) := by
  simp [ProofD.wellFormed]

example (pk : PublicKey) : ¬ (ProofU.wellFormed pk ⟨none, none, none, none, []⟩) := by
  simp [ProofU.wellFormed]

end Gabi.C08

#print axioms Gabi.C08.verifyU_total
#print axioms Gabi.C08.malformedU_rejected
#print axioms Gabi.C08.malformedD_rejected
#print axioms Gabi.C08.verifyD_total_of_expSafe
#print axioms Gabi.C08.verifyD_total
#print axioms Gabi.C08.verifyD_total_of_nonneg
#print axioms Gabi.C08.verifyD_panics_without_units
#print axioms Gabi.C08.verifyList_empty_rejected
#print axioms Gabi.C08.verifyList_length_mismatch_rejected
#print axioms Gabi.C08.verifyList_total
#print axioms Gabi.C08.verifyList_total_of_expSafe
#print axioms Gabi.C08.verifyList_malformed_not_accepted
#print axioms Gabi.C08.verifyList_malformed_rejected
#print axioms Gabi.C08.verifyList_short_choices
