/-
  C19 — Number-theoretic helpers compute what they claim.
  Property theorems about the executable model GabiModel.MathUtil / Num (the model is compared
  output-for-output with internal/common/mathutil.go, fastmod.go, randomprime.go, zkproof/group.go
  by the correspondence ops of `./check C19`). Helper lemmas: GabiProofs.{NumLemmas,Legendre,
  MathUtilLemmas,Sqrt}.
-/
import GabiProofs.Sqrt
namespace Gabi.C19
open Gabi

/-! ### modular inverse: absence reported, not guessed -/

/-- `common.ModInverse`: a returned value is the inverse in `[1,n)`. -/
theorem modInverse_spec {a n r : Int} (hn : 1 < n) (h : commonModInverse a n = some r) :
    1 ≤ r ∧ r < n ∧ (a * r) % n = 1 := commonModInverse_some hn h

/-- `common.ModInverse` returns no value exactly when `a` is not a unit modulo `n`. -/
theorem modInverse_none_iff (a n : Int) (hn : 0 < n) :
    commonModInverse a n = none ↔ Int.gcd a n ≠ 1 := commonModInverse_none_iff a n hn

/-! ### modular powers with signed exponents -/

/-- `common.ModPow` with a non-negative exponent is the plain modular power. -/
theorem modPow_nonneg (x y m : Int) (hm : 0 < m) (hy : 0 ≤ y) :
    modPow x y m = some (x ^ y.toNat % m) := goExp_nonneg x y m hm hy

/-- `common.ModPow` with a negative exponent raises the modular inverse of `x` to the power `-y`,
    and fails when there is none. -/
theorem modPow_neg (x y m : Int) (hm : 0 < m) (hy : y < 0) :
    modPow x y m = (goModInverse x m).map (fun inv => inv ^ (-y).toNat % m) := goExp_neg x y m hm hy

/-- `common.ModPow` with a negative exponent reports an error exactly when `x` is not a unit
    modulo `m`. -/
theorem modPow_err_iff (x y m : Int) (hm : 0 < m) (hy : y < 0) :
    modPow x y m = none ↔ Int.gcd x m ≠ 1 := by
  rw [modPow_neg x y m hm hy, Option.map_eq_none_iff, goModInverse_none_iff x m hm.ne']

/-! ### Legendre / Jacobi symbol -/

/-- `common.LegendreSymbol(a, p)`, a binary reciprocity loop, computes the Jacobi symbol for every odd
    positive modulus `p`. -/
theorem legendre_eq_jacobiSym (a : Int) (p : Nat) (hp : p % 2 = 1) :
    legendreSymbol a (p : Int) = jacobiSym a p := legendreSymbol_eq_jacobiSym a p hp

/-- for an odd prime `p`, `common.LegendreSymbol(a, p)` is the Legendre symbol:
    1 / −1 / 0 ⇔ `a` is a non-zero square / a non-square / a multiple of `p`. -/
theorem legendre_prime (a : Int) (p : Nat) [Fact p.Prime] (hp : p ≠ 2) :
    legendreSymbol a (p : Int) = legendreSym p a := legendreSymbol_eq_legendreSym a p hp

/-- for an odd prime `p`, `common.LegendreSymbol(a, p) = -1` exactly for the non-squares modulo `p`. -/
theorem legendre_neg_one_iff (a : Int) (p : Nat) [Fact p.Prime] (hp : p ≠ 2) :
    legendreSymbol a (p : Int) = -1 ↔ ¬ IsSquare (a : ZMod p) := by
  rw [legendreSymbol_eq_legendreSym a p hp]
  exact legendreSym.eq_neg_one_iff p

/-! ### square roots modulo a prime and modulo a product of coprime factors -/

/-- `common.PrimeSqrt(a, p)` for an odd prime `p` and `0 ≤ a < p`: a returned root is below `p` and
    squares to `a` modulo `p` (Tonelli–Shanks loop invariant `R² = a·t`, and the `p ≡ 3 (mod 4)`
    shortcut). -/
theorem primeSqrt_root {a p r : Nat} (hp : p.Prime) (h2 : p ≠ 2) (ha : a < p)
    (h : primeSqrt a p = .root r) : r * r % p = a ∧ r < p := by
  rcases primeSqrt_correct hp h2 ha with ⟨r', hr', hsq⟩ | ⟨hn, -⟩
  · rw [h] at hr'
    cases hr'
    exact hsq
  · rw [h] at hn
    cases hn

/-- `common.PrimeSqrt(a, p)` for an odd prime `p` reports "no root" exactly when `a` has no square root
    modulo `p` (Euler's criterion). -/
theorem primeSqrt_existence {a p : Nat} (hp : p.Prime) (h2 : p ≠ 2) (ha : a < p) :
    primeSqrt a p = .noRoot ↔ ¬ ∃ r : Nat, r * r % p = a := by
  rcases primeSqrt_correct hp h2 ha with ⟨r, hr, hsq, -⟩ | ⟨hn, hno⟩
  · rw [hr]
    exact iff_of_false nofun (not_not_intro ⟨r, hsq⟩)
  · exact iff_of_true hn hno

/-- `common.PrimeSqrt` terminates on its domain (odd primes), i.e. the model never runs out of fuel:
    a non-residue is found below `p`, and the loop's exponent `M` strictly decreases. -/
theorem primeSqrt_terminates {a p : Nat} [Fact p.Prime] (h2 : p ≠ 2) (ha : a < p) :
    primeSqrt a p ≠ .diverges := by
  rcases primeSqrt_correct Fact.out h2 ha with ⟨r, hr, -⟩ | ⟨hn, -⟩
  · rw [hr]
    nofun
  · rw [hn]
    nofun

/-- `PrimeSqrt(a, 2)` returns `a mod 2` for every `a`; in particular it returns. The prime 2 lies
    outside the odd-prime domain of `primeSqrt_root`, `primeSqrt_existence` and `primeSqrt_terminates`:
    there is no non-residue modulo 2, so the search for one would not end, and the Go code answers before
    it (commit a4f5330 of /repo). -/
theorem primeSqrt_two (a : Nat) : primeSqrt a 2 = .root (a % 2) := by
  unfold primeSqrt
  by_cases h0 : a = 0
  · subst h0; rfl
  · rw [if_neg h0, if_pos rfl]

/-- the arithmetic behind `primeSqrt_two_sq`: modulo 2 every residue is its own square. -/
theorem primeSqrt_two_root_sq (a : Nat) : (a % 2) * (a % 2) % 2 = a % 2 := by
  rcases Nat.mod_two_eq_zero_or_one a with h | h <;> rw [h]

/-- `PrimeSqrt(a, 2)` returns a square root of `a` modulo 2, below 2. -/
theorem primeSqrt_two_sq (a : Nat) :
    ∃ r, primeSqrt a 2 = .root r ∧ r * r % 2 = a % 2 ∧ r < 2 :=
  ⟨a % 2, primeSqrt_two a, primeSqrt_two_root_sq a, Nat.mod_lt _ Nat.two_pos⟩

/-- `common.ModSqrt(a, [p, q])` for odd primes `p`, `q` and any integer `a`: a returned root squares to
    `a` modulo `p·q`. (`hpq` is not used: on equal factors `crt` fails and the model reports
    `.diverges`.) -/
theorem modSqrt_root {a : Int} {p q r : Nat} (hp : p.Prime) (hq : q.Prime) (hp2 : p ≠ 2) (hq2 : q ≠ 2)
    (hpq : p ≠ q) (h : modSqrt a [(p : Int), (q : Int)] = .root r) :
    ((r : Int) * r - a) % ((p : Int) * q) = 0 :=
  List.prod_pair (a := (p : Int)) (b := q) ▸ modSqrt_root_sq_general (goodFac_pair hp hq hp2 hq2) h

/-- `common.ModSqrt(a, [4, p, q])`: a returned root squares to `a` modulo `4·p·q` (`hpq` is not used). -/
theorem modSqrt_root_four {a : Int} {p q r : Nat} (hp : p.Prime) (hq : q.Prime) (hp2 : p ≠ 2) (hq2 : q ≠ 2)
    (hpq : p ≠ q) (h : modSqrt a [4, (p : Int), (q : Int)] = .root r) :
    ((r : Int) * r - a) % (4 * (p : Int) * q) = 0 :=
  prod_triple 4 (p : Int) q ▸ modSqrt_root_sq_general (goodFac_four_pair hp hq hp2 hq2) h

/-- `common.ModSqrt(a, [p, q])` for distinct odd primes answers `noRoot` exactly when `a` has no square
    root modulo `p·q`. -/
theorem modSqrt_existence {a : Int} {p q : Nat} [Fact p.Prime] [Fact q.Prime] (hp2 : p ≠ 2) (hq2 : q ≠ 2)
    (hpq : p ≠ q) :
    modSqrt a [(p : Int), (q : Int)] = .noRoot ↔ ¬ ∃ r : Int, (r * r - a) % ((p : Int) * q) = 0 := by
  have hp : p.Prime := Fact.out
  have hq : q.Prime := Fact.out
  refine ⟨modSqrt_noRoot hp hq hp2 hq2, fun hno => ?_⟩
  cases h : modSqrt a [(p : Int), (q : Int)] with
  | noRoot => rfl
  | diverges => exact absurd h (modSqrt_ne_diverges hp hq hp2 hq2 hpq)
  | root r => exact absurd ⟨(r : Int), modSqrt_root hp hq hp2 hq2 hpq h⟩ hno

/-! ### CRT recombination -/

/-- `common.Crt`: a returned value lies in `[0, pa·pb)` and is congruent to `a` modulo `pa` and to `b`
    modulo `pb`. -/
theorem crt_spec {a pa b pb x : Int} (hpa : 0 < pa) (hpb : 0 < pb) (h : crt a pa b pb = some x) :
    0 ≤ x ∧ x < pa * pb ∧ x % pa = a % pa ∧ x % pb = b % pb := crt_some hpa hpb h

/-- `common.Crt` panics ("Incorrect input to CRT") exactly on non-coprime moduli. -/
theorem crt_panics_iff (a pa b pb : Int) (hpa : 0 < pa) (hpb : 0 < pb) :
    crt a pa b pb = none ↔ Int.gcd pa pb ≠ 1 := crt_none_iff a pa b pb hpa hpb

/-! ### four squares: the wrapper is correct given the inner routine's postcondition -/

/-- if the randomised inner routine returns a correct decomposition on the single argument the
    wrapper derives (always ≡ 2 mod 4), `SumFourSquares n` returns non-negative `x,y,z,w` with
    `x²+y²+z²+w² = n` – for every `n`, all three residue cases. The inner routine's own
    postcondition is not proved here: the correspondence op `sum4` hands the model wrapper the
    result the Go routine returned on each call and compares the outputs, and
    `GabiProps/C19Descent.lean` reduces the postcondition to the oracles `ProbablyPrime`, `ModSqrt`. -/
theorem sumFourSquares_wrapper (special : Nat → Quad) (n : Nat)
    (hs : n ≠ 0 → QuadOk (sumFourSquaresInnerArg n) (special (sumFourSquaresInnerArg n))) :
    QuadOk n (sumFourSquaresWith special n) := sumFourSquaresWith_spec_arg special n hs

/-- for `n ≠ 0`, `SumFourSquares(n)` calls `sumFourSquaresSpecial` on an argument `≡ 2 (mod 4)`. -/
theorem sumFourSquares_inner_arg (n : Nat) (hn : n ≠ 0) : sumFourSquaresInnerArg n % 4 = 2 :=
  sumFourSquaresInnerArg_mod n hn

/-! ### reduction modulo 2^b − c -/

/-- `FastMod.Mod` returns `x mod p` (Euclidean) for negative, small and huge arguments. -/
theorem fastMod_correct (p : Nat) (hp : 0 < p) (x : Int) :
    (FastMod.set p).mod x = x % (p : Int) ∧ 0 ≤ (FastMod.set p).mod x ∧ (FastMod.set p).mod x < p :=
  have hp' : (0 : Int) < p := Int.natCast_pos.mpr hp
  ⟨fastMod_spec p hp x, by rw [fastMod_spec p hp x]; exact Int.emod_nonneg _ hp'.ne',
    by rw [fastMod_spec p hp x]; exact Int.emod_lt_of_pos _ hp'⟩

/-! ### random primes, group exponent folding -/

/-- a value that satisfies the membership predicate for `RandomPrimeInRange(start, length)` is odd and
    lies in `(2^start, 2^start + 2^length)`. -/
theorem randomPrime_in_range {start length p : Nat} (h : randomPrimeInRangeOk start length p = true) :
    2 ^ start < p ∧ p < 2 ^ start + 2 ^ length ∧ p % 2 = 1 := by
  unfold randomPrimeInRangeOk at h
  simp only [Bool.and_eq_true, decide_eq_true_eq] at h
  exact ⟨h.1.1.1, h.1.1.2, h.1.2⟩

/-- `zkproof.Group.Exp`: the exponent after folding is below the order, congruent to `e`, and
    non-negative for `e ≥ -order` (`ho` is not used). -/
theorem group_exp_fold {e order r : Int} (ho : 0 < order) (h : groupFoldExp e order = some r) :
    r < order ∧ (r - e) % order = 0 ∧ (e ≥ -order → 0 ≤ r) := by
  rw [groupFoldExp_def] at h
  split_ifs at h
  · obtain rfl := Option.some.inj h
    exact ⟨by omega, by rw [add_sub_cancel_left, Int.emod_self], fun _ => by omega⟩
  · obtain rfl := Option.some.inj h
    exact ⟨by omega, by rw [sub_self, Int.zero_emod], fun _ => by omega⟩

/-- non-vacuity of `modInverse_spec`: `common.ModInverse(3, 7)` returns a value. -/
example : ∃ r, commonModInverse 3 7 = some r := by
  cases h : commonModInverse 3 7 with
  | some r => exact ⟨r, rfl⟩
  | none => exact absurd ((modInverse_none_iff 3 7 (by omega)).mp h) (by decide)

end Gabi.C19

#print axioms Gabi.C19.primeSqrt_two
#print axioms Gabi.C19.primeSqrt_two_sq
#print axioms Gabi.C19.primeSqrt_two_root_sq
