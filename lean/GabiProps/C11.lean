/-
  C11 — Non-revocation proofs are sound and tied to the credential.
  Property theorems about the executable model of the non-revocation verifier
  (GabiModel.Proofs: `NonRevProof.setExpected / challengeContributions / verifyWithChallenge`,
  `ProofD.challengeContribution / verifyWithChallenge / revChoices`; GabiModel.ReprProof:
  `QrStructure.commitmentFromProof`) and about the abstract algebra of the three proven
  relations (commutative group, integer exponents). ECDSA + CBOR are external: the signature
  check of the embedded accumulator is the oracle parameter `o : SigOracle`.
  Helper lemmas: GabiProofs.MiscLemmas.

  Known finding: `ambiguity_witness` (`revocationAttrIndex` may have several candidates; Go picks
  one in map-iteration order). Index 0 (the secret key) is never a candidate (/repo commit a2ceea0;
  `secret_key_never_revocation_index`, `accepted_choice_never_secret_key`).
-/
import GabiModel.Proofs
import GabiModel.ReprProof
import GabiProofs.MiscLemmas
import GabiProofs.GroupAlgebra
import GabiProofs.Bridge
import Mathlib.Tactic.LinearCombination
namespace Gabi.C11
open Gabi Gabi.Misc

/-! ### the algebra: completeness -/

section Algebra
variable {G : Type*} [CommGroup G] {ι : Type*}
open Gabi.Alg

/-- Generic completeness of a representation proof (`QrRepresentationProofStructure`): if
    `lhs = ∏ baseⱼ^(powerⱼ·secretⱼ)` then for honest responses `randⱼ + c·secretⱼ` the
    verifier's reconstruction `(lhs⁻¹)^c · ∏ baseⱼ^(powerⱼ·respⱼ)` is the commitment
    `∏ baseⱼ^(powerⱼ·randⱼ)`. -/
theorem representation_complete (B : ι → G) (p sec rnd : ι → ℤ) (l : List ι) (c : ℤ) (lhs : G)
    (hl : lhs = rep B (fun j => p j * sec j) l) :
    (lhs⁻¹) ^ c * rep B (fun j => p j * (rnd j + c * sec j)) l = rep B (fun j => p j * rnd j) l :=
  repr_complete B p sec rnd l c lhs hl

/-- **Completeness of the non-revocation proof.** Witness `u^e = ν`; the prover picks `r₂ r₃`,
    publishes `C_r = g^r₂ h^r₃`, `C_u = u h^r₂` and proves knowledge of
    `α = e, β = e r₂, δ = e r₃, ε = r₂, ζ = r₃`. The three relations of the table `revStructures`
    (extracted from revocation/proof.go) hold, and for each of them honest responses `rand + c·secret` make the reconstructed
    commitment equal the prover's commitment. -/
theorem nonrev_complete {g h u ν : G} {e r2 r3 : ℤ} (hw : u ^ e = ν)
    (c ρα ρβ ρδ ρε ρζ : ℤ) :
    let Cr := g ^ r2 * h ^ r3
    let Cu := u * h ^ r2
    -- the relations
    (Cr = g ^ r2 * h ^ r3 ∧ ν = Cu ^ e * h ^ (-(e * r2)) ∧
      1 = Cr ^ e * g ^ (-(e * r2)) * h ^ (-(e * r3))) ∧
    -- relation "cr": lhs C_r, rhs G^ε H^ζ
    ((Cr⁻¹) ^ c * (g ^ (1 * (ρε + c * r2)) * h ^ (1 * (ρζ + c * r3))) =
        g ^ (1 * ρε) * h ^ (1 * ρζ)) ∧
    -- relation "nu": lhs ν, rhs C_u^α H^(-β)
    ((ν⁻¹) ^ c * (Cu ^ (1 * (ρα + c * e)) * h ^ ((-1) * (ρβ + c * (e * r2)))) =
        Cu ^ (1 * ρα) * h ^ ((-1) * ρβ)) ∧
    -- relation "one": lhs 1, rhs C_r^α G^(-β) H^(-δ)
    (((1 : G)⁻¹) ^ c * (Cr ^ (1 * (ρα + c * e)) * g ^ ((-1) * (ρβ + c * (e * r2))) *
          h ^ ((-1) * (ρδ + c * (e * r3)))) =
        Cr ^ (1 * ρα) * g ^ ((-1) * ρβ) * h ^ ((-1) * ρδ)) := by
  subst hw
  refine ⟨nonrev_relations rfl, ?_, ?_, ?_⟩
  · to_additive_goal; module
  · to_additive_goal; module
  · to_additive_goal; module

/-! ### the algebra: special soundness -/

/-- Generic special soundness of a representation proof: two accepting transcripts with the
    same commitment `T` give `lhs^(c-c') = ∏ baseⱼ^(powerⱼ·(sⱼ-s'ⱼ))`. -/
theorem representation_special_soundness (B : ι → G) (p s s' : ι → ℤ) (l : List ι) (c c' : ℤ)
    (lhs T : G)
    (h1 : (lhs⁻¹) ^ c * rep B (fun j => p j * s j) l = T)
    (h2 : (lhs⁻¹) ^ c' * rep B (fun j => p j * s' j) l = T) :
    lhs ^ (c - c') = rep B (fun j => p j * (s j - s' j)) l :=
  repr_special_soundness B p s s' l c c' lhs T h1 h2

/-- **Special soundness of the non-revocation proof.** Two accepting transcripts for the same
    `C_r, C_u, ν` and the same three commitments `T₁ T₂ T₃` under challenges `c`, `c'` yield the
    three relations in the exponent differences. -/
theorem nonrev_special_soundness {g h Cr Cu ν T1 T2 T3 : G}
    {c c' α α' β β' δ δ' ε ε' ζ ζ' : ℤ}
    (a1 : (Cr⁻¹) ^ c * (g ^ ε * h ^ ζ) = T1) (a1' : (Cr⁻¹) ^ c' * (g ^ ε' * h ^ ζ') = T1)
    (a2 : (ν⁻¹) ^ c * (Cu ^ α * h ^ (-β)) = T2) (a2' : (ν⁻¹) ^ c' * (Cu ^ α' * h ^ (-β')) = T2)
    (a3 : ((1 : G)⁻¹) ^ c * (Cr ^ α * g ^ (-β) * h ^ (-δ)) = T3)
    (a3' : ((1 : G)⁻¹) ^ c' * (Cr ^ α' * g ^ (-β') * h ^ (-δ')) = T3) :
    Cr ^ (c - c') = g ^ (ε - ε') * h ^ (ζ - ζ') ∧
    ν ^ (c - c') = Cu ^ (α - α') * h ^ (-(β - β')) ∧
    1 = Cr ^ (α - α') * g ^ (-(β - β')) * h ^ (-(δ - δ')) := by
  rw [inv_zpow'] at a1 a1' a2 a2' a3 a3'
  refine ⟨?_, ?_, (one_zpow (c - c')).symm.trans ?_⟩
  · rw [two_transcripts a1 a1', zpow_sub_div g, zpow_sub_div h, div_mul_div_comm]
  · rw [two_transcripts a2 a2', neg_sub', zpow_sub_div Cu, zpow_sub_div h, div_mul_div_comm]
  · rw [two_transcripts a3 a3', neg_sub', neg_sub', zpow_sub_div Cr, zpow_sub_div g, zpow_sub_div h,
      div_mul_div_comm, div_mul_div_comm]

/-- **The prover knows a valid witness** (exact-division case of the extractor): if all exponent
    differences are multiples of `Δc`, the group has no `Δc`-torsion and `g`, `h` satisfy no
    non-trivial relation, then `β₀ = α₀ ε₀` and `u := C_u · h^(-ε₀)` is an `α₀`-th root of the
    accumulator value: `u^α₀ = ν`. -/
theorem nonrev_extracts_witness {g h Cr Cu ν : G} {dc dε dζ dα dβ dδ ε₀ ζ₀ α₀ β₀ δ₀ : ℤ}
    (r1 : Cr ^ dc = g ^ dε * h ^ dζ)
    (r2 : ν ^ dc = Cu ^ dα * h ^ (-dβ))
    (r3 : 1 = Cr ^ dα * g ^ (-dβ) * h ^ (-dδ))
    (hε : dε = dc * ε₀) (hζ : dζ = dc * ζ₀) (hα : dα = dc * α₀) (hβ : dβ = dc * β₀)
    (hδ : dδ = dc * δ₀)
    (htors : ∀ x : G, x ^ dc = 1 → x = 1)
    (hindep : ∀ a b : ℤ, g ^ a * h ^ b = 1 → a = 0 ∧ b = 0) :
    Cr = g ^ ε₀ * h ^ ζ₀ ∧ β₀ = α₀ * ε₀ ∧ δ₀ = α₀ * ζ₀ ∧ (Cu * h ^ (-ε₀)) ^ α₀ = ν := by
  subst hε hζ hα hβ hδ
  -- `dc`-th roots are unique
  have root : ∀ {x y : G}, x ^ dc = y ^ dc → x = y := fun {x y} hxy =>
    div_eq_one.mp (htors _ (by rw [div_zpow, hxy, div_self']))
  have e1 : Cr = g ^ ε₀ * h ^ ζ₀ := root (by
    rw [r1, mul_zpow, ← zpow_mul, ← zpow_mul, mul_comm ε₀, mul_comm ζ₀])
  have e2 : ν = Cu ^ α₀ * h ^ (-β₀) := root (by
    rw [r2, mul_zpow, ← zpow_mul, ← zpow_mul, mul_comm α₀, neg_mul, mul_comm β₀])
  have e3 : g ^ (α₀ * ε₀ - β₀) * h ^ (α₀ * ζ₀ - δ₀) = 1 := by
    apply htors
    have h := ofMul_congr r3
    rw [e1] at h
    simp only [ofMul_mul, ofMul_zpow, ofMul_one] at h
    to_additive_goal
    linear_combination (norm := module) -h
  obtain ⟨ha, hb⟩ := hindep _ _ e3
  have hβ : β₀ = α₀ * ε₀ := by omega
  refine ⟨e1, hβ, by omega, ?_⟩
  rw [e2, hβ, mul_zpow, ← zpow_mul, neg_mul, mul_comm ε₀]

/-- **Tied to the credential.** The verifier sets the `alpha` response of the non-revocation
    proof to the disclosure proof's response of the hidden attribute `i₀` (see
    `alpha_is_hidden_attr`), and both proofs answer the same challenge. Hence the extractor
    obtains the *same* exponent difference `s i₀ - s' i₀` for the base `R_{i₀}` of the CL
    relation and for `C_u` in the accumulator relation: the witness value proven
    non-revoked is the attribute hidden in that same credential. -/
theorem nonrev_linked_to_credential {A' S K T h Cu ν T2 : G} (R : ι → G) (i0 : ι) (H : List ι)
    (s s' : ι → ℤ) {c c' eR eR' vR vR' β β' : ℤ}
    (d1 : K ^ (-c) * A' ^ eR * S ^ vR * rep R s (i0 :: H) = T)
    (d2 : K ^ (-c') * A' ^ eR' * S ^ vR' * rep R s' (i0 :: H) = T)
    (a2 : (ν⁻¹) ^ c * (Cu ^ (s i0) * h ^ (-β)) = T2)
    (a2' : (ν⁻¹) ^ c' * (Cu ^ (s' i0) * h ^ (-β')) = T2) :
    K ^ (c - c') = A' ^ (eR - eR') * S ^ (vR - vR') *
        (R i0 ^ (s i0 - s' i0) * rep R (fun j => s j - s' j) H) ∧
    ν ^ (c - c') = Cu ^ (s i0 - s' i0) * h ^ (-(β - β')) := by
  rw [inv_zpow'] at a2 a2'
  refine ⟨proofD_special_soundness_sk R i0 H s s' d1 d2, ?_⟩
  rw [two_transcripts a2 a2', neg_sub', zpow_sub_div Cu, zpow_sub_div h, div_mul_div_comm]

end Algebra

/-! ### the model's verifier computes that algebra in `(ZMod n)ˣ` -/

section Model
open Gabi.Alg
variable {n : ℕ}

/-- `CommitmentsFromProof` on invertible bases never panics and returns the representative in
    `[0,n)` of `(∏ lhs)^(-c) · ∏ base^(power·response)` (unit group of `ZMod n`). -/
theorem commitmentFromProof_spec (hn : 1 < n) (s : QrStructure) (c : Int) (b r : String → Option Int)
    (hl : ∀ l ∈ s.lhs, UnitBase n b l.base) (hb : ∀ x ∈ s.rhs, UnitBase n b x.base)
    (hr : ∀ x ∈ s.rhs, (r x.secret).isSome = true) :
    ∃ v, s.commitmentFromProof n c b r = .ok v ∧ 0 ≤ v ∧ v < n ∧
      (v : ZMod n) = ((((rep (fun l : LhsContribution => baseU n b l.base) (fun l => l.power) s.lhs)⁻¹) ^ c *
        rep (fun x : RhsContribution => baseU n b x.base)
          (fun x => x.power * (r x.secret).getD 0) s.rhs : (ZMod n)ˣ) : ZMod n) :=
  commitmentFromProof_unit hn s c b r hl hb hr

/-- **Completeness in the model.** For an honest prover (`C_r = G^r₂H^r₃`, `C_u = u·H^r₂`,
    `u^e = ν` modulo `n`, all invertible) the three commitments the verifier reconstructs from
    the responses `rnd + c·secret` are exactly the integers `CommitmentsFromSecrets` produced –
    so prover and verifier hash the same list and the proof is accepted. -/
theorem nonrev_complete_model (hn : 1 < n) (pk : PublicKey) (hpk : pk.n = (n : Int))
    (p : NonRevProof) (g h cr cu nu e r2 r3 c : Int) (rnd : String → Int) (u : (ZMod n)ˣ)
    (hg : pk.g = some g) (hh : pk.h = some h)
    (hcr : p.cr = some cr) (hcu : p.cu = some cu) (hnu : p.nu = some nu)
    (ug : Int.gcd g n = 1) (uh : Int.gcd h n = 1) (ucr : Int.gcd cr n = 1) (ucu : Int.gcd cu n = 1)
    (unu : Int.gcd nu n = 1)
    (hCr : zunit n cr = zunit n g ^ r2 * zunit n h ^ r3)
    (hCu : zunit n cu = u * zunit n h ^ r2)
    (hw : u ^ e = zunit n nu) :
    revStructures.mapM (fun s => s.commitmentFromProof pk.n c (revBases pk p)
        (fun name => some (rnd name + c * revSecrets e r2 r3 name))) =
      revStructures.mapM (fun s => s.commitmentFromSecrets pk.n (revBases pk p)
        (fun name => some (rnd name))) ∧
    ∃ cs, revStructures.mapM (fun s => s.commitmentFromSecrets pk.n (revBases pk p)
        (fun name => some (rnd name))) = .ok cs := by
  obtain ⟨bG, bH, bcr, bcu, bnu, bone⟩ := baseU_revBases (n := n) hg hh hcr hcu hnu
  obtain ⟨-, rel2, rel3⟩ := nonrev_relations (g := zunit n g) (h := zunit n h) (r2 := r2) (r3 := r3) hw
  rw [← hCu] at rel2
  rw [← hCr] at rel3
  rw [hpk]
  refine model_repr_complete_list hn revStructures c _ (revSecrets e r2 r3) rnd
    (revStructures_unitBase pk p hg hh hcr hcu hnu ug uh ucr ucu unu) ?_
  -- the three relations, one per structure of the table
  rw [revStructures_eq]
  simp only [List.forall_mem_cons, List.not_mem_nil, false_imp_iff, implies_true, and_true, rep_cons,
    rep_nil, mul_one, bG, bH, bcr, bcu, bnu, bone, zpow_one, one_mul, revSecrets, neg_mul]
  exact ⟨hCr, rel2, by rw [rel3]; simp only [mul_assoc]⟩

/-- **Special soundness in the model.** Two non-revocation proofs for the same `C_r, C_u, ν`
    whose reconstructed commitments coincide under challenges `c`, `c'` satisfy – with
    `R name` the difference of the two `name` responses – the three extracted relations in
    `(ZMod n)ˣ`; `nonrev_extracts_witness` turns these into a valid witness. Hypotheses on the
    key (`G`, `H` invertible) and the accumulator (`ν` invertible) are well-formedness
    conditions; invertibility of `C_r`, `C_u` is what `nonrev_units` guarantees. -/
theorem nonrev_special_soundness_model (hn : 1 < n) (pk : PublicKey) (hpk : pk.n = (n : Int))
    (p q : NonRevProof) (g h cr cu nu c c' : Int) (cs : List Int)
    (hg : pk.g = some g) (hh : pk.h = some h)
    (hcr : p.cr = some cr) (hcu : p.cu = some cu) (hnu : p.nu = some nu)
    (hcr' : q.cr = some cr) (hcu' : q.cu = some cu) (hnu' : q.nu = some nu)
    (ug : Int.gcd g n = 1) (uh : Int.gcd h n = 1) (ucr : Int.gcd cr n = 1) (ucu : Int.gcd cu n = 1)
    (unu : Int.gcd nu n = 1)
    (hp : ∀ name ∈ Gen.revSecretNames, (p.response name).isSome = true)
    (hq : ∀ name ∈ Gen.revSecretNames, (q.response name).isSome = true)
    (h1 : revStructures.mapM (fun s => s.commitmentFromProof pk.n c (revBases pk p) p.response) = .ok cs)
    (h2 : revStructures.mapM (fun s => s.commitmentFromProof pk.n c' (revBases pk q) q.response) = .ok cs) :
    let R := fun name => (p.response name).getD 0 - (q.response name).getD 0
    zunit n cr ^ (c - c') = zunit n g ^ R "epsilon" * zunit n h ^ R "zeta" ∧
    zunit n nu ^ (c - c') = zunit n cu ^ R "alpha" * zunit n h ^ (-R "beta") ∧
    1 = zunit n cr ^ R "alpha" * zunit n g ^ (-R "beta") * zunit n h ^ (-R "delta") := by
  intro R
  obtain ⟨bG, bH, bcr, bcu, bnu, bone⟩ := baseU_revBases (n := n) hg hh hcr hcu hnu
  have hb : revBases pk q = revBases pk p := by
    funext name
    unfold revBases
    rw [hcr, hcu, hnu, hcr', hcu', hnu']
  rw [hb, hpk] at h2
  rw [hpk] at h1
  have key := model_repr_special_soundness_list hn revStructures c c' _ p.response q.response cs
    (revStructures_unitBase pk p hg hh hcr hcu hnu ug uh ucr ucu unu)
    (fun s hs x hx => hp _ (revStructures_secrets s hs x hx))
    (fun s hs x hx => hq _ (revStructures_secrets s hs x hx)) h1 h2
  -- the three relations, one per structure of the table
  rw [revStructures_eq] at key
  simp only [List.forall_mem_cons, List.not_mem_nil, false_imp_iff, implies_true, and_true, rep_cons,
    rep_nil, mul_one, bG, bH, bcr, bcu, bnu, bone, zpow_one, one_mul, one_zpow, neg_mul] at key
  obtain ⟨e1, e2, e3⟩ := key
  exact ⟨e1, e2, by rw [e3]; simp only [R, mul_assoc]⟩

end Model

/-! ### the model: what `SetExpected` writes and what acceptance re-checks -/

/-- `SetExpected(pk, c, resp)` succeeds only for a proof whose embedded accumulator passes the
    signature check under a key with the right counter; it then stores `resp` as the `alpha`
    response, `c` as challenge and the *signed* accumulator's `ν` as `nu`; `C_r`, `C_u`, the
    embedded accumulator and all other responses are untouched. -/
theorem alpha_is_hidden_attr (o : SigOracle) (kid : String) (pk : PublicKey) (nr nr' : NonRevProof)
    (c resp : Int) (h : nr.setExpected o kid pk c resp = some nr') :
    nr'.response "alpha" = some resp ∧ nr'.challenge = some c ∧
    nr'.cr = nr.cr ∧ nr'.cu = nr.cu ∧ nr'.sacc = nr.sacc ∧
    (∀ name, name ≠ "alpha" → nr'.response name = nr.response name) ∧
    ∃ sacc acc, nr.sacc = some sacc ∧ sacc.unmarshalVerify o kid pk = some acc ∧
      pk.counter = sacc.pkCounter ∧ o kid (sacc.data.getD []) = some acc ∧
      nr'.nu = acc.nu ∧ acc.nu.isSome = true := by
  obtain ⟨S⟩ := (setExpected_eq_some_iff o kid pk nr nr' c resp).mp h
  obtain ⟨hc, ho⟩ := (unmarshalVerify_eq_some_iff o kid pk S.sacc S.acc).mp S.acc_eq
  rw [S.result_eq]
  exact ⟨setExpectedResult_response_alpha nr S.nu c resp, rfl, rfl, rfl, rfl,
    fun name hne => setExpectedResult_response_other nr S.nu c resp name hne,
    S.sacc, S.acc, S.sacc_eq, S.acc_eq, hc, ho, S.nu_eq.symm, by rw [S.nu_eq]; rfl⟩

/-- In `ProofD.ChallengeContribution` the value handed to `SetExpected` is literally the
    response of the hidden attribute at the chosen index, and the challenge is the proof's own
    `c`; the non-revocation contributions `[C_r, C_u, ν, commitments…]` enter the hash input. -/
theorem challengeContribution_sets_alpha (o : SigOracle) (kid : String) (pk : PublicKey)
    (p p' : ProofD) (nr : NonRevProof) (revIdx : Int) (l : List Int) (hnr : p.nonrev = some nr)
    (h : (p.challengeContribution o kid pk revIdx).run = .ok (some (l, p'))) :
    0 ≤ revIdx ∧ ∃ resp c nr', p.aResponses.get revIdx = some resp ∧ p.c = some c ∧
      nr.setExpected o kid pk c resp = some nr' ∧ p'.nonrev = some nr' ∧
      p'.aResponses = p.aResponses ∧ p'.c = p.c ∧
      ∃ a z contrib rc, nr'.challengeContributions pk = .ok contrib ∧
        l = [a, z] ++ contrib ++ rc := by
  obtain ⟨F⟩ := ProofD.challengeContribution_ok_some h
  rcases F.nonrev with ⟨hnone, -⟩ | ⟨nr0, resp, nr', hnr0, hi, hget, hse, hcon, e⟩
  · rw [hnr] at hnone; cases hnone
  · rw [hnr] at hnr0; cases hnr0
    refine ⟨hi, resp, F.c, nr', hget, F.c_eq, hse, ?_, ?_, ?_, F.a, F.z, F.nonrevContrib,
      F.rangeContrib, hcon, F.contrib_eq⟩ <;> rw [F.result_eq, e]

/-- `ProofD.VerifyWithChallenge` accepts a proof with a non-revocation part only if the
    non-revocation verifier accepts, and it **re-checks** that the `alpha` response equals the
    hidden-attribute response at the (second) chosen index. -/
theorem acceptance_rechecks_alpha (o : SigOracle) (kid : String) (pk : PublicKey) (p : ProofD)
    (nr : NonRevProof) (revIdx c' : Int) (acc : Option Accumulator) (hnr : p.nonrev = some nr)
    (h : p.verifyWithChallenge o kid pk revIdx c' = .ok (true, acc)) :
    0 ≤ revIdx ∧ ∃ resp, p.aResponses.get revIdx = some resp ∧ nr.response "alpha" = some resp ∧
      nr.verifyWithChallenge o kid pk c' = (true, acc) ∧ p.c = some c' := by
  obtain ⟨-, -, hc, ⟨hnone, -⟩ | ⟨nr0, resp, hnr0, hi, hget, hv, hal⟩⟩ :=
    ProofD.verifyWithChallenge_ok_true h
  · rw [hnr] at hnone; cases hnone
  · rw [hnr] at hnr0; cases hnr0
    exact ⟨hi, resp, hget, hal, hv, hc⟩

/-- **The accumulator a verifier reads is the signature-checked one whose ν entered the
    challenge.** If the non-revocation verifier accepts and returns `a` then `a = some acc`
    where `acc` is what the signature oracle returns for the embedded bytes under this key,
    the key counter matches, the proof's `nu` (which `challengeContributions` hashes) is
    `acc.nu`, and the stored challenge is the recomputed one. In particular `acc.index` and
    `acc.time` are those of the signed accumulator the proof was checked against. -/
theorem accepted_accumulator_is_signed (o : SigOracle) (kid : String) (pk : PublicKey)
    (nr : NonRevProof) (c' : Int) (a : Option Accumulator)
    (h : nr.verifyWithChallenge o kid pk c' = (true, a)) :
    ∃ sacc acc, a = some acc ∧ nr.sacc = some sacc ∧
      sacc.unmarshalVerify o kid pk = some acc ∧ pk.counter = sacc.pkCounter ∧
      o kid (sacc.data.getD []) = some acc ∧ nr.nu = acc.nu ∧ acc.nu.isSome = true ∧
      nr.challenge = some c' ∧ (nr.response "alpha").getD 0 ≤ revBTwoZk := by
  obtain ⟨sacc, acc, nu, hs, _, _, hb, hv, hn, hpn, hc, ha⟩ :=
    (verifyWithChallenge_true_iff o kid pk nr c' a).mp h
  obtain ⟨hcnt, ho⟩ := (unmarshalVerify_eq_some_iff o kid pk sacc acc).mp hv
  exact ⟨sacc, acc, ha, hs, hv, hcnt, ho, by rw [hpn, hn], by rw [hn]; rfl, hc, hb⟩

/-- A wrong signature / undecodable accumulator, a key-counter mismatch, an accumulator without
    `ν`, or a `nu` field differing from the signed one are all rejected. -/
theorem altered_accumulator_rejected (o : SigOracle) (kid : String) (pk : PublicKey)
    (nr : NonRevProof) (c' : Int) (sacc : SignedAccumulator) (hs : nr.sacc = some sacc)
    (hbad : pk.counter ≠ sacc.pkCounter ∨ o kid (sacc.data.getD []) = none ∨
      (∃ acc, o kid (sacc.data.getD []) = some acc ∧ nr.nu ≠ acc.nu)) :
    (nr.verifyWithChallenge o kid pk c').1 = false := by
  cases hv : (nr.verifyWithChallenge o kid pk c').1 with
  | false => rfl
  | true =>
    exfalso
    have h : nr.verifyWithChallenge o kid pk c' = (true, (nr.verifyWithChallenge o kid pk c').2) := by
      rw [← hv]
    obtain ⟨sacc', acc, _, hs', _, hcnt, ho, hnu, _⟩ := accepted_accumulator_is_signed o kid pk nr c' _ h
    rw [hs] at hs'
    cases hs'
    rcases hbad with h1 | h2 | ⟨acc', h3, h4⟩
    · exact h1 hcnt
    · rw [h2] at ho; cases ho
    · rw [h3] at ho; cases ho; exact h4 hnu

/-- End to end: `ProofD.Verify` (for the two picks `i₁ i₂` of `revocationAttrIndex`) accepts a
    proof with a non-revocation part only if both picks denote the same hidden response, that
    response is the `alpha` of the non-revocation proof, the embedded accumulator is correctly
    signed for this key, and `[C_r, C_u, ν]` followed by the three reconstructed commitments were
    hashed into the challenge. -/
theorem accepted_proof_is_tied (o : SigOracle) (kid : String) (pk : PublicKey) (p : ProofD)
    (nr : NonRevProof) (ctx nonce : Int) (issig : Bool) (i1 i2 : Int) (hnr : p.nonrev = some nr)
    (h : p.verifyWith o kid pk ctx nonce issig i1 i2 = .ok true) :
    0 ≤ i1 ∧ 0 ≤ i2 ∧ ∃ resp nr' sacc acc cr cu nu cs a z rc,
      p.aResponses.get i1 = some resp ∧ p.aResponses.get i2 = some resp ∧
      nr.setExpected o kid pk (createChallenge ctx nonce ([a, z] ++ ([cr, cu, nu] ++ cs) ++ rc) issig) resp
        = some nr' ∧
      p.c = some (createChallenge ctx nonce ([a, z] ++ ([cr, cu, nu] ++ cs) ++ rc) issig : Int) ∧
      nr.cr = some cr ∧ nr.cu = some cu ∧ (0 < cr ∧ Int.gcd cr pk.n = 1) ∧ (0 < cu ∧ Int.gcd cu pk.n = 1) ∧
      nr.sacc = some sacc ∧ pk.counter = sacc.pkCounter ∧ o kid (sacc.data.getD []) = some acc ∧
      acc.nu = some nu ∧
      revStructures.mapM (fun s => s.commitmentFromProof pk.n
        (createChallenge ctx nonce ([a, z] ++ ([cr, cu, nu] ++ cs) ++ rc) issig)
        (revBases pk nr') nr'.response) = .ok cs ∧
      nr'.response "alpha" = some resp := by
  obtain ⟨contrib, p', hcc, acc0, hv⟩ := ProofD.verifyWith_ok_true h
  obtain ⟨h1, resp, c, nr', hg1, hpc, hse, hnr', haR, hc', a, z, con, rc, hcon, hl⟩ :=
    challengeContribution_sets_alpha o kid pk p p' nr i1 contrib hnr hcc
  obtain ⟨h2, resp2, hg2, hal, hnv, hpc'⟩ := acceptance_rechecks_alpha o kid pk p' nr' i2 _ acc0 hnr' hv
  obtain ⟨hal', hch, hcr, hcu, hsacc, _, sacc, acc, hs, _, hcnt, ho, hnu, hnus⟩ :=
    alpha_is_hidden_attr o kid pk nr nr' c resp hse
  obtain ⟨cr, cu, nu, ch, cs, hcr', hcu', hnu', hch', hcs, hcon'⟩ :=
    nonrev_challengeContributions_ok pk nr' con hcon
  have hcc' : c = (createChallenge ctx nonce contrib issig : Int) := by
    rw [hc', hpc] at hpc'; exact Option.some.inj hpc'
  have hchc : ch = c := by rw [hch] at hch'; exact (Option.some.inj hch').symm
  rw [hal] at hal'
  cases hal'
  rw [haR] at hg2
  subst hcon' hl hchc
  obtain ⟨_, _, _, _, _, hbu, _⟩ := (verifyWithChallenge_true_iff o kid pk nr' _ acc0).mp hnv
  obtain ⟨⟨cr0, cu0, hcr0, hcu0, hu1, hu2⟩, _⟩ := (basesAreUnits_iff pk nr').mp hbu
  rw [hcr'] at hcr0; cases hcr0
  rw [hcu'] at hcu0; cases hcu0
  refine ⟨h1, h2, resp, nr', sacc, acc, cr, cu, nu, cs, a, z, rc, hg1, hg2, ?_, ?_, ?_, ?_, hu1, hu2,
    hs, hcnt, ho, ?_, ?_, hal⟩
  · rw [← hcc']; exact hse
  · rw [← hcc']; exact hpc
  · rw [← hcr, hcr']
  · rw [← hcu, hcu']
  · rw [← hnu, hnu']
  · rw [← hcc']; exact hcs

/-! ### units: `C_r`, `C_u` must be invertible -/

/-- Acceptance implies that the prover-chosen bases `C_r`, `C_u` are units modulo `n`
    (`0 < C`, `gcd(C, n) = 1`; no upper bound, as in `basesAreUnits` of revocation/proof.go – an
    unreduced `C_u` is still a unit) and that every response is present and non-negative. -/
theorem nonrev_units (o : SigOracle) (kid : String) (pk : PublicKey) (nr : NonRevProof) (c' : Int)
    (a : Option Accumulator) (h : nr.verifyWithChallenge o kid pk c' = (true, a)) :
    (∃ cr cu, nr.cr = some cr ∧ nr.cu = some cu ∧
      (0 < cr ∧ Int.gcd cr pk.n = 1) ∧ (0 < cu ∧ Int.gcd cu pk.n = 1)) ∧
    ∀ kv ∈ nr.responses, ∃ r, kv.2 = some r ∧ 0 ≤ r := by
  obtain ⟨_, _, _, _, _, hb, _⟩ := (verifyWithChallenge_true_iff o kid pk nr c' a).mp h
  exact (basesAreUnits_iff pk nr).mp hb

/-- `SetExpected` already fails on non-unit bases, so a forged proof does not even reach the
    hash computation. -/
theorem setExpected_requires_units (o : SigOracle) (kid : String) (pk : PublicKey)
    (nr nr' : NonRevProof) (c resp : Int) (h : nr.setExpected o kid pk c resp = some nr') :
    ∃ cr cu, nr.cr = some cr ∧ nr.cu = some cu ∧ (0 < cr ∧ Int.gcd cr pk.n = 1) ∧
      (0 < cu ∧ Int.gcd cu pk.n = 1) := by
  obtain ⟨S⟩ := (setExpected_eq_some_iff o kid pk nr nr' c resp).mp h
  have hbu := S.basesAreUnits
  rw [S.result_eq] at hbu
  exact ((basesAreUnits_iff pk _).mp hbu).1

/-- **Why the check is needed (`commitmentZero`).** In `CommitmentsFromProof`, a rhs factor
    whose base is `0` with a positive exponent makes the reconstructed commitment `0`,
    independently of the challenge and of every other response. -/
theorem commitmentZero (s : QrStructure) (n ch : Int) (b r : String → Option Int) (hn : 0 < n)
    (hall : ∀ x ∈ s.rhs, (r x.secret).isSome = true)
    (x : RhsContribution) (hx : x ∈ s.rhs) (hb : b x.base = some 0) (res : Int)
    (hres : r x.secret = some res) (hpos : 0 < x.power * res) :
    s.commitmentFromProof n ch b r = .ok 0 :=
  Misc.commitmentZero s n ch b r hn hall x hx hb res hres hpos

/-- **What the unit check excludes**: with `C_r = C_u = 0`, any
    non-zero challenge, any `alpha ≥ 1` and arbitrary other responses, the hashed contributions
    of the non-revocation proof are the constant list `[0, 0, ν, 0, 0, 0]` – no witness is
    needed to make the Fiat–Shamir equation hold. `nonrev_units`: the verifier rejects
    exactly this. -/
theorem zero_bases_forgery (pk : PublicKey) (p : NonRevProof) (nu ch alpha : Int)
    (hn : 1 < pk.n) (hcr : p.cr = some 0) (hcu : p.cu = some 0) (hnu : p.nu = some nu)
    (hch : p.challenge = some ch) (hch0 : ch ≠ 0)
    (hresp : ∀ name ∈ Gen.revSecretNames, (p.response name).isSome = true)
    (halpha : p.response "alpha" = some alpha) (hpos : 1 ≤ alpha) :
    p.challengeContributions pk = .ok [0, 0, nu, 0, 0, 0] ∧ p.basesAreUnits pk = false := by
  have hunits : p.basesAreUnits pk = false := by
    unfold NonRevProof.basesAreUnits
    rw [hcr, hcu]
    rfl
  refine ⟨?_, hunits⟩
  have hn0 : (0 : Int) < pk.n := by omega
  have bcr : revBases pk p "cr" = some 0 := hcr
  have bcu : revBases pk p "cu" = some 0 := hcu
  have hα : (0 : Int) < 1 * alpha := by omega
  have hzero : ∀ s ∈ revStructures,
      s.commitmentFromProof pk.n ch (revBases pk p) p.response = pure 0 := by
    intro s hs
    have hall : ∀ x ∈ s.rhs, (p.response x.secret).isSome = true :=
      fun x hx => hresp _ (revStructures_secrets s hs x hx)
    rw [revStructures_eq] at hs
    simp only [List.mem_cons, List.not_mem_nil, or_false] at hs
    rcases hs with rfl | rfl | rfl
    -- `C_r = 0` on the left: the inverse does not exist and `0^ch = 0`
    · rw [commitmentFromProof_eq, cfpC0_zero_lhs "cr" pk.n ch _ _ hn bcr hch0]
      exact cfp_go_zero _ _ _ _ _ hall
    -- `C_u^alpha = 0`, resp. `C_r^alpha = 0`, on the right
    · exact commitmentZero _ _ _ _ _ hn0 hall ⟨"cu", "alpha", 1⟩ (by simp) bcu alpha halpha hα
    · exact commitmentZero _ _ _ _ _ hn0 hall ⟨"cr", "alpha", 1⟩ (by simp) bcr alpha halpha hα
  unfold NonRevProof.challengeContributions
  simp only [hcr, hcu, hnu, hch, deref, pure_bind, List.mapM_eq_pure_map _ (fun _ => 0) _ hzero]
  rfl

/-! ### `revocationAttrIndex` -/

/-- a proof with three hidden responses below the bound: the secret key at 0 (never a candidate)
    and two attributes at 1 and 2 (both candidates). -/
def ambiguousProof : ProofD :=
  { c := some 1, a := some 2, eResponse := some 3, vResponse := some 4,
    aResponses := [(0, some 5), (1, some 7), (2, some 6)], aDisclosed := [],
    nonrev := some { cr := some 2, cu := some 3, responses := [], sacc := none },
    rangeProofs := none }

/-- **Known finding (C11/revocation-attr-index-ambiguity).** `revocationAttrIndex` can have
    more than one candidate: then Go's choice depends on map iteration order. (The secret key at
    index 0 is no candidate, although its response `5` is below the bound; the two attribute
    indices 1 and 2 both are.) -/
theorem ambiguity_witness :
    ambiguousProof.revocationCandidates = [1, 2] ∧ ambiguousProof.revChoices = [1, 2] := by
  have h : ambiguousProof.revocationCandidates = [1, 2] := by
    rw [revocationCandidates_eq]
    have hlt : ∀ x : Int, x < 2 ^ 3 → x < revIdxMax := fun x hx =>
      lt_of_lt_of_le hx (pow_le_pow_right₀ (by norm_num) (by decide))
    have h5 : belowRevMax (0, some 5) = false := by
      rw [belowRevMax_some]; simp
    have h7 : belowRevMax (1, some 7) = true := by
      rw [belowRevMax_some]
      simp only [Bool.and_eq_true, decide_eq_true_eq]
      exact ⟨by decide, hlt 7 (by norm_num)⟩
    have h6 : belowRevMax (2, some 6) = true := by
      rw [belowRevMax_some]
      simp only [Bool.and_eq_true, decide_eq_true_eq]
      exact ⟨by decide, hlt 6 (by norm_num)⟩
    show (List.filter belowRevMax [(0, some 5), (1, some 7), (2, some 6)]).map (·.1) = [1, 2]
    simp [List.filter, h5, h7, h6]
  refine ⟨h, ?_⟩
  unfold ProofD.revChoices
  rw [h]
  rfl

/-- If exactly one hidden response other than the secret key (keys are unique, as in a Go map)
    is below `2^(AttributeSize+ChallengeLength+ZkStat+1)`, then `revocationAttrIndex` has no
    choice: `revChoices` is that singleton. The response at index 0 (the secret key) is not
    constrained: it is never a candidate. -/
theorem rev_index_unique (p : ProofD) (nr : NonRevProof) (hnr : p.nonrev = some nr)
    (hkeys : (p.aResponses.map (·.1)).Nodup) (i r : Int) (hi0 : i ≠ 0)
    (hi : (i, some r) ∈ p.aResponses)
    (hr : r < 2 ^ (Gen.revAttributeSize + Gen.revChallengeLength + Gen.revZkStat + 1))
    (hothers : ∀ kv ∈ p.aResponses, kv.1 ≠ i → kv.1 ≠ 0 →
      ∀ r', kv.2 = some r' → 2 ^ (Gen.revAttributeSize + Gen.revChallengeLength + Gen.revZkStat + 1) ≤ r') :
    p.revChoices = [i] := by
  unfold ProofD.revChoices
  rw [hnr, revocationCandidates_eq,
    filter_eq_singleton belowRevMax (·.1) _ (i, some r) hkeys hi]
  · rfl
  · rw [belowRevMax_some]
    simp only [Bool.and_eq_true, decide_eq_true_eq]
    exact ⟨hi0, hr⟩
  · intro kv hkv hne
    obtain ⟨k, v⟩ := kv
    rcases v with _ | r'
    · rfl
    · rw [belowRevMax_some]
      by_cases hk : k = 0
      · simp [hk]
      · have := hothers (k, some r') hkv hne hk r' rfl
        simp only [Bool.and_eq_false_imp, decide_eq_true_eq, decide_eq_false_iff_not, not_lt]
        intro _
        exact this

/-- without a non-revocation part, or without candidate, the index is −1. -/
theorem rev_index_none (p : ProofD) :
    (p.nonrev = none → p.revChoices = [-1]) ∧
    (p.revocationCandidates = [] → p.revChoices = [-1]) := by
  unfold ProofD.revChoices
  refine ⟨fun h => by rw [h], fun h => ?_⟩
  rw [h]
  cases p.nonrev <;> rfl

/-- **The secret key is never the revocation attribute.** Index 0 of `AResponses` is the response
    of the holder-chosen secret key; `revocationAttrIndex` skips it, whatever its
    size. This is what rules out the class `foreign-witness-via-secret-key` of the attack battery
    (go/harness/c11.go): a holder who picks his secret key equal to the `e` of somebody else's
    (non-revoked) witness cannot make the verifier tie that foreign witness to his credential
    through index 0. -/
theorem secret_key_never_revocation_index : ∀ p : ProofD, (0 : Int) ∉ p.revocationCandidates := by
  intro p h
  rw [revocationCandidates_eq] at h
  obtain ⟨kv, hkv, h0⟩ := List.mem_map.mp h
  exact belowRevMax_fst_ne_zero (List.mem_filter.mp hkv).2 h0

/-- No choice of `revocationAttrIndex` is 0: a choice is either `-1` or a candidate, and the
    secret key at index 0 is never a candidate. -/
theorem revChoices_ne_zero (p : ProofD) : ∀ i ∈ p.revChoices, i ≠ 0 := by
  intro i hi h0
  rcases mem_revChoices hi with h | h
  · omega
  · exact secret_key_never_revocation_index p (h0 ▸ h)

/-- **Corollary for accepted proofs** (companion of `accepted_proof_is_tied`). If `ProofD.Verify`
    accepts a proof with a non-revocation part for two picks `i₁ i₂` that `revocationAttrIndex`
    can actually make (`revChoices`), then both picks are attribute indices `≥ 1`: the hidden
    response that `accepted_proof_is_tied` identifies with the `alpha` of the non-revocation
    proof is never the response of the secret key at index 0. So the witness exponent `e` that
    the non-revocation proof speaks about is an issuer-signed attribute of the credential, not
    the holder-chosen secret key — the class `foreign-witness-via-secret-key` of the attack battery
    (secret key := `e` of a foreign witness, all real attributes large) is rejected. -/
theorem accepted_choice_never_secret_key (o : SigOracle) (kid : String) (pk : PublicKey)
    (p : ProofD) (nr : NonRevProof) (ctx nonce : Int) (issig : Bool) (i1 i2 : Int)
    (hnr : p.nonrev = some nr) (hi1 : i1 ∈ p.revChoices) (hi2 : i2 ∈ p.revChoices)
    (h : p.verifyWith o kid pk ctx nonce issig i1 i2 = .ok true) :
    (1 ≤ i1 ∧ 1 ≤ i2) ∧ i1 ∈ p.revocationCandidates ∧ i2 ∈ p.revocationCandidates := by
  -- a non-negative choice is a candidate, and candidates are not 0
  have pos : ∀ {i : Int}, 0 ≤ i → i ∈ p.revChoices → 1 ≤ i ∧ i ∈ p.revocationCandidates :=
    fun {i} h0 hi =>
      have := revChoices_ne_zero p i hi
      ⟨by omega, (mem_revChoices hi).resolve_left (by omega)⟩
  have ht := accepted_proof_is_tied o kid pk p nr ctx nonce issig i1 i2 hnr h
  exact ⟨⟨(pos ht.1 hi1).1, (pos ht.2.1 hi2).1⟩, (pos ht.1 hi1).2, (pos ht.2.1 hi2).2⟩

/-! ### non-vacuity -/

/-- toy key `n = 35`, `G = 4`, `H = 16`, counter 2. -/
def exPk : PublicKey :=
  { n := 35, z := 9, s := 11, g := some 4, h := some 16, r := [4, 16], counter := 2,
    params := SysParams.ofBase toyBase, hasEcdsa := true, issuer := "toy" }
def exAcc : Accumulator := { nu := some 29, index := 7, time := 1000, eventHash := [] }
def exOracle : SigOracle := fun kid data => if kid = "toy-2" ∧ data = [1, 2, 3] then some exAcc else none
def exNr : NonRevProof :=
  { cr := some 2, cu := some 3,
    responses := [("beta", some 1), ("delta", some 2), ("epsilon", some 3), ("zeta", some 4)],
    sacc := some { data := some [1, 2, 3], pkCounter := 2 } }

/-- the hypothesis of `alpha_is_hidden_attr` is satisfiable. -/
example : exNr.setExpected exOracle "toy-2" exPk 99 5 = some (setExpectedResult exNr 29 99 5) := by
  decide

set_option exponentiation.threshold 1024 in
/-- the hypothesis of `accepted_accumulator_is_signed` / `nonrev_units` is satisfiable. -/
example : (setExpectedResult exNr 29 99 5).verifyWithChallenge exOracle "toy-2" exPk 99 =
    (true, some exAcc) := by decide

set_option exponentiation.threshold 1024 in
/-- an unreduced `C_u = 3 + 35` is still accepted: it is a unit, only not the canonical
    representative. -/
example : (setExpectedResult { exNr with cu := some 38 } 29 99 5).verifyWithChallenge
    exOracle "toy-2" exPk 99 = (true, some exAcc) := by decide

/-- `rev_index_unique`: hypotheses satisfiable – a small secret-key response at index 0 next to
    one small attribute response at index 1 leaves exactly the choice `1`. -/
example : ({ ambiguousProof with aResponses := [(0, some 5), (1, some 7)] } : ProofD).revChoices
    = [1] := by
  refine rev_index_unique _ _ rfl (by decide) 1 7 (by decide) (by simp)
    (lt_of_lt_of_le (by norm_num : (7 : Int) < 2 ^ 3) (pow_le_pow_right₀ (by norm_num) (by decide)))
    ?_
  intro kv hkv h1 h0
  simp only [List.mem_cons, List.not_mem_nil, or_false] at hkv
  rcases hkv with rfl | rfl
  · exact absurd rfl h0
  · exact absurd rfl h1

/-- `zero_bases_forgery`: hypotheses satisfiable. -/
example : (⟨some 0, some 0, some 29, some 99,
      [("alpha", some 1), ("beta", some 1), ("delta", some 2), ("epsilon", some 3), ("zeta", some 4)],
      none⟩ : NonRevProof).challengeContributions exPk = .ok [0, 0, 29, 0, 0, 0] :=
  (zero_bases_forgery exPk _ 29 99 1 (by decide) rfl rfl rfl rfl (by decide) (by decide) (by decide)
    (by decide)).1

/-- `nonrev_extracts_witness`: all hypotheses hold for an honest prover in the free abelian
    group on `g, h` (`u = g`, `e = 7`, `r₂ = 3`, `r₃ = 5`, `Δc = 2`). -/
example : (gZ * hZ ^ (3 : ℤ) * hZ ^ (-(3 : ℤ))) ^ (7 : ℤ) = gZ ^ (7 : ℤ) :=
  (nonrev_extracts_witness (g := gZ) (h := hZ) (Cr := gZ ^ (3 : ℤ) * hZ ^ (5 : ℤ))
    (Cu := gZ * hZ ^ (3 : ℤ)) (ν := gZ ^ (7 : ℤ)) (dc := 2) (dε := 6) (dζ := 10) (dα := 14) (dβ := 42)
    (dδ := 70) (ε₀ := 3) (ζ₀ := 5) (α₀ := 7) (β₀ := 21) (δ₀ := 35) rfl rfl rfl rfl rfl rfl rfl rfl
    (z2_torsion_free 2 (by norm_num)) z2_indep).2.2.2

/-- `nonrev_complete_model`: an honest instance modulo 35 (`u = 2`, `e = 2`, `ν = 4`,
    `r₂ = r₃ = 1`, `C_r = 4·16 = 29`, `C_u = 2·16 = 32`). -/
example : ∃ cs, revStructures.mapM (fun s => s.commitmentFromProof exPk.n 7
      (revBases exPk { cr := some 29, cu := some 32, nu := some 4, responses := [], sacc := none })
      (fun name => some (((fun _ => 5) : String → Int) name + 7 * revSecrets 2 1 1 name))) = .ok cs := by
  have hv : ∀ {x : Int}, Int.gcd x (35 : ℕ) = 1 → ((zunit 35 x : (ZMod 35)ˣ) : ZMod 35) = x :=
    fun h => zunit_val ((isUnit_iff_gcd _).mpr h)
  obtain ⟨h1, cs, h2⟩ := nonrev_complete_model (n := 35) (by norm_num) exPk rfl
    { cr := some 29, cu := some 32, nu := some 4, responses := [], sacc := none }
    4 16 29 32 4 2 1 1 7 (fun _ => 5) (zunit 35 2) rfl rfl rfl rfl rfl
    (by decide) (by decide) (by decide) (by decide) (by decide)
    (by apply Units.ext
        simp only [Units.val_mul, zpow_one]
        rw [hv (by decide), hv (by decide), hv (by decide)]
        decide)
    (by apply Units.ext
        simp only [Units.val_mul, zpow_one]
        rw [hv (by decide), hv (by decide), hv (by decide)]
        decide)
    (by apply Units.ext
        rw [zpow_ofNat, Units.val_pow_eq_pow_val]
        rw [hv (by decide), hv (by decide)]
        decide)
  exact ⟨cs, h1.trans h2⟩

end Gabi.C11

#print axioms Gabi.C11.representation_complete
#print axioms Gabi.C11.nonrev_complete
#print axioms Gabi.C11.representation_special_soundness
#print axioms Gabi.C11.nonrev_special_soundness
#print axioms Gabi.C11.nonrev_extracts_witness
#print axioms Gabi.C11.nonrev_linked_to_credential
#print axioms Gabi.C11.commitmentFromProof_spec
#print axioms Gabi.C11.nonrev_complete_model
#print axioms Gabi.C11.nonrev_special_soundness_model
#print axioms Gabi.C11.alpha_is_hidden_attr
#print axioms Gabi.C11.challengeContribution_sets_alpha
#print axioms Gabi.C11.acceptance_rechecks_alpha
#print axioms Gabi.C11.accepted_accumulator_is_signed
#print axioms Gabi.C11.altered_accumulator_rejected
#print axioms Gabi.C11.accepted_proof_is_tied
#print axioms Gabi.C11.nonrev_units
#print axioms Gabi.C11.setExpected_requires_units
#print axioms Gabi.C11.commitmentZero
#print axioms Gabi.C11.zero_bases_forgery
#print axioms Gabi.C11.ambiguity_witness
#print axioms Gabi.C11.rev_index_unique
#print axioms Gabi.C11.rev_index_none
#print axioms Gabi.C11.secret_key_never_revocation_index
#print axioms Gabi.C11.revChoices_ne_zero
#print axioms Gabi.C11.accepted_choice_never_secret_key
