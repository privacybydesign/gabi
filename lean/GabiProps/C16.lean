/-
  C16 — Generated issuer keys are well-formed; generation leaves no worker running.
  Property theorems only; helper lemmas live in GabiProofs.KeyGen / GabiProofs.SafePrimeWorkers.
  That `Z` and the `R_i` lie in the subgroup generated by `S` is in GabiProps.C16Subgroup.

  Model: GabiModel.KeyGen (prepareBytes, findMatch and the receive loop of generateSafePrimePair,
  CanProve, the base derivation of GenerateKeyPair, RandomQR, the predicate `failures` evaluated
  on every generated key) and GabiModel.SafePrimeWorkers (transition system of
  safeprime.GenerateConcurrent and its consumer). `./check C16` runs the real generator, and
  compares the real prepareBytes / findMatch / CanProve with the model op by op.

  Primality is a hypothesis of the theorems (`Nat.Prime`); the executable predicate decides it with
  Miller–Rabin.
-/
import GabiProofs.KeyGen
import GabiProofs.SafePrimeWorkers
import Mathlib.Tactic.NormNum.LegendreSymbol
namespace Gabi.C16
open Gabi Gabi.KeyGen

/-! ### candidate primes: size and primality -/

/-- `prepareBytes` on the buffer `Generate` allocates for a `qbits`-bit candidate (`qbits ≥ 2`):
    the value has its two top bits set (so it has exactly `qbits` bits), is odd, and the length
    of the buffer is unchanged. -/
theorem prepareBytes_top_bits (bytes : List UInt8) (qbits : Nat) (hq : 2 ≤ qbits)
    (hlen : bytes.length = (qbits + 7) / 8) :
    3 * 2 ^ (qbits - 2) ≤ ofBytesBE (prepareBytes bytes (topBits qbits)) ∧
    ofBytesBE (prepareBytes bytes (topBits qbits)) < 2 ^ qbits ∧
    ofBytesBE (prepareBytes bytes (topBits qbits)) % 2 = 1 ∧
    (prepareBytes bytes (topBits qbits)).length = bytes.length :=
  KeyGen.prepareBytes_top_bits bytes qbits hq hlen

/-- The theorem in the source comment of safeprime/safeprime.go on which `Generate` rests: if `q`
    is prime and `2^(2q) ≡ 1 (mod 2q+1)` then `2q+1` is prime (hence a safe prime). -/
theorem safe_prime_criterion (q : Nat) (hq : q.Prime) (h : 2 ^ (2 * q) % (2 * q + 1) = 1) :
    (2 * q + 1).Prime :=
  KeyGen.safe_prime_criterion q hq h

/-- A candidate `q` that passes the test of `Generate` (`2^(2q) mod (2q+1) = 1`, computed by
    square-and-multiply, and a primality test that is right about `q`) is prime, and so is `2q+1`. -/
theorem candidateOk_safe_prime (isPrime : Nat → Bool) (q : Nat) (hsound : isPrime q = true → q.Prime)
    (h : candidateOk isPrime q = true) : q.Prime ∧ (2 * q + 1).Prime := by
  simp only [candidateOk, Bool.and_eq_true, beq_iff_eq] at h
  have hq := hsound h.2
  refine ⟨hq, KeyGen.safe_prime_criterion q hq ?_⟩
  rw [← powMod_eq]; exact h.1

/-- Two factors of `k` bits whose two top bits are set have a product of exactly `2k` bits. -/
theorem product_bitlen (k p q : Nat) (hk : 2 ≤ k)
    (hp : 3 * 2 ^ (k - 2) ≤ p) (hp' : p < 2 ^ k) (hq : 3 * 2 ^ (k - 2) ≤ q) (hq' : q < 2 ^ k) :
    natBitLen (p * q) = 2 * k :=
  KeyGen.product_bitlen k p q hk hp hp' hq hq'

/-- What `Generate(k)` returns, `2q'+1` for a `(k-1)`-bit `q'` with its two top bits set, has
    exactly `k` bits and again its two top bits set; so any two outputs multiply to `2k` bits:
    the modulus has exactly the requested length `Ln = 2k`. -/
theorem generated_modulus_length (k p' q' : Nat) (hk : 3 ≤ k)
    (hp : 3 * 2 ^ (k - 3) ≤ p') (hp' : p' < 2 ^ (k - 1))
    (hq : 3 * 2 ^ (k - 3) ≤ q') (hq' : q' < 2 ^ (k - 1)) :
    natBitLen (2 * p' + 1) = k ∧ natBitLen (2 * q' + 1) = k ∧
      natBitLen ((2 * p' + 1) * (2 * q' + 1)) = 2 * k := by
  obtain ⟨a1, a2, a3⟩ := safeprime_range k p' hk hp hp'
  obtain ⟨b1, b2, b3⟩ := safeprime_range k q' hk hq hq'
  exact ⟨a3, b3, KeyGen.product_bitlen k _ _ (by omega) a1 a2 b1 b2⟩

/-! ### the pair selection -/

/-- Whatever sequence of candidates the workers deliver, a pair returned by the receive loop of
    `generateSafePrimePair` passed every filter (`p' mod 8 ≠ 1`, `q' mod 8 ≠ 1`, `p ≢ q mod 8`,
    `bitlen(p·q) = Ln`) and consists of delivered candidates. -/
theorem pairLoop_output_filtered (ln : Nat) (stream : List Nat) (p q : Nat)
    (h : pairLoop ln [] stream = some (p, q)) :
    pairFilter ln p q = true ∧ p ∈ stream ∧ q ∈ stream := by
  obtain ⟨h1, h2, h3⟩ := pairLoop_sound ln stream [] p q (by simp) h
  exact ⟨h1, h2, h3.resolve_left (by simp)⟩

/-- For `p = 2p'+1`, `q = 2q'+1` with odd `p'`, `q'` the filter implies all six residue
    conditions of `keyproof.CanProve`, `p ≠ q`, `n ≡ 5 (mod 8)`, and the modulus length. -/
theorem pair_filter_implies_canProve (ln p' q' : Nat) (hp : p' % 2 = 1) (hq : q' % 2 = 1)
    (h : pairFilter ln (2 * p' + 1) (2 * q' + 1) = true) :
    canProveResidues p' q' = true ∧ 2 * p' + 1 ≠ 2 * q' + 1 ∧
      ((2 * p' + 1) * (2 * q' + 1)) % 8 = 5 ∧ natBitLen ((2 * p' + 1) * (2 * q' + 1)) = ln := by
  -- `p'`, `q'` are odd, so both factors are `3` or `7` modulo 8
  have hP : (2 * p' + 1) % 8 = 3 ∨ (2 * p' + 1) % 8 = 7 := by omega
  have hQ : (2 * q' + 1) % 8 = 3 ∨ (2 * q' + 1) % 8 = 7 := by omega
  have hP1 : (2 * p' + 1) % 8 ≠ 1 := by omega
  have hQ1 : (2 * q' + 1) % 8 ≠ 1 := by omega
  simp only [pairFilter, Nat.mul_add_div two_pos, Nat.reduceDiv, Nat.add_zero, Bool.and_eq_true,
    bne_iff_ne, ne_eq, beq_iff_eq] at h
  obtain ⟨⟨⟨h1, h2⟩, h3⟩, h4⟩ := h
  refine ⟨?_, fun e => h3 (by rw [e]), ?_, h4⟩
  · simp only [canProveResidues, Bool.and_eq_true, bne_iff_ne, ne_eq]
    exact ⟨⟨⟨⟨⟨hP1, hQ1⟩, h1⟩, h2⟩, h3⟩, fun e => h3 ((Nat.ModEq.mul_left 2 e).add_right 1)⟩
  · -- and they differ, so the product is `3·7 ≡ 5`
    rw [Nat.mul_mod]
    rcases hP with a | a <;> rcases hQ with b | b
    · exact absurd (a.trans b.symm) h3
    · rw [a, b]
    · rw [a, b]
    · exact absurd (a.trans b.symm) h3

/-- `keyproof.CanProve` accepts every pair of safe primes that passed the filter of the receive
    loop. -/
theorem filtered_pair_canProve (ln p' q' : Nat) (hp : p' % 2 = 1) (hq : q' % 2 = 1)
    (hsp : safePrimeOk (2 * p' + 1) = true) (hsq : safePrimeOk (2 * q' + 1) = true)
    (h : pairFilter ln (2 * p' + 1) (2 * q' + 1) = true) : canProve p' q' = true := by
  have := (pair_filter_implies_canProve ln p' q' hp hq h).1
  simp [canProve, hsp, hsq, this]

/-- Safe primes above 7 are `≡ 2 (mod 3)` (as are their halves), so the modulus of a generated
    key is `≡ 1 (mod 3)`; with `pair_filter_implies_canProve` it is `≡ 5 (mod 8)`. -/
theorem modulus_mod3 (p' q' : Nat) (hp : p'.Prime) (hq : q'.Prime) (hp3 : 3 < p') (hq3 : 3 < q')
    (hP : (2 * p' + 1).Prime) (hQ : (2 * q' + 1).Prime) :
    p' % 3 = 2 ∧ q' % 3 = 2 ∧ ((2 * p' + 1) * (2 * q' + 1)) % 3 = 1 := by
  obtain ⟨a, a'⟩ := mod_three_of_safe hp hp3 hP
  obtain ⟨b, b'⟩ := mod_three_of_safe hq hq3 hQ
  exact ⟨a, b, by rw [Nat.mul_mod, a', b']⟩

/-! ### the public bases -/

/-- A draw accepted as `S` (Legendre symbol 1 modulo `p` and modulo `q`) is a square modulo
    `n = p·q` and coprime to `n`. -/
theorem S_is_QR (ln p q s : Nat) [Fact p.Prime] [Fact q.Prime] (hp2 : p ≠ 2) (hq2 : q ≠ 2)
    (hpq : p ≠ q) (h : sAccepted ln p q s = true) :
    IsSquare ((s : Int) : ZMod (p * q)) ∧ Nat.Coprime s (p * q) := by
  simp only [sAccepted, Bool.and_eq_true, beq_iff_eq] at h
  exact legendre_one_isSquare_mul p q hp2 hq2 hpq s (by exact_mod_cast h.1.2) (by exact_mod_cast h.2)

/-- `Z` and every `R_i` are powers of `S` modulo `n`, i.e. lie in the submonoid generated by `S`. -/
theorem bases_in_subgroup (n s xZ : Nat) (xR : List Nat) :
    ((deriveBases n s xZ xR).z : ZMod n) ∈ Submonoid.powers (s : ZMod n) ∧
    ∀ b ∈ (deriveBases n s xZ xR).r, (b : ZMod n) ∈ Submonoid.powers (s : ZMod n) :=
  deriveBases_powers n s xZ xR

/-- A power of a unit `S` modulo `n` is the value of a unit in the cyclic subgroup `⟨S⟩` of
    `(ℤ/n)ˣ`. -/
theorem bases_in_unit_subgroup {n : Nat} (u : (ZMod n)ˣ) (b : ZMod n)
    (h : b ∈ Submonoid.powers (u : ZMod n)) :
    ∃ v : (ZMod n)ˣ, (v : ZMod n) = b ∧ v ∈ Subgroup.zpowers u := by
  obtain ⟨k, hk⟩ := h
  exact ⟨u ^ k, (Units.val_pow_eq_pow_val u k).trans hk, Subgroup.npow_mem_zpowers u k⟩

/-- `Z` and the `R_i` that `GenerateKeyPair` derives from a square `S` are squares modulo `n`. -/
theorem bases_are_QR (n s xZ : Nat) (xR : List Nat) (hs : IsSquare (s : ZMod n)) :
    IsSquare ((deriveBases n s xZ xR).z : ZMod n) ∧
    ∀ b ∈ (deriveBases n s xZ xR).r, IsSquare (b : ZMod n) := by
  obtain ⟨h1, h2⟩ := deriveBases_powers n s xZ xR
  exact ⟨isSquare_of_mem_powers hs h1, fun b hb => isSquare_of_mem_powers hs (h2 b hb)⟩

/-- `G` and `H` (`RandomQR`): the square of a unit, reduced modulo `n`. -/
theorem GH_are_QR {n r g : Nat} (hn : n ≠ 0) (h : randomQR n r = some g) :
    IsSquare (g : ZMod n) ∧ IsUnit (g : ZMod n) ∧ g < n := by
  unfold randomQR at h
  split at h
  · next hc =>
    obtain rfl := Option.some.inj h
    have hu : IsUnit (r : ZMod n) := (ZMod.isUnit_iff_coprime r n).mpr hc
    rw [ZMod.natCast_mod, Nat.cast_mul]
    exact ⟨⟨_, rfl⟩, hu.mul hu, Nat.mod_lt _ (Nat.pos_of_ne_zero hn)⟩
  · exact absurd h nofun

/-! ### derived parameters -/

/-- relations between the lengths that the protocol proofs rely on (Idemix specification §2.2,
    with `l_r = Lstatzk`). -/
def ParamsConsistent (p : SysParams) : Prop :=
  p.LeCommit = p.LePrime + p.Lstatzk + p.Lh ∧
  p.LmCommit = p.Lm + p.Lstatzk + p.Lh ∧
  p.LsCommit = p.LmCommit + 1 ∧
  p.LvCommit = p.Lv + p.Lstatzk + p.Lh ∧
  p.LvPrime = p.Ln + p.Lstatzk ∧
  p.LvPrimeCommit = p.LvPrime + p.Lstatzk + p.Lh ∧
  p.LRA = p.Ln + p.Lstatzk ∧
  p.Lh ≤ p.Lm ∧
  p.Lh + p.Lm ≤ p.LmCommit ∧
  p.LePrime - 1 + p.Lh ≤ p.LeCommit ∧
  p.LePrime + 1 < p.Le ∧
  p.Lstatzk + p.Lh + max (p.Lm + 4) (p.LePrime + 2) < p.Le ∧
  p.Ln + p.Lstatzk + p.Lh + max (p.Lm + p.Lstatzk + 3) (p.Lstatzk + 2) < p.Lv

instance (p : SysParams) : Decidable (ParamsConsistent p) := by
  unfold ParamsConsistent; infer_instance

/-- Every entry of `defaultBaseParameters` (gabikeys/sysparams.go) is filed under its own `Ln`,
    and with the derived values that `MakeDerivedParameters` computes it satisfies
    `ParamsConsistent`. Table and formulas are `GabiModel.Generated`, extracted from the Go source. -/
theorem derived_params_consistent :
    ∀ e ∈ Gen.defaultBaseParameters, e.2.Ln = e.1 ∧ ParamsConsistent (SysParams.ofBase e.2) := by
  decide

/-- The derived parameters are consistent for every modulus length `Ln` when the other base lengths
    are those of the 1024-bit set (the toy sets that the test-suite and the correspondence run
    register). -/
theorem derived_params_consistent_toy (ln : Nat) :
    ParamsConsistent (SysParams.ofBase { LePrime := 120, Lh := 256, Lm := 256, Ln := ln, Lstatzk := 80 }) := by
  simp only [ParamsConsistent, SysParams.ofBase, Gen.makeDerivedParameters, true_and]
  omega

/-! ### what the evaluated predicate means -/

/-- A key pair on which `wellFormed` holds (the predicate the correspondence run evaluates on
    every generated key; `KeyPairWellFormed` in DESIGN.md), and whose `p`, `q` are prime, has:
    distinct primes of half the modulus length, `n = p·q` of exactly `Ln` bits, `p' = (p-1)/2`,
    `q' = (q-1)/2`, the residue conditions (so `CanProve` holds), all of `S, Z, G, H, R_i` squares
    modulo `n` and units, derived parameters equal to what `MakeDerivedParameters` computes from
    the base parameters, the requested number of bases and no worker left. (Membership of `Z`,
    `R_i` in `⟨S⟩` is checked by the order criterion `inSubgroup`; that it is sound, because
    `QR_n` is cyclic of order `p'q'`, is `wellFormed_bases_in_subgroup` in
    `GabiProps/C16Subgroup.lean`.) -/
theorem wellFormed_sound (d : KeyPairData) (h : wellFormed d = true) [Fact d.p.Prime] [Fact d.q.Prime] :
    d.p ≠ d.q ∧ d.n = d.p * d.q ∧ natBitLen d.n = d.ln ∧
    natBitLen d.p = d.ln / 2 ∧ natBitLen d.q = d.ln / 2 ∧
    d.pPrime = (d.p - 1) / 2 ∧ d.qPrime = (d.q - 1) / 2 ∧
    d.p % 8 ≠ d.q % 8 ∧ d.pPrime % 8 ≠ 1 ∧ d.qPrime % 8 ≠ 1 ∧ canProve d.pPrime d.qPrime = true ∧
    (∀ x ∈ d.s :: d.z :: d.g :: d.h :: d.r,
      IsSquare ((x : Int) : ZMod (d.p * d.q)) ∧ Nat.Coprime x (d.p * d.q) ∧ 0 < x ∧ x < d.p * d.q) ∧
    d.params = SysParams.ofBase d.base ∧ d.base.Ln = d.ln ∧ d.r.length = d.nattr ∧ d.leaked = 0 := by
  have k := WellFormedKey.of_wellFormed h
  refine ⟨k.distinct, k.modulus.1, k.modulus_length, k.prime_length.1, k.prime_length.2,
    k.primes_halves.1, k.primes_halves.2, k.p_q_mod8, k.pprime_mod8.1, k.pprime_mod8.2, k.canprove,
    fun x hx => ?_, k.params.2, k.params.1, k.R_count, k.workers_left⟩
  refine isQR_sound d.p d.q x (two_lt_of_safePrimeOk k.p_safeprime).ne'
    (two_lt_of_safePrimeOk k.q_safeprime).ne' k.distinct ?_
  simp only [List.mem_cons] at hx
  rcases hx with rfl | rfl | rfl | rfl | hx
  exacts [k.S_qr, k.Z_qr, k.G_qr, k.H_qr, k.R_qr x hx]

/-! ### the stop protocol of the safe-prime workers -/

open Conc.SafePrimeWorkers in
/-- The `select` send statement (`select { case <-stopped: return; case ints <- x: }`): in every
    reachable state in which the consumer has closed `stop` and no action is enabled, all `n`
    workers have returned (and `stopped` is closed). -/
theorem no_worker_left (n : Nat) (s : St) (hr : Reach .selectSend n s) (hf : s.cons = .finished)
    (hq : terminal .selectSend s = true) : s.done = n ∧ s.stopped = true := by
  have hi := inv_of_reach hr
  have hd (a : Act) : ¬ enabled .selectSend s a := step_eq_none.mp (terminal_iff.mp hq a)
  have hstopped : s.stopped = true := by
    cases hs : s.stopped with
    | true => rfl
    | false => exact absurd ⟨hi.stop_iff.mpr hf, hs⟩ (hd .stopper)
  have hg : s.gen = 0 := Nat.eq_zero_of_not_pos (hd .genDone)
  have hc : s.check = 0 := Nat.eq_zero_of_not_pos fun h => hd .checkQuit ⟨h, hstopped⟩
  have hsd : s.sending = 0 := Nat.eq_zero_of_not_pos fun h => hd .quit ⟨rfl, h, hstopped⟩
  have hw := hi.workers
  rw [hg, hc, hsd, Nat.zero_add] at hw
  exact ⟨hw, hstopped⟩

open Conc.SafePrimeWorkers in
/-- With the `select` send statement every schedule reaches a state without enabled action in
    boundedly many steps: an execution that starts after `close(stop)` has at most
    `measure s ≤ 6·n + 1` steps, and if it ends where no action is enabled, all `n` workers have
    returned. So under any scheduler that keeps taking enabled steps every worker returns. -/
theorem stop_reaches_all (n : Nat) (s s' : St) (acts : List Act) (hr : Reach .selectSend n s)
    (hf : s.cons = .finished) (hrun : runActs .selectSend s acts = some s') :
    acts.length ≤ Conc.SafePrimeWorkers.measure s ∧ Conc.SafePrimeWorkers.measure s ≤ 6 * n + 1 ∧
      (terminal .selectSend s' = true → s'.done = n) :=
  have hi := inv_of_reach hr
  ⟨Nat.le_of_add_right_le (run_length_le_measure acts hi hf hrun), measure_le hi, fun ht =>
    (no_worker_left n s' (reach_of_runActs acts hr hrun) (finished_of_runActs acts hf hrun) ht).1⟩

open Conc.SafePrimeWorkers in
/-- The blocking send statement (`default: ints <- x`, safeprime.GenerateConcurrent in /repo before
    commit 63403f6) strands its workers: for every `n ≥ 1` there is a schedule (the consumer is
    descheduled between its last receive and `close(stop)`) after which `stop` and `stopped` are
    closed, no action is enabled and all `n` workers wait at the send forever. -/
theorem old_send_strands_all_workers (n : Nat) (hn : 0 < n) :
    ∃ s, Reach .blockingSend n s ∧ s.cons = .finished ∧ s.stopped = true ∧
      terminal .blockingSend s = true ∧ s.done = 0 ∧ s.sending = n :=
  ⟨leakState n, reach_of_runActs (leakSchedule n) Reach.init (run_leakSchedule .blockingSend n hn),
    rfl, rfl, terminal_iff.mpr (leakState_terminal n), rfl, rfl⟩

open Conc.SafePrimeWorkers in
/-- With the `select` send statement the schedule of `old_send_strands_all_workers`
    (`leakSchedule`) reaches the same state `leakState`, but there it is not terminal (`n == 0` is
    `false`): every worker can still take the `stopped` branch, and by `stop_reaches_all` they all
    return. -/
theorem repaired_send_survives_leak_schedule (n : Nat) (hn : 0 < n) :
    Reach .selectSend n (leakState n) ∧ terminal .selectSend (leakState n) = (n == 0) :=
  ⟨reach_of_runActs (leakSchedule n) Reach.init (run_leakSchedule .selectSend n hn),
    (leakState_not_terminal hn).trans (beq_false_of_ne (Nat.ne_of_gt hn)).symm⟩

/-! ### non-vacuity -/

/-- the filter is satisfiable by safe primes: `p = 23 = 2·11+1`, `q = 11 = 2·5+1`, `Ln = 8`. -/
example : pairFilter 8 23 11 = true ∧ canProve 11 5 = true := by decide

/-- the receive loop returns that pair from the stream `11, 83, 23` (83 is rejected: 41 ≡ 1 mod 8). -/
example : pairLoop 8 [] [11, 83, 23] = some (23, 11) := by decide

/-- an accepted `S` exists: 4 is a square modulo 23 and 11. -/
example : sAccepted 8 23 11 4 = true := by
  have h1 : legendreSymbol ((4 : Nat) : Int) ((23 : Nat) : Int) = 1 := by
    rw [legendreSymbol_eq_jacobiSym _ 23 (by norm_num)]; norm_num
  have h2 : legendreSymbol ((4 : Nat) : Int) ((11 : Nat) : Int) = 1 := by
    rw [legendreSymbol_eq_jacobiSym _ 11 (by norm_num)]; norm_num
  simp only [sAccepted, Bool.and_eq_true, beq_iff_eq, decide_eq_true_eq, Bool.not_eq_true',
    decide_eq_false_iff_not]
  exact ⟨⟨⟨by norm_num, by norm_num⟩, by exact_mod_cast h1⟩, by exact_mod_cast h2⟩

end Gabi.C16
