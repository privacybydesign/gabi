/-
  C02 — Session binding of a proof list.
  "A proof list (disclosure proofs and/or issuance commitment proofs) that verifies for one tuple
  of context, nonce, signature-session flag, ordered public keys and ordered proofs does not
  verify when any element of that tuple is changed, when proofs are reordered, dropped,
  duplicated or spliced with proofs of another session, or when the list is empty. A proof made
  for a signature session never verifies as a disclosure session proof and vice versa."

  Property theorems about `proofListVerifyWith` (prooflist.go:ProofList.Verify) of
  GabiModel.Proofs; helper lemmas live in GabiProofs.ListLogic, the hash binding in
  GabiProofs.DerLemmas (`createChallenge_binds`).

  Shape of the statements. Acceptance forces every member's own challenge field `c` to equal
  `createChallenge ctx nonce (listContributions …) issig`, where `listContributions` is the
  concatenation, in list order, of the per-proof contributions computed with the i-th key. Hence
  if one and the same proof object is a member of two accepted lists, the two hash inputs have
  the same SHA-256 value: they are equal — same context, same contribution list, same nonce,
  same flag — or they form an explicit collision `Collision a b` (`a ≠ b` with equal digests;
  the two byte strings are named in the statement, nothing is assumed about SHA-256).
  The size hypotheses (`< 256^126` bytes) are those of `createChallenge_binds`.

  `choices` is the model's parameter for the picks of `revocationAttrIndex` (one pair per proof);
  the theorems need `pl.length ≤ choices.length`; see `choices_nil_accepts` for what the model
  does otherwise.
-/
import GabiModel.Proofs
import GabiProofs.ListLogic
import GabiProofs.DerLemmas
namespace Gabi.C02
open Gabi

/-! ### the decision logic -/

/-- **An empty list is rejected** (for every key list, session and labelling). -/
theorem empty_rejected (o : SigOracle) (keys : List (String × PublicKey)) (ctx nonce : Int)
    (issig : Bool) (kss : List String) (choices : List (Int × Int)) :
    proofListVerifyWith o keys [] ctx nonce issig kss choices = .ok false :=
  proofListVerifyWith_guard o keys [] ctx nonce issig kss choices (Or.inl rfl)

/-- a list whose length differs from the number of keys is rejected. -/
theorem length_mismatch_rejected (o : SigOracle) (keys : List (String × PublicKey))
    (pl : List Proof) (ctx nonce : Int) (issig : Bool) (kss : List String)
    (choices : List (Int × Int)) (h : pl.length ≠ keys.length) :
    proofListVerifyWith o keys pl ctx nonce issig kss choices = .ok false :=
  proofListVerifyWith_guard o keys pl ctx nonce issig kss choices (Or.inr (Or.inl h))

/-- The contribution of a disclosure proof is the first component of a successful
    `ProofD.challengeContribution` under the key, with pick `pick` of `revocationAttrIndex`; the
    second component is the proof with the values `SetExpected` wrote into it. -/
theorem hasContribution_d (o : SigOracle) (key : String × PublicKey) (pick : Int) (p : ProofD)
    (cs : List Int) :
    HasContribution o key pick (.d p) cs ↔
      ∃ p', (p.challengeContribution o key.1 key.2 pick).run = .ok (some (cs, p')) := Iff.rfl

/-- The contribution of an issuance commitment proof is the successful result of
    `ProofU.challengeContribution` under the key; oracle, key id and pick play no role. -/
theorem hasContribution_u (o : SigOracle) (key : String × PublicKey) (pick : Int) (p : ProofU)
    (cs : List Int) :
    HasContribution o key pick (.u p) cs ↔ p.challengeContribution key.2 = .ok (some cs) := Iff.rfl

/-- **What acceptance means.** An accepted list is non-empty, has one key per proof and either no
    labelling or one label per proof; every proof `i` has a challenge contribution `css[i]`
    under key `i` (the successful result of `ProofD.challengeContribution` with pick
    `choices[i].1`, resp. of `ProofU.challengeContribution`), and with
    `expected := createChallenge ctx nonce css.flatten issig` the own challenge field `c` of
    every proof equals `expected`. `css.flatten` is `listContributions o keys pl choices`. -/
theorem list_verify_logic {o : SigOracle} {keys : List (String × PublicKey)} {pl : List Proof}
    {ctx nonce : Int} {issig : Bool} {kss : List String} {choices : List (Int × Int)}
    (h : proofListVerifyWith o keys pl ctx nonce issig kss choices = .ok true)
    (hc : pl.length ≤ choices.length) :
    pl ≠ [] ∧ pl.length = keys.length ∧ (kss = [] ∨ kss.length = pl.length) ∧
    ∃ css : List (List Int),
      css.length = pl.length ∧
      css.flatten = listContributions o keys pl choices ∧
      (∀ i (hi : i < pl.length) (hk : i < keys.length) (hch : i < choices.length)
          (hcs : i < css.length),
        HasContribution o keys[i] choices[i].1 pl[i] css[i] ∧ 2 ≤ css[i].length) ∧
      (∀ q ∈ pl, q.challenge = some ((createChallenge ctx nonce css.flatten issig : Nat) : Int)) ∧
      (∀ p, Proof.d p ∈ pl → p.c = some ((createChallenge ctx nonce css.flatten issig : Nat) : Int)) ∧
      (∀ p, Proof.u p ∈ pl → p.c = some ((createChallenge ctx nonce css.flatten issig : Nat) : Int)) := by
  obtain ⟨⟨h1, h2, h3⟩, hitems, -⟩ := accepted_items h
  have hlen : (plItems pl keys choices).length = pl.length := plItems_length_of_le h2 hc
  have hmem : ∀ q ∈ pl, q.challenge =
      some ((createChallenge ctx nonce (listContributions o keys pl choices) issig : Nat) : Int) :=
    fun q hq => (accepted_member h hc hq).1
  -- `css[i]` is the contribution of item `i`, and `css.flatten` is `listContributions` by definition
  refine ⟨h1, h2, h3, (plItems pl keys choices).map (contributionOf o), by rw [List.length_map, hlen],
    rfl, ?_, hmem, fun p hp => hmem _ hp, fun p hp => hmem _ hp⟩
  intro i hi hk hch hcs
  have hx : ((pl[i], keys[i]), choices[i]) ∈ plItems pl keys choices :=
    List.mem_iff_getElem.mpr ⟨i, hlen ▸ hi, by simp only [plItems, List.getElem_zip]⟩
  have hcon := (hitems _ hx).1
  rw [List.getElem_map]
  simp only [plItems, List.getElem_zip]
  exact ⟨hcon, hcon.shape.2.1⟩

/-- every per-proof contribution has at least two entries: a disclosure proof contributes
    `[A, Z, …]`, an issuance commitment proof exactly `[U, Ucommit]`. -/
theorem contribution_length_ge_two {o : SigOracle} {key : String × PublicKey} {pick : Int}
    {q : Proof} {cs : List Int} (h : HasContribution o key pick q cs) :
    2 ≤ cs.length ∧ (∀ p, q = .u p → cs.length = 2) :=
  h.shape.2

/-- **All members of an accepted list carry the same challenge.** -/
theorem member_challenge_eq {o : SigOracle} {keys : List (String × PublicKey)} {pl : List Proof}
    {ctx nonce : Int} {issig : Bool} {kss : List String} {choices : List (Int × Int)}
    (h : proofListVerifyWith o keys pl ctx nonce issig kss choices = .ok true)
    (hc : pl.length ≤ choices.length) {q q' : Proof} (hq : q ∈ pl) (hq' : q' ∈ pl) :
    q.challenge = q'.challenge ∧ q.challenge.isSome = true := by
  rw [(accepted_member h hc hq).1, (accepted_member h hc hq').1]; exact ⟨rfl, rfl⟩

/-! ### session binding -/

/-- **Session binding.** If a list is accepted for `(keys, ctx, nonce, issig)` and a list is
    accepted for `(keys', ctx', nonce', issig')` and one proof object is a member of both, then
    the two sessions hash the same data: same context, same ordered contribution list, same
    nonce, same session kind — or the two hash inputs are an explicit SHA-256 collision. -/
theorem session_binding {o o' : SigOracle} {keys keys' : List (String × PublicKey)}
    {pl pl' : List Proof} {ctx ctx' nonce nonce' : Int} {issig issig' : Bool}
    {kss kss' : List String} {choices choices' : List (Int × Int)}
    (h : proofListVerifyWith o keys pl ctx nonce issig kss choices = .ok true)
    (h' : proofListVerifyWith o' keys' pl' ctx' nonce' issig' kss' choices' = .ok true)
    (hc : pl.length ≤ choices.length) (hc' : pl'.length ≤ choices'.length)
    {q : Proof} (hq : q ∈ pl) (hq' : q ∈ pl')
    (hl : (challengeInput ctx nonce (listContributions o keys pl choices) issig).length < 256 ^ 126)
    (hl' : (challengeInput ctx' nonce' (listContributions o' keys' pl' choices') issig').length
      < 256 ^ 126) :
    (ctx = ctx' ∧ listContributions o keys pl choices = listContributions o' keys' pl' choices' ∧
        nonce = nonce' ∧ issig = issig') ∨
      Collision (challengeInput ctx nonce (listContributions o keys pl choices) issig)
        (challengeInput ctx' nonce' (listContributions o' keys' pl' choices') issig') := by
  have e1 := (accepted_member h hc hq).1
  have e2 := (accepted_member h' hc' hq').1
  rw [e1] at e2
  have e3 : createChallenge ctx nonce (listContributions o keys pl choices) issig =
      createChallenge ctx' nonce' (listContributions o' keys' pl' choices') issig' := by
    exact_mod_cast Option.some.inj e2
  exact createChallenge_binds hl hl' e3

/-- **A signature-session proof is no disclosure-session proof and vice versa**: a proof that is
    a member of a list accepted with flag `issig` and of a list accepted with the other flag
    yields a collision. -/
theorem flag_binding {o o' : SigOracle} {keys keys' : List (String × PublicKey)}
    {pl pl' : List Proof} {ctx ctx' nonce nonce' : Int} {issig issig' : Bool}
    {kss kss' : List String} {choices choices' : List (Int × Int)}
    (h : proofListVerifyWith o keys pl ctx nonce issig kss choices = .ok true)
    (h' : proofListVerifyWith o' keys' pl' ctx' nonce' issig' kss' choices' = .ok true)
    (hc : pl.length ≤ choices.length) (hc' : pl'.length ≤ choices'.length)
    {q : Proof} (hq : q ∈ pl) (hq' : q ∈ pl')
    (hl : (challengeInput ctx nonce (listContributions o keys pl choices) issig).length < 256 ^ 126)
    (hl' : (challengeInput ctx' nonce' (listContributions o' keys' pl' choices') issig').length
      < 256 ^ 126) :
    issig = issig' ∨
      Collision (challengeInput ctx nonce (listContributions o keys pl choices) issig)
        (challengeInput ctx' nonce' (listContributions o' keys' pl' choices') issig') :=
  (session_binding h h' hc hc' hq hq' hl hl').imp_left (·.2.2.2)

/-- **The nonce is bound**: a proof that is a member of two accepted lists was verified against
    the same nonce both times, or the two hash inputs are an explicit collision. -/
theorem nonce_binding {o o' : SigOracle} {keys keys' : List (String × PublicKey)}
    {pl pl' : List Proof} {ctx ctx' nonce nonce' : Int} {issig issig' : Bool}
    {kss kss' : List String} {choices choices' : List (Int × Int)}
    (h : proofListVerifyWith o keys pl ctx nonce issig kss choices = .ok true)
    (h' : proofListVerifyWith o' keys' pl' ctx' nonce' issig' kss' choices' = .ok true)
    (hc : pl.length ≤ choices.length) (hc' : pl'.length ≤ choices'.length)
    {q : Proof} (hq : q ∈ pl) (hq' : q ∈ pl')
    (hl : (challengeInput ctx nonce (listContributions o keys pl choices) issig).length < 256 ^ 126)
    (hl' : (challengeInput ctx' nonce' (listContributions o' keys' pl' choices') issig').length
      < 256 ^ 126) :
    nonce = nonce' ∨
      Collision (challengeInput ctx nonce (listContributions o keys pl choices) issig)
        (challengeInput ctx' nonce' (listContributions o' keys' pl' choices') issig') :=
  (session_binding h h' hc hc' hq hq' hl hl').imp_left (·.2.2.1)

/-- **The context is bound**: a proof that is a member of two accepted lists was verified against
    the same context both times, or the two hash inputs are an explicit collision. -/
theorem context_binding {o o' : SigOracle} {keys keys' : List (String × PublicKey)}
    {pl pl' : List Proof} {ctx ctx' nonce nonce' : Int} {issig issig' : Bool}
    {kss kss' : List String} {choices choices' : List (Int × Int)}
    (h : proofListVerifyWith o keys pl ctx nonce issig kss choices = .ok true)
    (h' : proofListVerifyWith o' keys' pl' ctx' nonce' issig' kss' choices' = .ok true)
    (hc : pl.length ≤ choices.length) (hc' : pl'.length ≤ choices'.length)
    {q : Proof} (hq : q ∈ pl) (hq' : q ∈ pl')
    (hl : (challengeInput ctx nonce (listContributions o keys pl choices) issig).length < 256 ^ 126)
    (hl' : (challengeInput ctx' nonce' (listContributions o' keys' pl' choices') issig').length
      < 256 ^ 126) :
    ctx = ctx' ∨
      Collision (challengeInput ctx nonce (listContributions o keys pl choices) issig)
        (challengeInput ctx' nonce' (listContributions o' keys' pl' choices') issig') :=
  (session_binding h h' hc hc' hq hq' hl hl').imp_left (·.1)

/-- the ordered contribution list (hence proofs *and* keys, as far as they enter the
    contributions) is bound: splicing a member of an accepted list into another accepted list
    forces both lists to hash the same contribution list. -/
theorem contributions_binding {o o' : SigOracle} {keys keys' : List (String × PublicKey)}
    {pl pl' : List Proof} {ctx ctx' nonce nonce' : Int} {issig issig' : Bool}
    {kss kss' : List String} {choices choices' : List (Int × Int)}
    (h : proofListVerifyWith o keys pl ctx nonce issig kss choices = .ok true)
    (h' : proofListVerifyWith o' keys' pl' ctx' nonce' issig' kss' choices' = .ok true)
    (hc : pl.length ≤ choices.length) (hc' : pl'.length ≤ choices'.length)
    {q : Proof} (hq : q ∈ pl) (hq' : q ∈ pl')
    (hl : (challengeInput ctx nonce (listContributions o keys pl choices) issig).length < 256 ^ 126)
    (hl' : (challengeInput ctx' nonce' (listContributions o' keys' pl' choices') issig').length
      < 256 ^ 126) :
    listContributions o keys pl choices = listContributions o' keys' pl' choices' ∨
      Collision (challengeInput ctx nonce (listContributions o keys pl choices) issig)
        (challengeInput ctx' nonce' (listContributions o' keys' pl' choices') issig') :=
  (session_binding h h' hc hc' hq hq' hl hl').imp_left (·.2.1)

/-! ### dropped, duplicated, inserted and reordered proofs -/

/-- **Dropping proofs.** Let `pl'` (with its keys and picks) be obtained from `pl` by dropping at
    least one proof together with its key: the items of `pl'` are a strictly shorter sublist of
    the items of `pl`. Then the hashed contribution lists have different lengths (every proof
    contributes at least two integers), so the two lists cannot both be accepted — under any
    contexts, nonces and flags — unless the two hash inputs are an explicit collision. -/
theorem sublist_binding {o : SigOracle} {keys keys' : List (String × PublicKey)}
    {pl pl' : List Proof} {ctx ctx' nonce nonce' : Int} {issig issig' : Bool}
    {kss kss' : List String} {choices choices' : List (Int × Int)}
    (h : proofListVerifyWith o keys pl ctx nonce issig kss choices = .ok true)
    (h' : proofListVerifyWith o keys' pl' ctx' nonce' issig' kss' choices' = .ok true)
    (hc : pl.length ≤ choices.length) (hc' : pl'.length ≤ choices'.length)
    (hsub : (plItems pl' keys' choices').Sublist (plItems pl keys choices))
    (hlt : pl'.length < pl.length)
    (hl : (challengeInput ctx nonce (listContributions o keys pl choices) issig).length < 256 ^ 126)
    (hl' : (challengeInput ctx' nonce' (listContributions o keys' pl' choices') issig').length
      < 256 ^ 126) :
    (listContributions o keys' pl' choices').length < (listContributions o keys pl choices).length ∧
    Collision (challengeInput ctx nonce (listContributions o keys pl choices) issig)
      (challengeInput ctx' nonce' (listContributions o keys' pl' choices') issig') := by
  obtain ⟨⟨-, hk, -⟩, hitems, -⟩ := accepted_items h
  obtain ⟨⟨hne', hk', -⟩, -⟩ := accepted_items h'
  have hlen : (listContributions o keys' pl' choices').length <
      (listContributions o keys pl choices).length := by
    unfold listContributions
    refine flatten_map_length_lt_of_sublist hsub ?_
      fun x hx => Nat.lt_of_lt_of_le Nat.zero_lt_two (hitems x hx).1.shape.2.1
    rw [plItems_length_of_le hk hc, plItems_length_of_le hk' hc']; exact hlt
  refine ⟨hlen, ?_⟩
  obtain ⟨q, hq'⟩ := List.exists_mem_of_ne_nil pl' hne'
  have hq : q ∈ pl := mem_of_plItems_subset hk' hc' hsub.subset hq'
  rcases session_binding h h' hc hc' hq hq' hl hl' with ⟨-, he, -⟩ | hcol
  · rw [he] at hlen; omega
  · exact hcol

/-- **Dropping one proof.** An accepted list from which proof number `k` has been removed
    together with its key and pick is not accepted for any context, nonce and flag, unless the two
    hash inputs are an explicit collision. -/
theorem drop_binding {o : SigOracle} {keys : List (String × PublicKey)} {pl : List Proof}
    {ctx ctx' nonce nonce' : Int} {issig issig' : Bool} {kss kss' : List String}
    {choices : List (Int × Int)} {k : Nat} (hk : k < pl.length)
    (hch : choices.length = pl.length)
    (h : proofListVerifyWith o keys pl ctx nonce issig kss choices = .ok true)
    (h' : proofListVerifyWith o (keys.eraseIdx k) (pl.eraseIdx k) ctx' nonce' issig' kss'
      (choices.eraseIdx k) = .ok true)
    (hl : (challengeInput ctx nonce (listContributions o keys pl choices) issig).length < 256 ^ 126)
    (hl' : (challengeInput ctx' nonce'
      (listContributions o (keys.eraseIdx k) (pl.eraseIdx k) (choices.eraseIdx k)) issig').length
      < 256 ^ 126) :
    Collision (challengeInput ctx nonce (listContributions o keys pl choices) issig)
      (challengeInput ctx' nonce'
        (listContributions o (keys.eraseIdx k) (pl.eraseIdx k) (choices.eraseIdx k)) issig') := by
  refine (sublist_binding h h' (by omega) ?_ ?_ ?_ hl hl').2
  · rw [List.length_eraseIdx, List.length_eraseIdx]; simp [hk, hch]
  · rw [plItems_eraseIdx]; exact List.eraseIdx_sublist _ _
  · rw [List.length_eraseIdx]; simp [hk]; omega

/-- **Duplicating or inserting proofs.** Let `pl'` contain all items of `pl` in order plus at
    least one more (a duplicate of a member, or a proof of another session, anywhere). Then the
    hashed contribution lists have different lengths and the two lists cannot both be accepted
    unless the two hash inputs are an explicit collision. -/
theorem duplicate_binding {o : SigOracle} {keys keys' : List (String × PublicKey)}
    {pl pl' : List Proof} {ctx ctx' nonce nonce' : Int} {issig issig' : Bool}
    {kss kss' : List String} {choices choices' : List (Int × Int)}
    (h : proofListVerifyWith o keys pl ctx nonce issig kss choices = .ok true)
    (h' : proofListVerifyWith o keys' pl' ctx' nonce' issig' kss' choices' = .ok true)
    (hc : pl.length ≤ choices.length) (hc' : pl'.length ≤ choices'.length)
    (hsub : (plItems pl keys choices).Sublist (plItems pl' keys' choices'))
    (hlt : pl.length < pl'.length)
    (hl : (challengeInput ctx nonce (listContributions o keys pl choices) issig).length < 256 ^ 126)
    (hl' : (challengeInput ctx' nonce' (listContributions o keys' pl' choices') issig').length
      < 256 ^ 126) :
    (listContributions o keys pl choices).length < (listContributions o keys' pl' choices').length ∧
    Collision (challengeInput ctx nonce (listContributions o keys pl choices) issig)
      (challengeInput ctx' nonce' (listContributions o keys' pl' choices') issig') := by
  obtain ⟨hlen, hcol⟩ := sublist_binding h' h hc' hc hsub hlt hl' hl
  exact ⟨hlen, hcol.symm⟩

/-- **Reordering.** If the items of `pl'` are a permutation of the items of `pl` (proofs, keys
    and picks permuted alike) and both lists are accepted for the same context, nonce and flag,
    then the two *flattened* contribution lists are equal, or the hash inputs collide.
    Note what this does and does not say: a reordering that changes the concatenated
    contributions is rejected; a reordering that leaves the concatenation unchanged (e.g.
    swapping two members with identical contributions) hashes the very same bytes and is
    accepted alike — equality of the flattened lists does not by itself determine the order of
    the members. -/
theorem perm_binding {o : SigOracle} {keys keys' : List (String × PublicKey)}
    {pl pl' : List Proof} {ctx nonce : Int} {issig : Bool}
    {kss kss' : List String} {choices choices' : List (Int × Int)}
    (h : proofListVerifyWith o keys pl ctx nonce issig kss choices = .ok true)
    (h' : proofListVerifyWith o keys' pl' ctx nonce issig kss' choices' = .ok true)
    (hc : pl.length ≤ choices.length) (hc' : pl'.length ≤ choices'.length)
    (hperm : (plItems pl' keys' choices').Perm (plItems pl keys choices))
    (hl : (challengeInput ctx nonce (listContributions o keys pl choices) issig).length < 256 ^ 126)
    (hl' : (challengeInput ctx nonce (listContributions o keys' pl' choices') issig).length
      < 256 ^ 126) :
    listContributions o keys pl choices = listContributions o keys' pl' choices' ∨
      Collision (challengeInput ctx nonce (listContributions o keys pl choices) issig)
        (challengeInput ctx nonce (listContributions o keys' pl' choices') issig) := by
  obtain ⟨⟨hne', hk', -⟩, -⟩ := accepted_items h'
  obtain ⟨q, hq'⟩ := List.exists_mem_of_ne_nil pl' hne'
  exact contributions_binding h h' hc hc' (mem_of_plItems_subset hk' hc' hperm.subset hq') hq' hl hl'

/-- A reordering (the items of `pl'` are a permutation of the items of `pl`) that changes the
    hashed contribution list is not accepted for the same session, unless the hash inputs collide
    (contrapositive of `perm_binding`). -/
theorem reorder_rejected {o : SigOracle} {keys keys' : List (String × PublicKey)}
    {pl pl' : List Proof} {ctx nonce : Int} {issig : Bool}
    {kss kss' : List String} {choices choices' : List (Int × Int)}
    (h : proofListVerifyWith o keys pl ctx nonce issig kss choices = .ok true)
    (hc : pl.length ≤ choices.length) (hc' : pl'.length ≤ choices'.length)
    (hperm : (plItems pl' keys' choices').Perm (plItems pl keys choices))
    (hdiff : listContributions o keys pl choices ≠ listContributions o keys' pl' choices')
    (hl : (challengeInput ctx nonce (listContributions o keys pl choices) issig).length < 256 ^ 126)
    (hl' : (challengeInput ctx nonce (listContributions o keys' pl' choices') issig).length
      < 256 ^ 126) :
    proofListVerifyWith o keys' pl' ctx nonce issig kss' choices' ≠ .ok true ∨
      Collision (challengeInput ctx nonce (listContributions o keys pl choices) issig)
        (challengeInput ctx nonce (listContributions o keys' pl' choices') issig) := by
  by_cases h' : proofListVerifyWith o keys' pl' ctx nonce issig kss' choices' = .ok true
  · rcases perm_binding h h' hc hc' hperm hl hl' with he | hcol
    · exact absurd he hdiff
    · exact Or.inr hcol
  · exact Or.inl h'

/-! ### single proofs: `ProofD.verifyWith`, `ProofU.verify` -/

/-- a single disclosure proof is accepted only if its own `c` is the challenge of
    `(ctx, nonce, its contribution, issig)`. -/
theorem proofD_verify_logic {o : SigOracle} {kid : String} {pk : PublicKey} {p : ProofD}
    {ctx nonce : Int} {issig : Bool} {i1 i2 : Int}
    (h : p.verifyWith o kid pk ctx nonce issig i1 i2 = .ok true) :
    (∃ p', (p.challengeContribution o kid pk i1).run = .ok (some (p.contribution o kid pk i1, p'))) ∧
    p.c = some ((createChallenge ctx nonce (p.contribution o kid pk i1) issig : Nat) : Int) := by
  obtain ⟨cs, p', hr, hc⟩ := ProofD.verifyWith_challenge h
  have hco : p.contribution o kid pk i1 = cs := by simp [ProofD.contribution, hr]
  rw [hco]
  exact ⟨⟨p', hr⟩, hc⟩

/-- a single issuance commitment proof is accepted only if its own `c` is the challenge of
    `(ctx, nonce, its contribution)` with the disclosure-session flag. -/
theorem proofU_verify_logic {pk : PublicKey} {p : ProofU} {ctx nonce : Int}
    (h : p.verify pk ctx nonce = .ok true) :
    p.challengeContribution pk = .ok (some (p.contribution pk)) ∧
    p.c = some ((createChallenge ctx nonce (p.contribution pk) false : Nat) : Int) := by
  rw [ProofU.verify] at h
  obtain ⟨_ | cs, hr, h⟩ := GoM.bind_ok h
  · cases h
  · have hco : p.contribution pk = cs := by simp [ProofU.contribution, hr]
    rw [hco]
    exact ⟨hr, (ProofU.verifyWithChallenge_ok_true h).2⟩

/-- session binding of a single disclosure proof: accepted twice ⇒ same session data or an
    explicit collision. -/
theorem proofD_session_binding {o o' : SigOracle} {kid kid' : String} {pk pk' : PublicKey}
    {p : ProofD} {ctx ctx' nonce nonce' : Int} {issig issig' : Bool} {i1 i2 i1' i2' : Int}
    (h : p.verifyWith o kid pk ctx nonce issig i1 i2 = .ok true)
    (h' : p.verifyWith o' kid' pk' ctx' nonce' issig' i1' i2' = .ok true)
    (hl : (challengeInput ctx nonce (p.contribution o kid pk i1) issig).length < 256 ^ 126)
    (hl' : (challengeInput ctx' nonce' (p.contribution o' kid' pk' i1') issig').length < 256 ^ 126) :
    (ctx = ctx' ∧ p.contribution o kid pk i1 = p.contribution o' kid' pk' i1' ∧ nonce = nonce' ∧
        issig = issig') ∨
      Collision (challengeInput ctx nonce (p.contribution o kid pk i1) issig)
        (challengeInput ctx' nonce' (p.contribution o' kid' pk' i1') issig') := by
  have e1 := (proofD_verify_logic h).2
  have e2 := (proofD_verify_logic h').2
  rw [e1] at e2
  exact createChallenge_binds hl hl' (by exact_mod_cast Option.some.inj e2)

/-- **a disclosure proof made for a signature session never verifies as a disclosure-session
    proof and vice versa** (single-proof form): both acceptances together are a collision. -/
theorem proofD_flag_binding {o o' : SigOracle} {kid kid' : String} {pk pk' : PublicKey}
    {p : ProofD} {ctx ctx' nonce nonce' : Int} {i1 i2 i1' i2' : Int}
    (h : p.verifyWith o kid pk ctx nonce true i1 i2 = .ok true)
    (h' : p.verifyWith o' kid' pk' ctx' nonce' false i1' i2' = .ok true)
    (hl : (challengeInput ctx nonce (p.contribution o kid pk i1) true).length < 256 ^ 126)
    (hl' : (challengeInput ctx' nonce' (p.contribution o' kid' pk' i1') false).length < 256 ^ 126) :
    Collision (challengeInput ctx nonce (p.contribution o kid pk i1) true)
      (challengeInput ctx' nonce' (p.contribution o' kid' pk' i1') false) := by
  rcases proofD_session_binding h h' hl hl' with ⟨-, -, -, hf⟩ | hcol
  · cases hf
  · exact hcol

/-- session binding of a single issuance commitment proof: accepted by `ProofU.Verify` twice ⇒
    same context, contribution and nonce, or an explicit collision. -/
theorem proofU_session_binding {pk pk' : PublicKey} {p : ProofU} {ctx ctx' nonce nonce' : Int}
    (h : p.verify pk ctx nonce = .ok true) (h' : p.verify pk' ctx' nonce' = .ok true)
    (hl : (challengeInput ctx nonce (p.contribution pk) false).length < 256 ^ 126)
    (hl' : (challengeInput ctx' nonce' (p.contribution pk') false).length < 256 ^ 126) :
    (ctx = ctx' ∧ p.contribution pk = p.contribution pk' ∧ nonce = nonce') ∨
      Collision (challengeInput ctx nonce (p.contribution pk) false)
        (challengeInput ctx' nonce' (p.contribution pk') false) := by
  have e1 := (proofU_verify_logic h).2
  have e2 := (proofU_verify_logic h').2
  rw [e1] at e2
  rcases createChallenge_binds hl hl' (by exact_mod_cast Option.some.inj e2) with ⟨a, b, c, -⟩ | hcol
  · exact Or.inl ⟨a, b, c⟩
  · exact Or.inr hcol

/-- a member (of either kind) of a list accepted as a *signature* session that also verifies on
    its own as a disclosure-session proof (`ProofU.verify` always is one) yields a collision. -/
theorem proofU_not_signature {o : SigOracle} {keys : List (String × PublicKey)} {pl : List Proof}
    {ctx ctx' nonce nonce' : Int} {kss : List String} {choices : List (Int × Int)}
    {p : ProofU} {pk' : PublicKey}
    (h : proofListVerifyWith o keys pl ctx nonce true kss choices = .ok true)
    (hc : pl.length ≤ choices.length) (hp : Proof.u p ∈ pl)
    (h' : p.verify pk' ctx' nonce' = .ok true)
    (hl : (challengeInput ctx nonce (listContributions o keys pl choices) true).length < 256 ^ 126)
    (hl' : (challengeInput ctx' nonce' (p.contribution pk') false).length < 256 ^ 126) :
    Collision (challengeInput ctx nonce (listContributions o keys pl choices) true)
      (challengeInput ctx' nonce' (p.contribution pk') false) := by
  have e1 : p.c = _ := (accepted_member h hc hp).1
  have e2 := (proofU_verify_logic h').2
  rw [e1] at e2
  rcases createChallenge_binds hl hl' (by exact_mod_cast Option.some.inj e2) with ⟨-, -, -, hf⟩ | hcol
  · cases hf
  · exact hcol

/-! ### the model parameter `choices` -/

/-- What happens when `choices` does not provide a pair for every proof: the model's loops
    range over `zip`s, so only the first `choices.length` proofs are looked at. In the extreme
    case `choices = []` every non-empty list with the right number of keys (and labels) is
    "accepted". This is an artefact of the parameterisation (Go has no such parameter; the
    harness always passes `choiceCombos (pl.map Proof.revChoices)`, whose members have length
    `pl.length`), and the reason for the hypothesis `pl.length ≤ choices.length` of the theorems of
    this file. -/
theorem choices_nil_accepts (o : SigOracle) (keys : List (String × PublicKey)) (pl : List Proof)
    (ctx nonce : Int) (issig : Bool) (kss : List String)
    (h1 : pl ≠ []) (h2 : pl.length = keys.length) (h3 : kss = [] ∨ kss.length = pl.length) :
    proofListVerifyWith o keys pl ctx nonce issig kss [] = .ok true :=
  proofListVerifyWith_nil_choices o keys pl ctx nonce issig kss ⟨h1, h2, h3⟩

/-- the harness' choice lists have one pair per proof. -/
theorem choiceCombos_length : ∀ (css : List (List Int)) (ch : List (Int × Int)),
    ch ∈ choiceCombos css → ch.length = css.length := by
  intro css
  induction css with
  | nil => intro ch h; simp [choiceCombos] at h; subst h; rfl
  | cons cs rest ih =>
    intro ch h
    simp only [choiceCombos, List.mem_flatMap, List.mem_map] at h
    obtain ⟨ab, -, t, ht, rfl⟩ := h
    simp [ih t ht]

/-! ### non-vacuity -/

/-- the size hypothesis is satisfiable (and harmless: 256^126 bytes is far beyond any input). -/
example : (challengeInput 5 7 [1, -129, 2 ^ 200, 3] true).length < 256 ^ 126 := by decide

/-- the acceptance hypotheses are satisfiable: `Gabi.Ex` (end of GabiProofs.ListLogic) is a
    two-proof list, accepted by the model for context 1, nonce 2 as a disclosure session, with
    any labelling of the right length; its hashed contribution list is `[1, 1, 1, 1]`. -/
example : proofListVerifyWith Ex.noOracle Ex.keys Ex.pl 1 2 false [] Ex.choices = .ok true :=
  Ex.accepted [] (Or.inl rfl)
example : Ex.pl.length ≤ Ex.choices.length := Nat.le_refl 2
example : (challengeInput 1 2 (listContributions Ex.noOracle Ex.keys Ex.pl Ex.choices) false).length
    < 256 ^ 126 := by rw [Ex.contributions]; decide

/-- `list_verify_logic` on the example: both members carry the challenge of `[1, 1, 1, 1]`. -/
example : ∀ q ∈ Ex.pl,
    q.challenge = some ((createChallenge 1 2 [1, 1, 1, 1] false : Nat) : Int) := by
  obtain ⟨-, -, -, css, -, hfl, -, hm, -⟩ :=
    list_verify_logic (Ex.accepted [] (Or.inl rfl)) (Nat.le_refl 2)
  rw [hfl, Ex.contributions] at hm
  exact hm

/-- `flag_binding` on the example: whoever gets the same list accepted as a *signature* session —
    under any context, nonce and labelling — exhibits a SHA-256 collision between the two named
    byte strings. (The hypotheses of `sublist_binding`, `duplicate_binding`, `proofD_flag_binding`
    etc. cannot be instantiated without such a collision: that is what they state.) -/
example (ctx' nonce' : Int) (kss' : List String)
    (h' : proofListVerifyWith Ex.noOracle Ex.keys Ex.pl ctx' nonce' true kss' Ex.choices = .ok true)
    (hl' : (challengeInput ctx' nonce' [1, 1, 1, 1] true).length < 256 ^ 126) :
    Collision (challengeInput 1 2 [1, 1, 1, 1] false) (challengeInput ctx' nonce' [1, 1, 1, 1] true) := by
  have hmem : Ex.pl[0]'(Nat.zero_lt_two) ∈ Ex.pl := List.getElem_mem _
  have := flag_binding (Ex.accepted [] (Or.inl rfl)) h' (Nat.le_refl 2) (Nat.le_refl 2) hmem hmem
  rw [Ex.contributions] at this
  rcases this (by decide) hl' with hf | hcol
  · cases hf
  · exact hcol

/-- **Limit of the reordering clause (model behaviour, same in Go).** The challenge hashes only
    the concatenated contributions. Two *different* proofs with identical contributions can
    therefore be swapped: the example list and its reverse (a different list) are both accepted
    for the same context, nonce, flag and keys. `perm_binding` is the exact statement: a
    reordering is detected iff it changes the concatenated contribution list. -/
theorem reorder_identical_contributions_accepted :
    Ex.pl.reverse ≠ Ex.pl ∧
    proofListVerifyWith Ex.noOracle Ex.keys Ex.pl 1 2 false [] Ex.choices = .ok true ∧
    proofListVerifyWith Ex.noOracle Ex.keys Ex.pl.reverse 1 2 false [] Ex.choices = .ok true := by
  -- the two lists differ in their first member's `vPrimeResponse`
  have hne : Ex.pl.reverse ≠ Ex.pl := fun h => by
    simpa [Ex.pl, Ex.proofU] using congrArg List.head? h
  have hrev : proofListVerifyWith Ex.noOracle Ex.keys Ex.pl.reverse 1 2 false [] Ex.choices =
      .ok true :=
    Ex.accepted_pair 55 0 Ex.modPow_s55 (Ex.modPow_zero 9) (by norm_num) (by norm_num)
      (by norm_num) (by norm_num) [] (Or.inl rfl)
  exact ⟨hne, Ex.accepted [] (Or.inl rfl), hrev⟩

end Gabi.C02

#print axioms Gabi.C02.empty_rejected
#print axioms Gabi.C02.length_mismatch_rejected
#print axioms Gabi.C02.list_verify_logic
#print axioms Gabi.C02.contribution_length_ge_two
#print axioms Gabi.C02.member_challenge_eq
#print axioms Gabi.C02.session_binding
#print axioms Gabi.C02.flag_binding
#print axioms Gabi.C02.nonce_binding
#print axioms Gabi.C02.context_binding
#print axioms Gabi.C02.contributions_binding
#print axioms Gabi.C02.sublist_binding
#print axioms Gabi.C02.drop_binding
#print axioms Gabi.C02.duplicate_binding
#print axioms Gabi.C02.perm_binding
#print axioms Gabi.C02.reorder_rejected
#print axioms Gabi.C02.proofD_verify_logic
#print axioms Gabi.C02.proofU_verify_logic
#print axioms Gabi.C02.proofD_session_binding
#print axioms Gabi.C02.proofD_flag_binding
#print axioms Gabi.C02.proofU_session_binding
#print axioms Gabi.C02.proofU_not_signature
#print axioms Gabi.C02.choices_nil_accepts
#print axioms Gabi.C02.choiceCombos_length
#print axioms Gabi.C02.reorder_identical_contributions_accepted
