/-
  C17 — Key-correctness proofs accept good keys and reject bad ones.
  Partial. Gennaro component proofs: what acceptance means per round, completeness, and what each excludes
  qualitatively; the statistical soundness bounds are not proved. Camenisch part: completeness and special
  soundness of the representation proof, the size limit of the range proof, the XOR split of the
  OR-composition, the single Fiat–Shamir input. The structure of the composed proof: C17Tree.
  Helper lemmas: GabiProofs.KeyProofLemmas, AsppComplete, QrMultipliers, RootSoundness.
-/
import GabiModel.KeyProof
import GabiProofs.KeyProofLemmas
import GabiProofs.DerLemmas
import GabiProofs.QrMultipliers
import GabiProofs.RootSoundness
import GabiProofs.AsppComplete
namespace Gabi.C17
open Gabi Gabi.KeyProof

/-! ## Gennaro component proofs -/

/-- **Square-free proof, what acceptance means.** If the verifier accepts then every one of the
    `squareFreeIters` round challenges (derived from the challenge by `GetHashNumber`) is an
    `N`-th power modulo `N`, the response being a root. -/
theorem squareFree_accept_rounds {n : Int} (hn : 0 < n) (challenge index : Int) (rs : List Int)
    (h : squareFreeVerifyProof n challenge index rs = .accept) :
    rs.length = Gen.kp_squareFreeIters ∧
    ∀ i, i < Gen.kp_squareFreeIters → ∃ r, rs[i]? = some r ∧
      r ^ n.toNat % n = roundChallenge challenge index i n := by
  unfold squareFreeVerifyProof at h
  rw [if_neg (by omega)] at h
  split at h
  · exact absurd h (by simp)
  · next hl => exact ⟨not_not.mp hl, (rootRounds_accept_iff hn hn.le _ _ rs).mp h⟩

/-- **Square-free proof, completeness.** For a modulus `N` with `φ(N) ≥ 2` (every `N > 2`), whenever
    the real prover's computation goes through – `N` invertible modulo `φ(N)`, i.e. `gcd(N, φ(N)) = 1`,
    and every round challenge a unit – the verifier accepts what it produced. -/
theorem squareFree_complete (N : Nat) (challenge index : Int) (rs : List Int)
    (hφ : 2 ≤ Nat.totient N)
    (hb : squareFreeBuild N (Nat.totient N) challenge index = some rs) :
    squareFreeVerifyProof N challenge index rs = .accept :=
  squareFree_accept_of_build hφ hb

/-- **Disjoint-prime-product proof, what acceptance means.** `N` is not (probably) prime and every
    round challenge is an `odd(N−1)`-th power modulo `N`, where `odd(N−1)` is the odd part of `N−1`. -/
theorem disjointPrimeProduct_accept_rounds {n : Int} (challenge index : Int) (rs : List Int)
    (h : disjointPrimeProductVerifyProof n challenge index rs = .accept) :
    1 < n ∧ probablyPrime n.toNat = false ∧
    ∀ i, i < Gen.kp_squareFreeIters → ∃ r, rs[i]? = some r ∧
      r ^ (oddPartPred n).toNat % n = roundChallenge challenge index i n := by
  unfold disjointPrimeProductVerifyProof at h
  split at h
  · exact absurd h (by simp)
  · next hprime =>
    split at h
    · exact absurd h (by simp)
    · next hn1 =>
      have hn : 1 < n := by omega
      have hnp : probablyPrime n.toNat = false := by
        cases hpp : probablyPrime n.toNat with
        | false => rfl
        | true => exact absurd ⟨by omega, hpp⟩ hprime
      exact ⟨hn, hnp, (rootRounds_accept_iff (by omega) (Int.natCast_nonneg _) _ _ rs).mp h⟩

/-- **Disjoint-prime-product proof, completeness.** For `N = p·q`, `p ≠ q` prime, which the
    primality oracle recognises as composite: whenever the real prover's computation goes through
    (`odd(N−1)` invertible modulo `φ(N) = (p−1)(q−1)`, all round challenges units) the verifier
    accepts its output. -/
theorem disjointPrimeProduct_complete (p q : Nat) (hp : p.Prime) (hq : q.Prime) (hne : p ≠ q)
    (hnp : probablyPrime (p * q) = false)
    (challenge index : Int) (rs : List Int)
    (hb : disjointPrimeProductBuild p q challenge index = some rs) :
    disjointPrimeProductVerifyProof ((p * q : Nat) : Int) challenge index rs = .accept := by
  have hp2 := hp.two_le
  have hq2 := hq.two_le
  have htot := totient_two_primes hp hq hne
  have hφ : 2 ≤ Nat.totient (p * q) := by
    rw [htot]
    have h3 : 2 ≤ p - 1 ∨ 2 ≤ q - 1 := by omega
    rcases h3 with h | h
    · exact Nat.mul_le_mul h (by omega : 1 ≤ q - 1)
    · exact Nat.mul_le_mul (by omega : 1 ≤ p - 1) h
  refine disjointPrimeProduct_accept_of_build (by push_cast; ring) ?_ hφ hnp hb
  rw [htot]
  push_cast [Nat.cast_sub (by omega : 1 ≤ p), Nat.cast_sub (by omega : 1 ≤ q)]
  ring

/-- **Prime-power-product proof, what acceptance means.** Every response squares, modulo `N`, to
    one of `c, −c, 2c, −2c` for its round challenge `c`. -/
theorem primePowerProduct_accept_rounds {n : Int} (hn : 0 < n) (challenge index : Int) (rs : List Int)
    (h : primePowerProductVerifyProof n challenge index rs = .accept) :
    ∀ i, i < Gen.kp_primePowerProductIters → ∃ r, rs[i]? = some r ∧
      let c := roundChallenge challenge index i n
      (r ^ 2 % n = c ∨ r ^ 2 % n = (-c) % n ∨ r ^ 2 % n = (2 * c) % n ∨ r ^ 2 % n = (-(2 * c)) % n) := by
  intro i hi
  unfold primePowerProductVerifyProof at h
  rw [if_neg (by omega), firstFailure_accept_iff] at h
  have hi' := h i (List.mem_range.mpr hi)
  split at hi'
  · exact absurd hi' (by simp)
  · next r hr =>
    refine ⟨r, hr, ?_⟩
    rw [ofBool_accept_iff] at hi'
    unfold pppRoundOk at hi'
    rw [goExp_nonneg r 2 n hn (by omega)] at hi'
    simpa [Bool.or_eq_true, decide_eq_true_eq, or_assoc] using hi'

/-- **Prime-power-product proof, completeness of one round.** If one of `c, −c, 2c, −2c` is a square
    modulo `N` (for a key satisfying the residue conditions this is `exists_sq_of_multiplier`), the
    prover – with any square-root routine meeting `SqrtSpec` – finds a response the verifier's
    round check accepts. -/
theorem primePowerProduct_round_complete {n : Int} (hn : 0 < n) (sqrt : Int → Option Int)
    (hs : SqrtSpec sqrt n) (c : Int) (hc : 0 ≤ c ∧ c < n)
    (hex : ∃ x : Int, x * x % n = c % n ∨ x * x % n = (-c) % n ∨ x * x % n = (2 * c) % n ∨
      x * x % n = (-(2 * c)) % n) :
    ∃ r, pppResponse sqrt n c = some r ∧ pppRoundOk n c r = true := by
  obtain ⟨x, hx⟩ := hex
  obtain ⟨r, hr⟩ := Option.isSome_iff_exists.mp (pppResponse_isSome hs hx)
  exact ⟨r, hr, pppRoundOk_of_response hn hc (fun a r h => (hs.sound a r h).2.2) hr⟩

/-- `primePowerProductBuild`, the model of the real prover, is `pppBuildWith` with
    `common.ModSqrt(·, [P, Q])` as square-root routine. -/
theorem primePowerProductBuild_eq (p q challenge index : Int) :
    primePowerProductBuild p q challenge index =
      pppBuildWith (fun a => sqrtRoot? (modSqrt a [p, q])) (p * q) challenge index := rfl

/-- **Prime-power-product proof, completeness.** Whatever the prover outputs (with a square-root
    routine whose results are roots) is accepted by the verifier. -/
theorem primePowerProduct_complete {n : Int} (hn : 0 < n) (sqrt : Int → Option Int)
    (hsound : ∀ a r, sqrt a = some r → r * r % n = a % n)
    (challenge index : Int) (rs : List Int)
    (hb : pppBuildWith sqrt n challenge index = some rs) :
    primePowerProductVerifyProof n challenge index rs = .accept :=
  primePowerProduct_accept_of_build hn hsound hb

/-- **Almost-safe-prime-product proof, what acceptance means**: `N ≡ 1 (mod 3)` and every one of
    the 250 rounds passes `asppRound`, i.e. with `base_i` derived from the nonce, `x_i` from the
    challenge, `y = com_i·base_i^{x_i}` and `γ = 2^{bitlen N}`: one of `t, t⁻¹, t², t⁻²` equals `y^γ`
    for `t = base_i^{γ·r_i²}` (all modulo `N`). -/
theorem almostSafePrimeProduct_accept_rounds {n : Int} (hn : n ≠ 0) (challenge index nonce : Int) (coms rs : List Int)
    (h : almostSafePrimeProductVerifyProof n challenge index nonce coms rs = .accept) :
    n % 3 = 1 ∧ ∀ i, i < Gen.kp_almostSafePrimeProductIters → ∃ com r, coms[i]? = some com ∧ rs[i]? = some r ∧
      asppRound n (2 ^ bitLen n) (asppBase nonce i n) (asppX challenge index i n) com r = .accept := by
  unfold almostSafePrimeProductVerifyProof at h
  rw [if_neg hn] at h
  split at h
  · exact absurd h (by simp)
  · next h3 =>
    refine ⟨not_not.mp h3, fun i hi => ?_⟩
    simp only at h
    rw [firstFailure_accept_iff] at h
    have hi' := h i (List.mem_range.mpr hi)
    split at hi'
    · next com r hc hr => exact ⟨com, r, hc, hr, hi'⟩
    · exact absurd hi' (by simp)

/-- **Almost-safe-prime-product proof, completeness.** `N = (2p'+1)(2q'+1)` with both factors prime,
    `N ≡ 1 (mod 3)`, honest commitments `com_i = base_i^{log_i}` to unit bases: whatever the prover
    (with a square-root routine modulo `p'q'` whose results are roots) outputs is accepted. -/
theorem almostSafePrimeProduct_complete (pp qp N : Nat) (challenge index nonce : Int) (logs coms rs : List Int)
    (sqrt : Int → Option Int)
    (hNdef : N = (2 * pp + 1) * (2 * qp + 1))
    (hP : (2 * pp + 1).Prime) (hQ : (2 * qp + 1).Prime) (hne : pp ≠ qp) (hN3 : N % 3 = 1)
    (hsqrt : ∀ a s, sqrt a = some s → 0 ≤ s ∧ (s * s - a) % ((pp * qp : Nat) : Int) = 0)
    (hlogs : ∀ l ∈ logs, (0 : Int) ≤ l)
    (hcop : ∀ i, i < Gen.kp_almostSafePrimeProductIters → Nat.gcd (asppBase nonce i N).natAbs N = 1)
    (hcoms : ∀ i l, i < Gen.kp_almostSafePrimeProductIters → logs[i]? = some l →
      coms[i]? = some (asppBase nonce i N ^ l.toNat % N))
    (hb : asppBuildWith sqrt pp qp challenge index logs = some rs) :
    almostSafePrimeProductVerifyProof N challenge index nonce coms rs = .accept :=
  aspp_complete pp qp N challenge index nonce logs coms rs sqrt hNdef hP hQ hne hN3 hsqrt hlogs hcop hcoms hb

/-- `almostSafePrimeProductBuild`, the model of the real prover, is `asppBuildWith` with
    `common.ModSqrt(·, [p', q'])` as square-root routine. -/
theorem almostSafePrimeProductBuild_is_instance (pp qp c i : Int) (logs : List Int) :
    almostSafePrimeProductBuild pp qp c i logs =
      asppBuildWith (fun a => sqrtRoot? (modSqrt a [pp, qp])) pp qp c i logs := rfl

/-! ### keys satisfying `KeyCond`: what `CanProve` tests and key generation guarantees (property C16) -/

/-- **Square-free proof on a good key.** For `N = (2p'+1)(2q'+1)` under `KeyCond`, if the round
    challenges are units modulo `N` (otherwise the Go prover panics "Generated number not in Z_N"),
    the prover produces a proof and the verifier accepts it. -/
theorem squareFree_complete_key {pp qp : Nat} (k : KeyCond pp qp) (challenge index : Int)
    (hunits : ∀ i, i < Gen.kp_squareFreeIters →
      Nat.gcd (roundChallenge challenge index i (((2 * pp + 1) * (2 * qp + 1) : Nat) : Int)).natAbs
        ((2 * pp + 1) * (2 * qp + 1)) = 1) :
    ∃ rs, squareFreeBuild (((2 * pp + 1) * (2 * qp + 1) : Nat) : Int)
        (Nat.totient ((2 * pp + 1) * (2 * qp + 1))) challenge index = some rs ∧
      squareFreeVerifyProof (((2 * pp + 1) * (2 * qp + 1) : Nat) : Int) challenge index rs = .accept := by
  obtain ⟨rs, hrs⟩ := squareFreeBuild_isSome (Nat.mul_pos (Nat.succ_pos _) (Nat.succ_pos _)) k.coprime_totient
    challenge index hunits
  exact ⟨rs, hrs, squareFree_accept_of_build k.two_le_totient hrs⟩

/-- **Prime-power-product proof on a good key.** Under `KeyCond` every unit round challenge has one
    of `c, −c, 2c, −2c` a square (`exists_sq_of_multiplier`), so a prover whose square-root routine
    meets `SqrtSpec` produces a proof, and the verifier accepts it. -/
theorem primePowerProduct_complete_key {pp qp : Nat} (k : KeyCond pp qp) (sqrt : Int → Option Int)
    (hs : SqrtSpec sqrt (((2 * pp + 1 : Nat) : Int) * ((2 * qp + 1 : Nat) : Int))) (challenge index : Int)
    (hunits : ∀ i, i < Gen.kp_primePowerProductIters →
      Nat.gcd (roundChallenge challenge index i (((2 * pp + 1 : Nat) : Int) * ((2 * qp + 1 : Nat) : Int))).natAbs
        (((2 * pp + 1 : Nat) : Int) * ((2 * qp + 1 : Nat) : Int)).natAbs = 1) :
    ∃ rs, pppBuildWith sqrt (((2 * pp + 1 : Nat) : Int) * ((2 * qp + 1 : Nat) : Int)) challenge index = some rs ∧
      primePowerProductVerifyProof (((2 * pp + 1 : Nat) : Int) * ((2 * qp + 1 : Nat) : Int)) challenge index rs = .accept := by
  have hn : (0 : Int) < ((2 * pp + 1 : Nat) : Int) * ((2 * qp + 1 : Nat) : Int) := by positivity
  obtain ⟨rs, hrs⟩ := pppBuildWith_isSome hn hs challenge index hunits
    (exists_sq_of_multiplier k.p_prime k.q_prime (by omega) (by omega) k.p_mod8 k.q_mod8 k.pq_mod8)
  exact ⟨rs, hrs, primePowerProduct_accept_of_build hn (fun a r h => (hs.sound a r h).2.2) hrs⟩

/-- **Disjoint-prime-product proof on a good key**: `odd(N−1)` is invertible modulo `φ(N)`
    (`KeyCond.coprime_oddPart`), so – the primality oracle recognising `N` as composite and the
    round challenges being units – the prover produces a proof and the verifier accepts it. -/
theorem disjointPrimeProduct_complete_key {pp qp : Nat} (k : KeyCond pp qp) (challenge index : Int)
    (hnp : probablyPrime ((2 * pp + 1) * (2 * qp + 1)) = false)
    (hunits : ∀ i, i < Gen.kp_squareFreeIters →
      Nat.gcd (roundChallenge challenge index i (((2 * pp + 1 : Nat) : Int) * ((2 * qp + 1 : Nat) : Int))).natAbs
        (((2 * pp + 1 : Nat) : Int) * ((2 * qp + 1 : Nat) : Int)).natAbs = 1) :
    ∃ rs, disjointPrimeProductBuild ((2 * pp + 1 : Nat) : Int) ((2 * qp + 1 : Nat) : Int) challenge index = some rs ∧
      disjointPrimeProductVerifyProof (((2 * pp + 1) * (2 * qp + 1) : Nat) : Int) challenge index rs = .accept := by
  have hN : ((2 * pp + 1 : Nat) : Int) * ((2 * qp + 1 : Nat) : Int) = (((2 * pp + 1) * (2 * qp + 1) : Nat) : Int) :=
    (Nat.cast_mul _ _).symm
  have hφ : (((2 * pp + 1 : Nat) : Int) - 1) * (((2 * qp + 1 : Nat) : Int) - 1) =
      (Nat.totient ((2 * pp + 1) * (2 * qp + 1)) : Int) := by
    rw [k.totient_eq]; push_cast; ring
  have hN1 : 1 < (2 * pp + 1) * (2 * qp + 1) := by
    have := Nat.totient_le ((2 * pp + 1) * (2 * qp + 1))
    have := k.two_le_totient
    omega
  rw [hN, Int.natAbs_natCast] at hunits
  obtain ⟨rs, hrs⟩ := disjointPrimeProductBuild_isSome hN hφ hN1 k.coprime_oddPart challenge index hunits
  exact ⟨rs, hrs, disjointPrimeProduct_accept_of_build hN hφ k.two_le_totient hnp hrs⟩

/-- `KeyCond` is satisfiable, so the theorems on good keys are not vacuous: `p' = 23, q' = 29`
    (`P = 47`, `Q = 59`, both 6 bits). -/
theorem keyCond_example : KeyCond 23 29 where
  pp_prime := by norm_num
  qp_prime := by norm_num
  p_prime := by norm_num
  q_prime := by norm_num
  pp_odd := by norm_num
  qp_odd := by norm_num
  p_mod8 := by norm_num
  q_mod8 := by norm_num
  pp_mod8 := by norm_num
  qp_mod8 := by norm_num
  pq_mod8 := by norm_num
  ppqp_mod8 := by norm_num
  same_len := by decide

/-! ### what the component proofs exclude (qualitative; the statistical bounds are NOT proved) -/

/-- **Not square-free ⇒ some unit has no `N`-th root**: if `p² ∣ N` there is a residue coprime to
    `N` for which no response passes the square-free round check `r^N ≡ c (mod N)`.
    (That the hash-derived challenges hit such residues with probability `≥ 1 − 1/p` per round is
    the statistical part, not proved.) -/
theorem squareFree_excludes_square_factor {N p : Nat} (hp : p.Prime) (hdiv : p ^ 2 ∣ N) (hN : 0 < N) :
    ∃ c : Nat, c < N ∧ Nat.Coprime c N ∧ ¬ ∃ r : Nat, r ^ N % N = c := by
  have hpN : p ∣ N := dvd_trans (dvd_pow_self p (by norm_num)) hdiv
  have hφ : p ∣ Nat.totient N := by
    refine dvd_trans ?_ (Nat.totient_dvd_of_dvd hdiv)
    rw [Nat.totient_prime_pow hp (by norm_num)]
    simp
  have h1 : 1 < N := lt_of_lt_of_le hp.one_lt (Nat.le_of_dvd hN hpN)
  exact exists_not_eth_power_of_common_prime hp hφ hpN h1

/-- **A common odd prime of `odd(N−1)` and `φ(N)` ⇒ some unit has no `odd(N−1)`-th root** (the
    disjoint-prime-product round check): this is the case when a prime `s` divides both `p−1` and
    `q−1`, and also when `N` has a square factor. -/
theorem disjointPrimeProduct_excludes_common_factor {N e s : Nat} (hs : s.Prime) (hsφ : s ∣ Nat.totient N)
    (hse : s ∣ e) (hN : 1 < N) :
    ∃ c : Nat, c < N ∧ Nat.Coprime c N ∧ ¬ ∃ r : Nat, r ^ e % N = c :=
  exists_not_eth_power_of_common_prime hs hsφ hse hN

/-- **A third prime factor ⇒ some unit `c` has none of `c, −c, 2c, −2c` a square** (the
    prime-power-product round check fails for it whatever the response). -/
theorem primePowerProduct_excludes_third_factor {N p q r : Nat} (hp : p.Prime) (hq : q.Prime) (hr : r.Prime)
    (hpq : p ≠ q) (hpr : p ≠ r) (hqr : q ≠ r) (hp2 : p ≠ 2) (hq2 : q ≠ 2) (hr2 : r ≠ 2)
    (hdiv : p * q * r ∣ N) (hN : 0 < N) :
    ∃ c : Int, Int.gcd c N = 1 ∧
      ∀ m ∈ ([1, -1, 2, -2] : List Int), ¬ ∃ x : Int, (x * x - m * c) % (N : Int) = 0 :=
  exists_unit_no_multiplier_square hp hq hr hpq hpr hqr hp2 hq2 hr2 hdiv hN

/-! ### the composition (quasisafeprimeproduct.go) -/

/-- the minimum-factor loop excludes every divisor `2 ≤ d < 1024`. -/
theorem noSmallFactor_spec {n : Int} (h : noSmallFactor n = true) (d : Nat) (hd2 : 2 ≤ d)
    (hd : d < Gen.kp_minimumFactor) : ¬ (d : Int) ∣ n := by
  unfold noSmallFactor at h
  rw [List.all_eq_true] at h
  have := h d (List.mem_range.mpr hd)
  have hd' : ¬ d < 2 := by omega
  simp only [hd', decide_false, Bool.false_or, beq_iff_eq] at this
  intro hdvd
  have h1 : d ∣ n.natAbs := Int.natCast_dvd.mp hdvd
  have h2 : d ∣ Nat.gcd n.natAbs d := Nat.dvd_gcd h1 (dvd_refl d)
  rw [this] at h2
  have := Nat.le_of_dvd (by omega) h2
  omega

/-- **What `quasiSafePrimeProductVerifyProof` accepting means:** `N ≡ 5 (mod 8)`, no divisor in
    `[2, 1024)`, and each of the four component verifiers (with indices 0..3 under the same
    challenge) accepts. -/
theorem quasiSafePrimeProduct_accept {n challenge : Int} {pr : QsppProof}
    (h : quasiSafePrimeProductVerifyProof n challenge pr = .accept) :
    n % 8 = 5 ∧ noSmallFactor n = true ∧
    squareFreeVerifyProof n challenge 0 (unwrap (pr.sf.getD [])) = .accept ∧
    primePowerProductVerifyProof n challenge 1 (unwrap (pr.ppp.getD [])) = .accept ∧
    disjointPrimeProductVerifyProof n challenge 2 (unwrap (pr.dpp.getD [])) = .accept ∧
    almostSafePrimeProductVerifyProof n challenge 3 (pr.aspp.nonce.getD 0)
      (unwrap (pr.aspp.commitments.getD [])) (unwrap (pr.aspp.responses.getD [])) = .accept := by
  unfold quasiSafePrimeProductVerifyProof at h
  split at h
  · exact absurd h (by simp)
  · next h8 =>
    split at h
    · exact absurd h (by simp)
    · next hsf =>
      simp only [andThen_accept_iff] at h
      refine ⟨not_not.mp h8, ?_, h.1, h.2.1, h.2.2.1, h.2.2.2⟩
      cases hh : noSmallFactor n with
      | true => rfl
      | false => rw [hh] at hsf; exact absurd rfl hsf

/-! ## The representation proof interpreter (zkproof/representationproof.go)

The interpreter `commitFromSecrets` / `commitFromProof` / `reprSides` is the one the model driver
executes (there over the integers modulo the group prime); here it runs over an arbitrary
commutative group `G` with integer powers, every named base of order dividing `order`.
The code's convention is `result = randomizer − secret·challenge (mod order)`. -/

section Repr
variable {G : Type} [CommGroup G]

/-- **Completeness.** If the relation holds on the secrets (`IsTrue`: both sides equal) then the
    commitment recomputed from the honest responses `r − s·c mod order` under challenge `c` equals
    the commitment made from the randomizers. -/
theorem repr_complete {order : Int} (ho : 0 < order) {bases : BaseLookup G} (hB : BasesInSubgroup order bases)
    (S : ReprStructure) (secret randomizer : String → Option Int) (c : Int) (l r t : G)
    (hrel : reprSides zpowOps order bases secret S = some (l, r)) (htrue : l = r)
    (ht : commitFromSecrets zpowOps order bases randomizer S = some t) :
    commitFromProof zpowOps order bases c (honestResult order c secret randomizer) S = some t := by
  obtain ⟨hl, hS⟩ := (reprSides_eq_some ho hB).mp hrel
  rw [commitFromSecrets_eq ho hB] at ht
  exact (commitFromProof_eq_some ho hB).mpr
    ⟨l, _, hl, rhsSpec_honest hB secret randomizer c S.rhs t r ht hS, by rw [htrue]; simp⟩

/-- **Special soundness.** Two accepting transcripts for the same commitment `t` with challenges
    `c`, `c'` give the relation "in the exponent `c − c'`": with `l` the left-hand side,
    `l^(c−c') = ∏ base^(power·(res'−res))`. -/
theorem repr_special_soundness {order : Int} (ho : 0 < order) {bases : BaseLookup G}
    (hB : BasesInSubgroup order bases) (S : ReprStructure) (c c' : Int) (res res' : String → Option Int) (t : G)
    (h1 : commitFromProof zpowOps order bases c res S = some t)
    (h2 : commitFromProof zpowOps order bases c' res' S = some t) :
    ∃ l W, lhsProduct zpowOps order bases S.lhs = some l ∧
      rhsSpec bases (resultDiff res' res) S.rhs = some W ∧ l ^ (c - c') = W := by
  obtain ⟨l, X, hl, hX, e1⟩ := (commitFromProof_eq_some ho hB).mp h1
  obtain ⟨l', X', hl', hX', e2⟩ := (commitFromProof_eq_some ho hB).mp h2
  cases hl.symm.trans hl'
  refine ⟨l, X' * X⁻¹, hl, rhsSpec_diff res' res S.rhs X' X hX' hX, ?_⟩
  rw [zpow_sub, ← div_eq_mul_inv, ← div_eq_mul_inv, div_eq_div_iff_mul_eq_mul, e1, mul_comm, e2]

/-- **Knowledge extraction in a group of order `order`** (the group of the key proof has prime
    order, so every non-zero challenge difference is invertible): if `d·(c−c') ≡ 1 (mod order)` and
    the left-hand side has order dividing `order`, the values `d·(res'−res)` are a witness of the
    relation itself. The code does not check that prover-supplied commitments lie in the
    subgroup; for elements outside it this extraction holds up to the order-2 component. -/
theorem repr_extract {order : Int} (ho : 0 < order) {bases : BaseLookup G}
    (hB : BasesInSubgroup order bases) (S : ReprStructure) (c c' d : Int) (res res' : String → Option Int) (t : G)
    (h1 : commitFromProof zpowOps order bases c res S = some t)
    (h2 : commitFromProof zpowOps order bases c' res' S = some t)
    (hd : (d * (c - c')) % order = 1 % order)
    (hl : ∀ l, lhsProduct zpowOps order bases S.lhs = some l → l ^ order = 1) :
    ∃ l, lhsProduct zpowOps order bases S.lhs = some l ∧
      rhsSpec bases (scaleValues d (resultDiff res' res)) S.rhs = some l := by
  obtain ⟨l, W, hlp, hW, hpow⟩ := repr_special_soundness ho hB S c c' res res' t h1 h2
  refine ⟨l, hlp, ?_⟩
  rw [rhsSpec_scale d _ S.rhs W hW, ← hpow, ← zpow_mul, mul_comm (c - c') d]
  rw [zpow_eq_zpow_emod _ (hl l hlp), hd, ← zpow_eq_zpow_emod _ (hl l hlp), zpow_one]

end Repr

/-! ## Range proof (rangeproof.go) and the OR-composition (expstep.go) -/

/-- **The size limit that `verifyProofStructure` enforces** on the responses of the range secret:
    an upper bound `2^(l2+ε+2)` only. -/
theorem range_structure_limit (s : RangeStructure) (m : List (String × List (Option Int)))
    (h : rangeVerifyStructure s (some m) = true) (l : List (Option Int)) (hl : m.lookup s.rangeSecret = some l)
    (x : Int) (hx : some x ∈ l) : x < 2 ^ (s.l2 + Gen.kp_rangeProofEpsilon + 2) := by
  unfold rangeVerifyStructure at h
  simp only [Bool.and_eq_true] at h
  have h2 := h.2
  rw [hl] at h2
  simp only [List.all_eq_true] at h2
  simpa using h2 (some x) hx

/-- **The structure check of the range proof has no lower bound**: a response table whose
    range-secret responses are all negative passes it (for a structure whose right-hand secrets are
    listed). Non-negativity of proof integers is guaranteed by `big.Int`'s JSON decoding, not by this
    verifier. -/
theorem range_structure_accepts_negative :
    rangeVerifyStructure (pedersenRange "x" 0 8)
      (some [("x", List.replicate Gen.kp_rangeProofIters (some (-1))),
             ("x_hider", List.replicate Gen.kp_rangeProofIters (some 0))]) = true := by
  decide

/-- **Binary-challenge extraction, the arithmetic.** In a round the representation proof receives
    `r − 2^(l2+ε+1) − bit·2^l1` for the range secret (`rangeRoundResult`). If one commitment can be
    opened for both bits with responses `r0` (bit 0) and `r1` (bit 1), special soundness
    (`repr_special_soundness` with `c = 0`, `c' = 1`) yields the secret `v0 − v1`, which is
    `2^l1 + r0 − r1`; with both responses in `[0, 2^(l2+ε+2))` it lies strictly within
    `2^(l2+ε+2)` of `2^l1`. -/
theorem range_extracted_bound (s : RangeStructure) (r0 r1 : Int)
    (h0 : 0 ≤ r0) (h1 : 0 ≤ r1)
    (hb0 : r0 < 2 ^ (s.l2 + Gen.kp_rangeProofEpsilon + 2)) (hb1 : r1 < 2 ^ (s.l2 + Gen.kp_rangeProofEpsilon + 2)) :
    let v0 := rangeRoundResult s 0 s.rangeSecret r0
    let v1 := rangeRoundResult s 1 s.rangeSecret r1
    v0 - v1 = 2 ^ s.l1 + r0 - r1 ∧
    -(2 : Int) ^ (s.l2 + Gen.kp_rangeProofEpsilon + 2) < (v0 - v1) - 2 ^ s.l1 ∧
    (v0 - v1) - 2 ^ s.l1 < 2 ^ (s.l2 + Gen.kp_rangeProofEpsilon + 2) := by
  intro v0 v1
  have key : v0 - v1 = 2 ^ s.l1 + r0 - r1 := by
    simp only [v0, v1, rangeRoundResult, if_true, if_false, show (0 : Int) ≠ 1 by omega]
    ring
  rw [key]
  exact ⟨rfl, by omega, by omega⟩

/-- **Honest responses respect the limit.** With a randomizer in `[−2^(l2+ε), 2^(l2+ε))` (what
    `commitmentsFromSecrets` draws) and a secret with `|2^l1 − secret| ≤ 2^(l2+ε)` (in particular
    `0 ≤ secret ≤ 2^l2` when `l1 ≤ l2+ε`), the response `rand + bit·(2^l1 − secret) + 2^(l2+ε+1)` of
    `buildProof` lies in `[0, 2^(l2+ε+2))`. -/
theorem range_honest_within_limit (l1 l2 : Nat) (rand secret bit : Int) (hbit : bit = 0 ∨ bit = 1)
    (hr0 : -(2 : Int) ^ (l2 + Gen.kp_rangeProofEpsilon) ≤ rand) (hr1 : rand < 2 ^ (l2 + Gen.kp_rangeProofEpsilon))
    (hs0 : -(2 : Int) ^ (l2 + Gen.kp_rangeProofEpsilon) ≤ 2 ^ l1 - secret)
    (hs1 : 2 ^ l1 - secret ≤ 2 ^ (l2 + Gen.kp_rangeProofEpsilon)) :
    let res := rand + bit * (2 ^ l1 - secret) + 2 ^ (l2 + Gen.kp_rangeProofEpsilon + 1)
    0 ≤ res ∧ res < 2 ^ (l2 + Gen.kp_rangeProofEpsilon + 2) := by
  have e1 : (2 : Int) ^ (l2 + Gen.kp_rangeProofEpsilon + 1) = 2 * 2 ^ (l2 + Gen.kp_rangeProofEpsilon) := by ring
  have e2 : (2 : Int) ^ (l2 + Gen.kp_rangeProofEpsilon + 2) = 4 * 2 ^ (l2 + Gen.kp_rangeProofEpsilon) := by ring
  intro res
  -- with `T = 2^(l2+ε)`: `rand ∈ [−T, T)` and `bit·(2^l1 − secret) ∈ [−T, T]`, shifted by `2T` into `[0, 4T)`
  rw [e2]
  simp only [res, e1]
  rcases hbit with rfl | rfl
  · exact ⟨by omega, by omega⟩
  · exact ⟨by omega, by omega⟩

/-- **Each round of the range proof is a representation proof under the round's challenge bit**
    (80 binary challenges = the low 80 bits of the global challenge). -/
theorem rangeCommitments_round {G : Type} (ops : GroupOps G) (order : Int) (bases : BaseLookup G) (s : RangeStructure)
    (challenge : Int) (res : List (String × List Int)) (cs : List G)
    (h : rangeCommitments ops order bases s challenge res = some cs) :
    cs.length = Gen.kp_rangeProofIters ∧
    ∀ i, i < Gen.kp_rangeProofIters → ∃ round c,
      cs[i]? = some c ∧
      commitFromProof ops order bases (bitOf challenge i) (listValues round) s.repr = some c := by
  unfold rangeCommitments at h
  rw [rounds_eq_some] at h
  refine ⟨h.1, fun i hi => ?_⟩
  have hi' := h.2 i hi
  have hlt : i < cs.length := by omega
  rw [List.getElem?_eq_getElem hlt] at hi' ⊢
  obtain ⟨round, -, hc⟩ := Option.bind_eq_some_iff.mp hi'
  exact ⟨round, cs[i], rfl, hc⟩

/-- **`xor_split`: what the structure check of an exponentiation step enforces about the two
    sub-challenges** – both present and their XOR equal to the global challenge; nothing else. -/
theorem xor_split (bitname prename postname mulname modname : String) (bitlen : Nat) (challenge : Int)
    (p : StepProof) (h : stepVerifyStructure bitname prename postname mulname modname bitlen challenge p = true) :
    ∃ a b, p.achallenge = some a ∧ p.bchallenge = some b ∧ challenge = goXor a b := by
  unfold stepVerifyStructure at h
  split at h
  · next a b ha hb =>
    simp only [Bool.and_eq_true, decide_eq_true_eq] at h
    exact ⟨a, b, ha, hb, h.1.1⟩
  · exact absurd h (by simp)

/-- **The XOR relation is all the structure check requires of the two sub-challenges**: with complete
    branches, any pair that XORs to the global challenge passes. -/
theorem xor_split_suffices (bitname prename postname mulname modname : String) (bitlen : Nat) (a b : Int)
    (p : StepProof) (ha : p.achallenge = some a) (hb : p.bchallenge = some b) (hl : p.leavesPresent = true)
    (hm : multStructureOk mulname prename modname postname bitlen p.b.mult = true) :
    stepVerifyStructure bitname prename postname mulname modname bitlen (goXor a b) p = true := by
  unfold stepVerifyStructure
  rw [ha, hb]
  simp [hl, hm]

/-- **One sub-challenge is free, the other is then forced** (non-negative values, as decoded
    from JSON): the prover may fix the sub-challenge of the branch it simulates before the global
    challenge `c` exists – the other one must be `c xor a` – so it cannot simulate both. -/
theorem xor_split_free_and_forced (a b c : Int) (ha : 0 ≤ a) (hb : 0 ≤ b) (hc : 0 ≤ c) :
    goXor a (goXor c a) = c ∧ (goXor a b = c → b = goXor c a) := by
  obtain ⟨a', rfl⟩ := Int.eq_ofNat_of_zero_le ha
  obtain ⟨b', rfl⟩ := Int.eq_ofNat_of_zero_le hb
  obtain ⟨c', rfl⟩ := Int.eq_ofNat_of_zero_le hc
  have hx : ∀ x y : Nat, goXor (x : Int) (y : Int) = ((x ^^^ y : Nat) : Int) := by
    intro x y
    unfold goXor
    simp
  simp only [hx]
  constructor
  · congr 1
    rw [Nat.xor_comm c' a', ← Nat.xor_assoc, Nat.xor_self, Nat.zero_xor]
  · intro h
    have h' : a' ^^^ b' = c' := by exact_mod_cast h
    congr 1
    rw [← h', Nat.xor_comm (a' ^^^ b') a', ← Nat.xor_assoc, Nat.xor_self, Nat.zero_xor]

/-- **Branch B binds the multiplier** (expstepb.go as fixed in /repo, commit a4ddc35): with the
    environment's commitment for `mulname` known, the copy `Mul.Commit` inside the proof only occupies the first position of
    branch B's hash input – everything computed (the Pedersen representation, the bit relation, the
    multiplication proof) is independent of it, i.e. runs on the environment's commitment.
    (Were the copy the base of the representation, a step could be proven for a multiplier of the
    prover's choosing: battery input `expstep-mul-unlinked`.) -/
theorem expStepB_mul_commit_bound (g : Group) (bitname prename postname mulname modname : String) (bitlen : Nat)
    (challenge : Int) (bases : BaseLookup Nat) (outer copy : Int) (p : StepBProof) :
    (stepBCommitments g bitname prename postname mulname modname bitlen challenge bases (some outer)
        { p with mul := { p.mul with commit := copy } }).map (fun l => l.drop 1) =
      (stepBCommitments g bitname prename postname mulname modname bitlen challenge bases (some outer) p).map
        (fun l => l.drop 1) := by
  unfold stepBCommitments
  -- `PedersenProof.results` does not read `commit`, so the three sub-computations agree; pushing `drop 1`
  -- through them, it removes the head of the output, the one place where the copy stands
  simp only [PedersenProof.results, Option.bind_eq_bind, Option.pure_def, Option.map_bind, Function.comp_def,
    Option.map_some, List.drop_succ_cons, List.drop_zero, List.cons_append]

/-! ## The single Fiat–Shamir input (validkeyproof.go) -/

/-- **`challenge_covers_all`, membership**: the hashed list contains the group prime, the modulus
    and, as contiguous segments, the commitments of every sub-proof. -/
theorem challenge_covers_all (c : ChallengeParts) :
    c.groupPrime ∈ c.input ∧ c.n ∈ c.input ∧
    c.pprime <:+: c.input ∧ c.qprime <:+: c.input ∧ c.p <:+: c.input ∧ c.q <:+: c.input ∧
    c.pPprimeRel <:+: c.input ∧ c.qQprimeRel <:+: c.input ∧ c.pQNRel <:+: c.input ∧
    c.pprimeIsPrime <:+: c.input ∧ c.qprimeIsPrime <:+: c.input ∧ c.qspp <:+: c.input ∧
    c.basesValid <:+: c.input := by
  have hin : ∀ l ∈ [c.pprime, c.qprime, c.p, c.q, [c.groupPrime, c.n], c.pPprimeRel, c.qQprimeRel, c.pQNRel,
      c.pprimeIsPrime, c.qprimeIsPrime, c.qspp, c.basesValid], l <:+: c.input :=
    fun l hl => c.input_eq_flatten ▸ List.infix_of_mem_flatten hl
  simp only [List.forall_mem_cons, List.not_mem_nil, false_imp_iff, implies_true, and_true] at hin
  obtain ⟨h1, h2, h3, h4, h5, h6, h7, h8, h9, h10, h11, h12⟩ := hin
  exact ⟨h5.subset (by simp), h5.subset (by simp), h1, h2, h3, h4, h6, h7, h8, h9, h10, h11, h12⟩

/-- **`challenge_covers_all`, injectivity**: for parts of the lengths the structure prescribes
    (`numCommitments`, a function of the modulus size and the number of bases – `expectedLengths`),
    the hashed list determines every part. -/
theorem challenge_input_injective (c c' : ChallengeParts) (hlen : c.lengths = c'.lengths)
    (h : c.input = c'.input) : c = c' := by
  rw [c.input_eq_flatten, c'.input_eq_flatten] at h
  have hparts := List.eq_iff_flatten_eq.mpr ⟨h, by simpa [ChallengeParts.lengths] using hlen⟩
  cases c
  cases c'
  simpa [and_assoc] using hparts

/-- **The challenge binds all of it** (with property C15): two proofs with the same challenge and
    parts of the prescribed lengths have the same group prime, modulus and commitments – or exhibit
    a SHA-256 collision. -/
theorem challenge_binds_parts (c c' : ChallengeParts) (hlen : c.lengths = c'.lengths)
    (hl : (hashCommitInput c.input false).length < 256 ^ 126)
    (hl' : (hashCommitInput c'.input false).length < 256 ^ 126)
    (h : hashCommit c.input false = hashCommit c'.input false) :
    c = c' ∨ (hashCommitInput c.input false ≠ hashCommitInput c'.input false ∧
      Sha256.hash (hashCommitInput c.input false) = Sha256.hash (hashCommitInput c'.input false)) := by
  rcases hashCommit_binds hl hl' h with heq | hcol
  · exact Or.inl (challenge_input_injective c c' hlen heq.1)
  · exact Or.inr hcol

end Gabi.C17
