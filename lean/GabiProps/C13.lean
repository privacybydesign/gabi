/-
  C13 — Every true inequality within the documented size limits can be proven, with either
  square-decomposition method, and the proof is reported as proving the requested statement;
  several statements can be combined.

  Property theorems about the proving side of range proofs. Model: GabiModel.Prover
  (`rangeProvable`, `tableLd`: when `NewProofStructure` + `CommitmentsFromSecrets` succeed),
  GabiModel.Proofs (`rangeNewWithParams`, `provesStatement`, `provenStatement`,
  `ProofD.rangeContributions`), GabiModel.ReprProof (`commitmentFromSecrets`,
  `commitmentFromProof`), GabiModel.MathUtil (`sumFourSquaresWith`); compared output-for-output
  with rangeproof/proof.go, rangeproof/splitutils.go and proofs.go by `./check C13`.
  Helper lemmas: GabiProofs.RangeLemmas, GabiProofs.MathUtilLemmas.

  Known finding (C13/three-square-le-at-equality): with the three-square table the
  statement `m ≤ bound` is rescaled to `4m ≤ 4·bound − 2`, i.e. `m ≤ bound − 1`; it cannot be
  proven at `m = bound` (`three_square_le_not_at_equality`).
-/
import GabiModel.Proofs
import GabiModel.Prover
import GabiModel.Generated
import GabiProofs.RangeLemmas
import GabiProofs.MathUtilLemmas
namespace Gabi.C13
open Gabi

/-! ## which statements the prover can commit to -/

/-- **three-square rescaling**: the table splitter proves `4m − (4b − 2) ≥ 0`, which is `m ≥ b`
    – but for `≤` it proves `−(4m − (4b − 2)) ≥ 0`, which is `m ≤ b − 1`, not `m ≤ b`. -/
theorem three_square_rescale (m b : Int) :
    (4 * m - (4 * b - 2) ≥ 0 ↔ m ≥ b) ∧ (-(4 * m - (4 * b - 2)) ≥ 0 ↔ m ≤ b - 1) :=
  ⟨by omega, by omega⟩

/-- **known finding C13/three-square-le-at-equality**: with the three-square table (any size)
    the true statement `m ≤ b` is not provable at `m = b`. -/
theorem three_square_le_not_at_equality (b : Int) (table : Nat) (ht : 0 < table) :
    rangeProvable (-1) 1 b b table = false :=
  Bool.eq_false_iff.mpr fun h => by
    have := (rangeProvable_table_iff (-1) b b table ht).mp h
    omega

/-- **the other statements at equality are provable**: `m ≥ b` at `m = b` with the three-square
    table as soon as it has more than two entries, and `m ≤ b` at `m = b` with four squares. -/
theorem at_equality_provable (b : Int) :
    (∀ table, 2 < table → rangeProvable 1 1 b b table = true) ∧ rangeProvable (-1) 1 b b 0 = true :=
  ⟨fun table ht => (rangeProvable_table_iff 1 b b table (by omega)).mpr (by omega),
    (rangeProvable_four_iff (-1) 1 b b).mpr (by omega)⟩

/-- **four squares: every true statement within the limits is provable, and nothing else**:
    the prover succeeds iff the sign is `±1`, the factor fits `int64`, the statement
    `sign·(factor·m − bound) ≥ 0` is true and the difference is below `2^256` (roots of at most
    `l_d = 128` bits). Holds for every integer `m` (hidden attributes are non-negative). -/
theorem four_square_provable (sign : Int) (factor : Nat) (bound m : Int) :
    rangeProvable sign factor bound m 0 = true ↔
      (sign = 1 ∨ sign = -1) ∧ factor ≤ 2 ^ 63 - 1 ∧
      0 ≤ sign * ((factor : Int) * m - bound) ∧ sign * ((factor : Int) * m - bound) < 2 ^ 256 :=
  rangeProvable_four_iff sign factor bound m

/-- non-vacuity / both directions at a concrete point. -/
example : rangeProvable 1 3 10 4 0 = true ∧ rangeProvable 1 3 13 4 0 = false ∧
    rangeProvable (-1) 3 12 4 0 = true := by decide

/-- **a decomposition exists and passes the size check**: every `0 ≤ d < 2^256` is a sum of
    four squares (Lagrange) and every root has at most `128 = Gen.fourSquaresLd` bits – the check
    `dᵢ.BitLen() ≤ l_d` of `CommitmentsFromSecrets`. -/
theorem split_exists (d : Nat) (hd : d < 2 ^ 256) :
    ∃ a b c e : Nat, a ^ 2 + b ^ 2 + c ^ 2 + e ^ 2 = d ∧
      natBitLen a ≤ Gen.fourSquaresLd ∧ natBitLen b ≤ Gen.fourSquaresLd ∧
      natBitLen c ≤ Gen.fourSquaresLd ∧ natBitLen e ≤ Gen.fourSquaresLd :=
  split_exists_nat d 128 (by simpa using hd)

/-- **any correct splitter passes the size check**: whatever decomposition into four
    non-negative squares the splitter returns for `d < 2^256` (`QuadOk`, the specification
    `sumFourSquaresWith_spec` proves for the library's splitter), every root has at most
    `Gen.fourSquaresLd` bits. -/
theorem splitter_output_fits {d : Nat} {q : Quad} (h : QuadOk d q) (hd : d < 2 ^ 256) :
    bitLen q.1 ≤ Gen.fourSquaresLd ∧ bitLen q.2.1 ≤ Gen.fourSquaresLd ∧
    bitLen q.2.2.1 ≤ Gen.fourSquaresLd ∧ bitLen q.2.2.2 ≤ Gen.fourSquaresLd :=
  quadOk_small (n := 128) h (by simpa using hd)

/-- **the library's splitter passes the size check**: for `d < 2^256` the `SumFourSquares` wrapper
    around an inner routine that is correct on arguments `≡ 2 (mod 4)` returns a decomposition of
    `d` whose roots have at most `Gen.fourSquaresLd` bits. -/
theorem library_splitter_fits (special : Nat → Quad) (d : Nat) (hd : d < 2 ^ 256)
    (hs : ∀ k, k % 4 = 2 → QuadOk k (special k)) :
    let q := sumFourSquaresWith special d
    q.1 ^ 2 + q.2.1 ^ 2 + q.2.2.1 ^ 2 + q.2.2.2 ^ 2 = (d : Int) ∧
    bitLen q.1 ≤ Gen.fourSquaresLd ∧ bitLen q.2.1 ≤ Gen.fourSquaresLd ∧
    bitLen q.2.2.1 ≤ Gen.fourSquaresLd ∧ bitLen q.2.2.2 ≤ Gen.fourSquaresLd := by
  have h := sumFourSquaresWith_spec special d hs
  exact ⟨h.2.2.2.2, splitter_output_fits h hd⟩

/-- **three-square table** with `table > 0` entries (factor 1): `m ≥ bound` is provable iff it is
    true and `4(m − bound) + 2 < table`; `m ≤ bound` is provable iff `m ≤ bound − 1` (sic, the
    known finding) and `4(bound − m) − 2 < table`. The residue condition `≡ 2 (mod 4)` of the
    table is automatically met. -/
theorem table_provable (sign : Int) (bound m : Int) (table : Nat) (ht : 0 < table) :
    rangeProvable sign 1 bound m table = true ↔
      (sign = 1 ∧ bound ≤ m ∧ 4 * (m - bound) + 2 < (table : Int)) ∨
      (sign = -1 ∧ m ≤ bound - 1 ∧ 4 * (bound - m) - 2 < (table : Int)) :=
  rangeProvable_table_iff sign bound m table ht

/-- **table roots pass the size check**: every root `x` of a decomposition of a value `d` the
    table accepts (`d < len`) has fewer than `SquaresTable.Ld()` bits. -/
theorem table_root_fits {x d len : Nat} (hx : x ^ 2 ≤ d) (hd : d < len) : natBitLen x < tableLd len := by
  obtain ⟨k, hk, hlt⟩ := tableLd_go_spec (len + 1) len 0 (by omega)
  have : natBitLen x ≤ k := natBitLen_le_of_sq_le hx (by rw [pow_mul]; exact lt_trans hd hlt)
  unfold tableLd
  omega

/-- `Ld()` of the test-suite table (`GenerateSquaresTable(65535)`, 65536 entries). -/
example : tableLd 65536 = 10 := by decide

/-- **the three-square table only supports factor 1**: with a table the prover refuses any
    other factor. -/
theorem table_needs_factor_one (sign : Int) (factor : Nat) (bound m : Int) (table : Nat)
    (ht : 0 < table) (hf : factor ≠ 1) : rangeProvable sign factor bound m table = false := by
  simp only [rangeProvable, Nat.ne_of_gt ht, hf, if_false, if_true, ne_eq, not_false_eq_true, ite_self]

/-! ## the proof is reported as proving the requested statement -/

/-- **four squares**: the descriptor the honest prover sends for `sign·(factor·m − bound) ≥ 0`
    is `(sign, a = factor, k = bound)`; `ProvesStatement(sign, factor, bound)` is true and
    `ProvenStatement()` returns the request. -/
theorem four_square_reported (p : RangeProof) {sign : Int} (hs : sign = 1 ∨ sign = -1) (factor : Nat)
    (bound : Int) (hlen : p.cs.length = 4) (hsign : p.sign = sign) (ha : p.a = factor)
    (hk : p.k = some bound) :
    p.provesStatement sign factor bound = true ∧ p.provenStatement = some (sign, factor, bound) := by
  refine ⟨(RangeProof.provesStatement_iff hk).mpr ⟨hs, ?_⟩, ?_⟩
  · rw [if_neg (by omega), sub_self, mul_zero]
    exact ⟨⟨hsign, ha⟩, le_refl 0⟩
  · rw [RangeProof.provenStatement_eq hk, if_neg (by omega), hsign, ha]

/-- **three squares**: the honest descriptor for `sign·(m − bound) ≥ 0` is
    `(sign, a = 4, k = 4·bound − 2)`; `ProvesStatement(sign, 1, bound)` is true and
    `ProvenStatement()` returns `(sign, 1, bound)`. -/
theorem three_square_reported (p : RangeProof) {sign : Int} (hs : sign = 1 ∨ sign = -1)
    (bound : Int) (hlen : p.cs.length = 3) (hsign : p.sign = sign) (ha : p.a = 4)
    (hk : p.k = some (bound * 4 - 2)) :
    p.provesStatement sign 1 bound = true ∧ p.provenStatement = some (sign, 1, bound) := by
  refine ⟨(RangeProof.provesStatement_iff hk).mpr ⟨hs, ?_⟩, ?_⟩
  · rw [if_pos hlen, sub_self, mul_zero]
    exact ⟨by decide, ⟨hsign, ha⟩, le_refl 0⟩
  · rw [RangeProof.provenStatement_eq hk, if_pos hlen, hsign, ha,
      show (bound * 4 - 2 + 2) / 4 = bound by omega]

/-- **the verifier accepts the honest descriptor**: within the documented limits (`l_d ≤ Lm`,
    bound of at most `Lm + 64` bits, factor at most `MaxInt64`, 4 squares or 3 squares with
    factor 4) `ExtractStructure` succeeds and returns the prover's structure. -/
theorem honest_descriptor_extracts (p : RangeProof) (index : Int) (pk : PublicKey) (k : Int)
    (hk : p.k = some k) (hld : p.ld ≤ pk.params.Lm) (hbl : bitLen k ≤ pk.params.Lm + 64)
    (hlen : p.cs.length = 4 ∨ (p.cs.length = 3 ∧ p.a = 4)) :
    p.extractStructure index pk = rangeNewWithParams index p.sign p.a k p.cs.length p.ld := by
  rw [RangeProof.extractStructure_of_k hk, if_neg (by omega)]

/-! ## completeness algebra -/

section Algebra
open Gabi.Alg Gabi.QrAlg
variable {G : Type*} [CommGroup G]

/-- **completeness of every `QrStructure` proof** (any commutative group): if the secrets
    satisfy `∏lhs = ∏ base^(power·secret)`, honest responses `randomiser + c·secret` make the
    verifier's reconstruction `(∏lhs)⁻¹^c · ∏ base^(power·response)` equal the prover's commitment
    `∏ base^(power·randomiser)`. -/
theorem qr_complete (s : QrStructure) (B : String → G) (c : ℤ) (secret rand resp : String → ℤ)
    (hrel : Holds s B secret)
    (hresp : ∀ r ∈ s.rhs, resp r.secret = rand r.secret + c * secret r.secret) :
    fromProof s B c resp = fromSecrets s B rand :=
  QrAlg.qr_complete s B c secret rand resp hrel hresp

/-- **special soundness of every `QrStructure` proof** (any commutative group): two accepting
    transcripts with the same commitment give `(∏lhs)^(c−c') = ∏ base^(power·(resp−resp'))`; C12
    builds the extraction on it. -/
theorem qr_special_soundness (s : QrStructure) (B : String → G) (c c' : ℤ) (resp resp' : String → ℤ)
    (h : fromProof s B c resp = fromProof s B c' resp') :
    lhsProd s B ^ (c - c') = rhsProd s B (fun n => resp n - resp' n) :=
  QrAlg.qr_special_soundness s B c c' resp resp' h

/-- **the honest prover's secrets satisfy the range relation**: for a square decomposition
    `Σdᵢ² = sign·(a·m − k)`, commitments `Cᵢ = R^{dᵢ}S^{vᵢ}` and `v5 = Σdᵢvᵢ`,
    `R^{−sign·k} = S^{−v5} · R^{−a·sign·m} · ∏Cᵢ^{dᵢ}`. -/
theorem honest_range_relation {R S : G} (C : ℕ → G) (d v : ℕ → ℤ) (n : ℕ)
    {sign : ℤ} (hs : sign = 1 ∨ sign = -1) (a k m v5 : ℤ)
    (hC : ∀ i < n, C i = R ^ d i * S ^ v i)
    (hsq : ((List.range n).map fun i => d i ^ 2).sum = sign * (a * m - k))
    (hv5 : v5 = ((List.range n).map fun i => d i * v i).sum) :
    R ^ (if sign = 1 then -k else k) =
      S ^ (-v5) * R ^ ((-a * sign) * m) * rep C d (List.range n) := by
  rw [rep_commitments C d v _ (fun i hi => hC i (List.mem_range.mp hi)), range_relation_iff,
    range_exponent_identity hs, hsq, ← hv5, sub_self, sub_self, zpow_zero, zpow_zero]

/-- non-vacuity of `honest_range_relation`: `m = 12 ≥ k = 10`, `2 = 1² + 1² + 0² + 0²`, arbitrary
    `R`, `S` and hiders. -/
example (R S : G) (v : ℕ → ℤ) :
    R ^ (if (1 : ℤ) = 1 then -(10 : ℤ) else 10) =
      S ^ (-(v 0 + v 1)) * R ^ ((-1 * 1) * (12 : ℤ)) *
        rep (fun i => R ^ (if i < 2 then (1 : ℤ) else 0) * S ^ v i) (fun i => if i < 2 then 1 else 0)
          (List.range 4) :=
  honest_range_relation _ (fun i => if i < 2 then 1 else 0) v 4 (Or.inl rfl) 1 10 12 _
    (fun _ _ => rfl) (by decide) (by simp [List.range_succ])

/-- **the honest prover's secrets satisfy every sub-statement of the structure**
    `rangeNewWithParams` builds: `mCorrect` by `honest_range_relation`, each `cRep` because it
    says `Cᵢ = R^{dᵢ}S^{vᵢ}`. -/
theorem honest_structure_holds (B : String → G) (val : String → ℤ)
    {index sign : Int} {a : Nat} {k : Int} {n ld : Nat} {s : RangeStructure}
    (h : rangeNewWithParams index sign a k n ld = some s)
    (hC : ∀ i < n, B ("C" ++ toString i) =
        B ("R" ++ toString index) ^ val ("d" ++ toString i) * B "S" ^ val ("v" ++ toString i))
    (hsq : ((List.range n).map fun i => val ("d" ++ toString i) ^ 2).sum =
      sign * ((a : ℤ) * val "m" - k))
    (hv5 : val "v5" = ((List.range n).map fun i => val ("d" ++ toString i) * val ("v" ++ toString i)).sum) :
    Holds s.mCorrect B val ∧ ∀ q ∈ s.cRep, Holds q B val := by
  obtain ⟨_, hs, _, _⟩ := rangeNewWithParams_some h
  refine ⟨?_, (holds_cRep_iff B val h).mpr hC⟩
  rw [holds_mCorrect_iff B val h]
  exact honest_range_relation _ _ (fun i => val ("v" ++ toString i)) n hs a k (val "m")
    (val "v5") hC hsq hv5

end Algebra

/-- **the honest proof verifies, on the model's integers**: for invertible bases modulo `N`,
    an honest decomposition and responses `randomiser + c·secret`, the verifier's
    `commitmentFromProof` returns, for `mCorrect` and every `cRep`, exactly the integer the
    prover's `commitmentFromSecrets` produced – so the verifier recomputes the prover's challenge
    hash input. (The size checks of `verifyProofStructure` on honest responses are not covered
    here.) -/
theorem honest_commitments_reconstruct {index sign : Int} {a : Nat} {k : Int} {nS ld : Nat}
    {s : RangeStructure} (h : rangeNewWithParams index sign a k nS ld = some s) {N : ℕ} (hN : 1 < N)
    (c : Int) (bases rnd secrets results : String → Option Int)
    (hb : ∀ q ∈ s.mCorrect :: s.cRep, QrBridge.BasesOk N q bases)
    (hrnd : ∀ q ∈ s.mCorrect :: s.cRep, ∀ r ∈ q.rhs, (rnd r.secret).isSome)
    (hres : ∀ q ∈ s.mCorrect :: s.cRep, ∀ r ∈ q.rhs, (results r.secret).isSome)
    (hresp : ∀ name, QrBridge.intVals results name =
      QrBridge.intVals rnd name + c * QrBridge.intVals secrets name)
    (hC : ∀ i < nS, QrBridge.unitBases N bases ("C" ++ toString i) =
        QrBridge.unitBases N bases ("R" ++ toString index) ^ QrBridge.intVals secrets ("d" ++ toString i) *
          QrBridge.unitBases N bases "S" ^ QrBridge.intVals secrets ("v" ++ toString i))
    (hsq : ((List.range nS).map fun i => QrBridge.intVals secrets ("d" ++ toString i) ^ 2).sum =
      sign * ((a : ℤ) * QrBridge.intVals secrets "m" - k))
    (hv5 : QrBridge.intVals secrets "v5" =
      ((List.range nS).map fun i => QrBridge.intVals secrets ("d" ++ toString i) *
        QrBridge.intVals secrets ("v" ++ toString i)).sum) :
    ∀ q ∈ s.mCorrect :: s.cRep, ∃ v, q.commitmentFromSecrets N bases rnd = .ok v ∧
      q.commitmentFromProof N c bases results = .ok v := by
  obtain ⟨hm, hc⟩ := honest_structure_holds _ _ h hC hsq hv5
  intro q hq
  refine QrBridge.commitment_roundtrip hN q c bases rnd secrets results (hb q hq) (hrnd q hq)
    (hres q hq) (fun r _ => hresp r.secret) ?_
  rcases List.mem_cons.mp hq with rfl | hq'
  · exact hm
  · exact hc q hq'

/-! ## several statements in one proof -/

/-- **order and combination of the contributions**: a successful `rangeContributions` returns the
    concatenation over `index = 0, 1, …, max hidden index` (in increasing order – the prover's
    loop `for index := 0; index < len(attributes)`) of the per-index parts; the part of an index
    with an entry `index ↦ proofs` is the concatenation, in list order, of the commitments of each
    proof (any number of statements per attribute, any number of attributes), evaluated with
    `MResponse := AResponses[index]`; an index without entry contributes nothing. -/
theorem contribution_order {pk : PublicKey} {p : ProofD} {c : Int}
    {rc : List Int} {rps' : Option RPMap} {rps : RPMap}
    (h : (p.rangeContributions pk c).run = .ok (some (rc, rps')))
    (hrps : p.rangeProofs = some rps) :
    ∃ structs parts, (extractAll pk rps).run = .ok (some structs) ∧
      List.Forall₂ (RangeIndexRel pk p c structs rps) p.rangeIndices parts ∧
      rc = parts.flatten ∧
      p.rangeIndices = (List.range (p.maxAttribute.toNat + 1)).map (fun (i : Nat) => (i : Int)) := by
  obtain ⟨structs, parts, h1, h2, h3⟩ := ProofD.rangeContributions_shape h hrps
  exact ⟨structs, parts, h1, h2, h3, rfl⟩

/-- **what an index contributes**: with an entry `index ↦ proofs` (and its structures), the
    concatenation of the lists `commitmentsFromProof` returns for each proof, evaluated with
    `MResponse := AResponses[index]` after the structure check; nothing without an entry. This
    is the definition of `RangeIndexRel` unfolded. -/
theorem rangeIndexRel_iff (pk : PublicKey) (p : ProofD) (c : Int)
    (structs : List (Int × List RangeStructure)) (rps : RPMap) (index : Int) (part : List Int) :
    RangeIndexRel pk p c structs rps index part ↔
      (match structs.lookup index, rps.lookup index with
       | some ss, some proofs => ∃ mresp css, p.aResponses.get index = some mresp ∧
           List.Forall₂ (fun (x : RangeStructure × Option RangeProof) cs => ∃ rp, x.2 = some rp ∧
             x.1.verifyProofStructure pk { rp with mResponse := some mresp } = true ∧
             x.1.commitmentsFromProof pk { rp with mResponse := some mresp } c = .ok cs)
             (ss.zip proofs) css ∧ part = css.flatten
       | _, _ => part = []) := Iff.rfl

/-- **a disclosure proof without range-proof map contributes nothing** to the challenge. -/
theorem no_rangeproofs_no_contribution {pk : PublicKey} {p : ProofD} {c : Int}
    (hrps : p.rangeProofs = none) : (p.rangeContributions pk c).run = .ok (some ([], none)) := by
  rw [ProofD.rangeContributions_eq, hrps]
  rfl

end Gabi.C13

#print axioms Gabi.C13.three_square_rescale
#print axioms Gabi.C13.three_square_le_not_at_equality
#print axioms Gabi.C13.at_equality_provable
#print axioms Gabi.C13.four_square_provable
#print axioms Gabi.C13.split_exists
#print axioms Gabi.C13.splitter_output_fits
#print axioms Gabi.C13.library_splitter_fits
#print axioms Gabi.C13.table_provable
#print axioms Gabi.C13.table_root_fits
#print axioms Gabi.C13.table_needs_factor_one
#print axioms Gabi.C13.four_square_reported
#print axioms Gabi.C13.three_square_reported
#print axioms Gabi.C13.honest_descriptor_extracts
#print axioms Gabi.C13.qr_complete
#print axioms Gabi.C13.qr_special_soundness
#print axioms Gabi.C13.honest_range_relation
#print axioms Gabi.C13.honest_structure_holds
#print axioms Gabi.C13.honest_commitments_reconstruct
#print axioms Gabi.C13.contribution_order
#print axioms Gabi.C13.rangeIndexRel_iff
#print axioms Gabi.C13.no_rangeproofs_no_contribution
