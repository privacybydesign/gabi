/-
  C14 — Keyshare protocol.
  Property theorems about the executable model GabiModel.Keyshare (the keyshare server's second
  move `KeyshareResponse` in keyshare.go, and the randomiser length rule of
  `NewKeyshareCommitments`, ibid.) and the abstract group algebra of the merged
  proofs (GabiProofs.GroupAlgebra). The CBOR encoding + SHA-256 comparison of `h_W` is external:
  its outcome is the parameter `hashMatches`. Helper lemmas: GabiProofs.MiscLemmas.
-/
import GabiModel.Keyshare
import GabiProofs.MiscLemmas
import GabiProofs.GroupAlgebra
import GabiProofs.NumLemmas
import GabiProofs.DerLemmas
namespace Gabi.C14
open Gabi Gabi.Misc

/-! ### when does the server release a response -/

/-- A response `(c, s)` is released **iff** the challenge inputs of the second message hash to
    the value committed in the first, every key id in the inputs is known to the server, every
    per-input contribution can be computed (`R₀` exists, `R₀^rnd mod n` is defined), `c` is the
    Fiat–Shamir challenge over the flattened contributions with context defaulting to 1, and
    `s = rnd + c·secret + userResponse`. `ksContrib` is the model's per-input contribution:
    `[value, commitment, others…]` for inputs without key, `[value, commitment·R₀^rnd mod n,
    others…]` for key-bound inputs. -/
theorem server_release_logic (keys : List (String × PublicKey)) (secret rnd : Int) (hashMatches : Bool)
    (ctx : Option Int) (nonce resp : Int) (issig : Bool) (inputs : List KsInput) (c : Nat) (s : Int) :
    keyshareResponse keys secret rnd hashMatches ctx nonce resp issig inputs = some (c, s) ↔
      hashMatches = true ∧
      (∀ i ∈ inputs, ∀ id, i.keyId = some id → (keys.lookup id).isSome = true) ∧
      ∃ contribs, inputs.mapM (ksContrib keys rnd) = some contribs ∧
        c = createChallenge (ctx.getD 1) nonce contribs.flatten issig ∧
        s = rnd + (c : Int) * secret + resp := by
  rw [keyshareResponse_eq]
  simp only [Option.ite_none_left_eq_some, Bool.not_eq_true, Option.bind_eq_some_iff, Bool.not_eq_false',
    ksUnknownKey_eq_false_iff, Option.some.injEq, Prod.mk.injEq]
  constructor
  · rintro ⟨hk, contribs, hc, h, rfl, rfl⟩
    exact ⟨h, hk, contribs, hc, rfl, rfl⟩
  · rintro ⟨h, hk, contribs, hc, rfl, rfl⟩
    exact ⟨hk, contribs, hc, h, rfl, rfl⟩

/-- What one input contributes to the server's challenge: `[value, commitment, others…]` when it
    names no key; `[value, commitment·R₀^rnd mod n, others…]` when it names a key the server
    knows, with `R₀` present and `R₀^rnd mod n` defined. -/
theorem contribution_spec (keys : List (String × PublicKey)) (rnd : Int) (i : KsInput) :
    (i.keyId = none → ksContrib keys rnd i = some (i.value :: i.commitment :: i.others)) ∧
    (∀ id pk r0 w, i.keyId = some id → keys.lookup id = some pk → pk.r[0]? = some r0 →
        goExp r0 rnd pk.n = some w →
        ksContrib keys rnd i = some (i.value :: (i.commitment * w % pk.n) :: i.others)) :=
  ⟨fun h => ksContrib_none_key h, fun _ _ _ _ h1 h2 h3 h4 => ksContrib_some_key h1 h2 h3 h4⟩

/-- Hash mismatch ⇒ error, no response — whatever the other inputs are. -/
theorem no_release_on_mismatch (keys : List (String × PublicKey)) (secret rnd : Int)
    (ctx : Option Int) (nonce resp : Int) (issig : Bool) (inputs : List KsInput) :
    keyshareResponse keys secret rnd false ctx nonce resp issig inputs = none :=
  Option.eq_none_iff_forall_ne_some.mpr fun _ h =>
    Bool.false_ne_true ((server_release_logic ..).mp h).1

/-- An input naming a key the server does not know ⇒ error, no response (even when the hash
    matches). -/
theorem no_release_unknown_key (keys : List (String × PublicKey)) (secret rnd : Int) (hashMatches : Bool)
    (ctx : Option Int) (nonce resp : Int) (issig : Bool) (inputs : List KsInput)
    (i : KsInput) (hi : i ∈ inputs) (id : String) (hid : i.keyId = some id)
    (hk : keys.lookup id = none) :
    keyshareResponse keys secret rnd hashMatches ctx nonce resp issig inputs = none :=
  Option.eq_none_iff_forall_ne_some.mpr fun _ h => by
    have := ((server_release_logic ..).mp h).2.1 i hi id hid
    rw [hk] at this
    cases this

/-- When the hash does not match, the output is the same error for every secret: nothing that
    depends on the secret leaves the server unless the response is released. -/
theorem mismatch_independent_of_secret (keys : List (String × PublicKey)) (secret secret' rnd : Int)
    (ctx : Option Int) (nonce resp : Int) (issig : Bool) (inputs : List KsInput) :
    keyshareResponse keys secret rnd false ctx nonce resp issig inputs =
    keyshareResponse keys secret' rnd false ctx nonce resp issig inputs := by
  rw [no_release_on_mismatch, no_release_on_mismatch]

/-! ### both sides compute the same challenge -/

/-- If `total i` is the commitment that ends up in the merged proof of input `i` – the user's
    commitment times the server's `R₀^rnd` (mod `n`) for every key-bound input, the user's own
    commitment otherwise – then the server releases, and its challenge is the hash over
    `[value_i, total_i, others_i…]`, i.e. exactly the list a verifier's
    `ProofList.challengeContributions` recomputes for the merged proofs. -/
theorem same_challenge (keys : List (String × PublicKey)) (secret rnd : Int)
    (ctx : Option Int) (nonce resp : Int) (issig : Bool) (inputs : List KsInput)
    (total : KsInput → Int)
    (ht : ∀ i ∈ inputs, match i.keyId with
      | none => total i = i.commitment
      | some id => ∃ pk r0 w, keys.lookup id = some pk ∧ pk.r[0]? = some r0 ∧
          goExp r0 rnd pk.n = some w ∧ total i = i.commitment * w % pk.n) :
    keyshareResponse keys secret rnd true ctx nonce resp issig inputs =
      some (createChallenge (ctx.getD 1) nonce
              (inputs.map fun i => i.value :: total i :: i.others).flatten issig,
            rnd + (createChallenge (ctx.getD 1) nonce
              (inputs.map fun i => i.value :: total i :: i.others).flatten issig : Int) * secret + resp) := by
  have hc : ∀ i ∈ inputs, ksContrib keys rnd i = some (i.value :: total i :: i.others) := by
    intro i hi
    have h := ht i hi
    cases hid : i.keyId with
    | none =>
      rw [hid] at h
      rw [h]
      exact ksContrib_none_key hid
    | some id =>
      rw [hid] at h
      obtain ⟨pk, r0, w, hk, hr, hw, hW⟩ := h
      rw [hW]
      exact ksContrib_some_key hid hk hr hw
  rw [server_release_logic]
  refine ⟨rfl, ?_, _, List.mapM_eq_pure_map _ _ _ hc, rfl, rfl⟩
  intro i hi id hid
  have := ht i hi
  rw [hid] at this
  obtain ⟨pk, _, _, hk, _⟩ := this
  rw [hk]; rfl

/-- `same_challenge` with the exponentiation spelled out for a positive modulus and a non-negative
    randomiser: the challenge of a released response is the hash over `[value_i, W_i, others_i…]`
    with `W_i = comm_i · (R₀^rnd mod n) mod n` for key-bound inputs. -/
theorem same_challenge_explicit (keys : List (String × PublicKey)) (secret rnd : Int) (hrnd : 0 ≤ rnd)
    (ctx : Option Int) (nonce resp : Int) (issig : Bool) (inputs : List KsInput)
    (pkOf : KsInput → PublicKey) (r0Of : KsInput → Int)
    (hk : ∀ i ∈ inputs, ∀ id, i.keyId = some id →
      keys.lookup id = some (pkOf i) ∧ (pkOf i).r[0]? = some (r0Of i) ∧ 0 < (pkOf i).n)
    (c : Nat) (s : Int)
    (h : keyshareResponse keys secret rnd true ctx nonce resp issig inputs = some (c, s)) :
    c = createChallenge (ctx.getD 1) nonce
          (inputs.map fun i => i.value ::
            (match i.keyId with
             | none => i.commitment
             | some _ => i.commitment * (r0Of i ^ rnd.toNat % (pkOf i).n) % (pkOf i).n) ::
            i.others).flatten issig := by
  rw [same_challenge keys secret rnd ctx nonce resp issig inputs
    (fun i => match i.keyId with
             | none => i.commitment
             | some _ => i.commitment * (r0Of i ^ rnd.toNat % (pkOf i).n) % (pkOf i).n)] at h
  · exact (Prod.mk.inj (Option.some.inj h)).1.symm
  · intro i hi
    cases hid : i.keyId with
    | none => simp only
    | some id =>
      obtain ⟨h1, h2, h3⟩ := hk i hi id hid
      exact ⟨pkOf i, r0Of i, _, h1, h2, goExp_nonneg _ _ _ h3 hrnd, rfl⟩

/-- The challenge binds the contribution list (up to a SHA-256 collision): if the server's
    challenge equals the one a verifier computes from another list then the lists agree. -/
theorem challenge_binds {ctx ctx' n n' : Int} {cs cs' : List Int} {b b' : Bool}
    (hl : (hashCommitInput (ctx :: cs ++ [n]) b).length < 256 ^ 126)
    (hl' : (hashCommitInput (ctx' :: cs' ++ [n']) b').length < 256 ^ 126)
    (h : createChallenge ctx n cs b = createChallenge ctx' n' cs' b') :
    (ctx = ctx' ∧ cs = cs' ∧ n = n' ∧ b = b') ∨
      (hashCommitInput (ctx :: cs ++ [n]) b ≠ hashCommitInput (ctx' :: cs' ++ [n']) b' ∧
        Sha256.hash (hashCommitInput (ctx :: cs ++ [n]) b) =
          Sha256.hash (hashCommitInput (ctx' :: cs' ++ [n']) b')) :=
  createChallenge_binds hl hl' h

/-! ### the merged proofs verify for secret = user share + server share -/

section Algebra
variable {G : Type*} [CommGroup G] {ι : Type*}
open Gabi.Alg

/-- Disclosure proof: the credential is signed on `m_u + ks`; user randomiser `r_u`, server
    randomiser `w`; the merged secret-key response `(r_u + c·m_u) + (w + c·ks)` makes the
    verifier's reconstruction equal the merged commitment `T_user · R₀^w`. -/
theorem joint_complete_disclosure {A' S Z : G} (R : ι → G) (i0 : ι) (D H : List ι) (a m rr : ι → ℤ)
    {e v' eC vC c E0 mu ks ru w : ℤ}
    (hsig : A' ^ e * rep R a D * (R i0 ^ (mu + ks) * rep R m H) * S ^ v' = Z) :
    (Z / (A' ^ E0 * rep R a D)) ^ (-c) * A' ^ (eC + c * (e - E0)) * S ^ (vC + c * v') *
        (R i0 ^ ((ru + c * mu) + (w + c * ks)) * rep R (fun j => rr j + c * m j) H)
      = (A' ^ eC * S ^ vC * (R i0 ^ ru * rep R rr H)) * R i0 ^ w := by
  subst hsig
  rw [rep_add, rep_const_mul]
  to_additive_goal
  module

/-- Issuance proof `ProofU`: `U = U_user · R₀^ks`, merged commitment `Ũ_user · R₀^w`. -/
theorem joint_complete_issuance {S R0 : G} (R : ι → G) (L : List ι) (m mt : ι → ℤ)
    {v' vt c mu ks ru w : ℤ} :
    ((S ^ v' * R0 ^ mu * rep R m L) * R0 ^ ks) ^ (-c) * S ^ (vt + c * v') *
        R0 ^ ((ru + c * mu) + (w + c * ks)) * rep R (fun j => mt j + c * m j) L
      = (S ^ vt * R0 ^ ru * rep R mt L) * R0 ^ w :=
  keyshare_proofU R L m mt

/-- The server's own part: `P = R₀^ks`, `W = R₀^w`, response `w + c·ks`. -/
theorem joint_complete_server {R0 : G} {ks w c : ℤ} :
    (R0 ^ ks) ^ (-c) * R0 ^ (w + c * ks) = R0 ^ w := by
  rw [← zpow_mul, ← zpow_add]
  congr 1
  ring

/-- The model's released response *is* the merged response of the algebra: with the user's
    response `r_u + c·m_u` the server returns `(r_u + c·m_u) + (w + c·ks)`. -/
theorem released_response_is_merged (keys : List (String × PublicKey)) (ks w : Int) (hm : Bool)
    (ctx : Option Int) (nonce ru mu : Int) (issig : Bool) (inputs : List KsInput) (c : Nat) (s : Int)
    (h : keyshareResponse keys ks w hm ctx nonce (ru + c * mu) issig inputs = some (c, s)) :
    s = (ru + c * mu) + (w + c * ks) := by
  obtain ⟨_, _, _, _, _, hs⟩ := (server_release_logic _ _ _ _ _ _ _ _ _ _ _).mp h
  rw [hs]; ring

end Algebra

/-! ### randomiser length -/

/-- `NewKeyshareCommitments` picks the 1024-bit `LmCommit` as soon as one 1024-bit key takes
    part (and refuses secrets longer than `Lm(1024) - 1` bits), the 2048-bit one otherwise. -/
theorem randomizer_length_ok (keyBits : List Nat) (secretBits lm lc1024 lc2048 : Nat) :
    (1024 ∈ keyBits → secretBits ≤ lm - 1 →
      keyshareRandomizerLength keyBits secretBits lm lc1024 lc2048 = some lc1024) ∧
    (1024 ∈ keyBits → lm - 1 < secretBits →
      keyshareRandomizerLength keyBits secretBits lm lc1024 lc2048 = none) ∧
    (1024 ∉ keyBits →
      keyshareRandomizerLength keyBits secretBits lm lc1024 lc2048 = some lc2048) := by
  simp only [keyshareRandomizerLength, List.contains_iff_mem]
  refine ⟨fun h1 h2 => ?_, fun h1 h2 => ?_, fun h1 => ?_⟩
  · rw [if_pos h1, if_neg (by omega)]
  · rw [if_pos h1, if_pos (by omega)]
  · rw [if_neg h1]

/-- `Lm` and `LmCommit` of gabi's default system parameters for 1024-, 2048- and 4096-bit keys
    (`defaultSysParams`, built from the table extracted from the Go source): the lengths
    `NewKeyshareCommitments` chooses between. -/
theorem default_lengths :
    (defaultSysParams 1024).map (fun P => (P.Lm, P.LmCommit)) = some (256, 592) ∧
    (defaultSysParams 2048).map (fun P => (P.Lm, P.LmCommit)) = some (256, 640) ∧
    (defaultSysParams 4096).map (fun P => (P.Lm, P.LmCommit)) = some (512, 896) := by decide

/-- **General bound.** Server randomiser `< 2^L`, challenge `< 2^256`, server secret
    `< 2^255` (`Lm(1024) - 1` bits), user response `r_u + c·m_u` with the user's randomiser
    `< 2^592` (`NewProofRandomizers` in prooflist.go always uses `LmCommit(1024)`) and user secret
    `< 2^255`:
    the total response is below `2^L + 2^592 + 2^512`. -/
theorem total_response_bound (L : Nat) {rnd c ks ru mu : Int}
    (hrnd : rnd < 2 ^ L) (hc0 : 0 ≤ c) (hc : c < 2 ^ 256)
    (hks0 : 0 ≤ ks) (hks : ks < 2 ^ 255) (hru : ru < 2 ^ 592) (hmu0 : 0 ≤ mu) (hmu : mu < 2 ^ 255) :
    rnd + c * ks + (ru + c * mu) < 2 ^ L + 2 ^ 592 + 2 ^ 512 := by
  rw [show (2 : Int) ^ 512 = 2 ^ 511 * 2 from pow_succ 2 511]
  exact total_response_lt (P := 2 ^ 511) (mul_lt_two_pow (a := 256) (b := 255) hc0 hks0 hc hks)
    (mul_lt_two_pow (a := 256) (b := 255) hc0 hmu0 hc hmu)
    (add_le_add (add_le_add hrnd.le hru.le) le_rfl)

set_option exponentiation.threshold 1024 in
/-- **No 1024-bit key takes part** (`L = LmCommit(2048) = 640`): the total response always
    fits the verifier's range `≤ 2^(LmCommit+1) - 1` of a 2048-bit key (and a fortiori of a
    4096-bit key, `LmCommit = 896`). -/
theorem total_response_fits_2048 {rnd c ks ru mu : Int}
    (hrnd : rnd < 2 ^ 640) (hc0 : 0 ≤ c) (hc : c < 2 ^ 256)
    (hks0 : 0 ≤ ks) (hks : ks < 2 ^ 255) (hru : ru < 2 ^ 592) (hmu0 : 0 ≤ mu) (hmu : mu < 2 ^ 255) :
    rnd + c * ks + (ru + c * mu) ≤ 2 ^ (640 + 1) - 1 := by
  exact ((total_response_bound 640 hrnd hc0 hc hks0 hks hru hmu0 hmu).trans_le (by norm_num)).le

/-- **A 1024-bit key takes part** (`L = LmCommit(1024) = 592`): the provable bound on the total
    response is `2^593 + 2^512`, which is *above* the verifier's limit `2^593 - 1`
    (`total_response_can_overflow_1024` shows that the limit can indeed be exceeded). -/
theorem total_response_bound_1024 {rnd c ks ru mu : Int}
    (hrnd : rnd < 2 ^ 592) (hc0 : 0 ≤ c) (hc : c < 2 ^ 256)
    (hks0 : 0 ≤ ks) (hks : ks < 2 ^ 255) (hru : ru < 2 ^ 592) (hmu0 : 0 ≤ mu) (hmu : mu < 2 ^ 255) :
    rnd + c * ks + (ru + c * mu) < 2 ^ 593 + 2 ^ 512 := by
  exact (total_response_bound 592 hrnd hc0 hc hks0 hks hru hmu0 hmu).trans_eq
    (by rw [← two_mul, ← pow_succ'])

/-- With a 1024-bit key the total response fits the verifier's limit `2^593 - 1` whenever the two
    randomisers leave `2^512` of head-room below `2^593` (for uniform 592-bit randomisers this
    fails with probability about `2^-161`). -/
theorem total_response_fits_1024 {rnd c ks ru mu : Int}
    (hsum : rnd + ru + 2 ^ 512 ≤ 2 ^ 593) (hc0 : 0 ≤ c) (hc : c < 2 ^ 256)
    (hks0 : 0 ≤ ks) (hks : ks < 2 ^ 255) (hmu0 : 0 ≤ mu) (hmu : mu < 2 ^ 255) :
    rnd + c * ks + (ru + c * mu) ≤ 2 ^ (592 + 1) - 1 := by
  rw [show (2 : Int) ^ 512 = 2 ^ 511 * 2 from pow_succ 2 511] at hsum
  exact Int.le_sub_one_of_lt (total_response_lt (P := 2 ^ 511)
    (mul_lt_two_pow (a := 256) (b := 255) hc0 hks0 hc hks)
    (mul_lt_two_pow (a := 256) (b := 255) hc0 hmu0 hc hmu) hsum)

set_option exponentiation.threshold 1024 in
/-- With a 1024-bit key the total response does **not** always fit: there are admissible values
    (all hypotheses of `total_response_bound_1024` hold) whose total exceeds `2^593 - 1`, so that
    `ProofD.correctResponseSizes` of a 1024-bit key rejects the honest joint proof. -/
theorem total_response_can_overflow_1024 :
    ∃ rnd c ks ru mu : Int, 0 ≤ rnd ∧ rnd < 2 ^ 592 ∧ 0 ≤ c ∧ c < 2 ^ 256 ∧ 0 ≤ ks ∧ ks < 2 ^ 255 ∧
      0 ≤ ru ∧ ru < 2 ^ 592 ∧ 0 ≤ mu ∧ mu < 2 ^ 255 ∧
      2 ^ (592 + 1) - 1 < rnd + c * ks + (ru + c * mu) :=
  ⟨2 ^ 592 - 1, 1, 1, 2 ^ 592 - 1, 1, by norm_num, by norm_num, by norm_num, by norm_num,
   by norm_num, by norm_num, by norm_num, by norm_num, by norm_num, by norm_num, by norm_num⟩

/-! ### non-vacuity -/

/-- a toy key: `n = 35`, `R₀ = 4`. -/
def toyPk : PublicKey :=
  { n := 35, z := 9, s := 11, g := none, h := none, r := [4, 16], counter := 0,
    params := SysParams.ofBase toyBase, hasEcdsa := false, issuer := "toy" }

example : ∃ c s, keyshareResponse [("k", toyPk)] 3 5 true none 7 100 false
    [⟨some "k", 2, 6, [8]⟩, ⟨none, 1, 2, []⟩] = some (c, s) := by
  refine ⟨_, _, same_challenge [("k", toyPk)] 3 5 none 7 100 false _
    (fun i => match i.keyId with | none => i.commitment | some _ => i.commitment * (4 ^ 5 % 35) % 35) ?_⟩
  intro i hi
  simp only [List.mem_cons, List.not_mem_nil, or_false] at hi
  rcases hi with rfl | rfl
  · exact ⟨toyPk, 4, _, rfl, rfl, goExp_nonneg 4 5 35 (by decide) (by decide), rfl⟩
  · rfl

example : keyshareRandomizerLength [2048, 1024] 255 256 592 640 = some 592 := by decide
example : keyshareRandomizerLength [2048, 1024] 256 256 592 640 = none := by decide
example : keyshareRandomizerLength [2048, 4096] 300 256 592 640 = some 640 := by decide

end Gabi.C14

#print axioms Gabi.C14.server_release_logic
#print axioms Gabi.C14.contribution_spec
#print axioms Gabi.C14.no_release_on_mismatch
#print axioms Gabi.C14.no_release_unknown_key
#print axioms Gabi.C14.same_challenge
#print axioms Gabi.C14.same_challenge_explicit
#print axioms Gabi.C14.challenge_binds
#print axioms Gabi.C14.joint_complete_disclosure
#print axioms Gabi.C14.joint_complete_issuance
#print axioms Gabi.C14.joint_complete_server
#print axioms Gabi.C14.released_response_is_merged
#print axioms Gabi.C14.randomizer_length_ok
#print axioms Gabi.C14.default_lengths
#print axioms Gabi.C14.total_response_bound
#print axioms Gabi.C14.total_response_fits_2048
#print axioms Gabi.C14.total_response_bound_1024
#print axioms Gabi.C14.total_response_fits_1024
#print axioms Gabi.C14.total_response_can_overflow_1024
