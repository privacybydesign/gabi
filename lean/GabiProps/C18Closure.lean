/-
  C18 (part) — closure of the wire round trip of disclosure proofs.
  GabiProps.C18Omit shows `Decode.proofD p.toTree = .ok p.strip` for proofs `p` that meet `WireOk`
  and `MapsSorted`, and that stripping does not change the verdict. This file shows the converse:
  whatever the decoder returns meets these hypotheses, so the round trip can be iterated and the
  statements apply to every proof a verifier actually holds; and that the order in which the maps
  of a proof are listed does not matter for verification at all, which removes `MapsSorted`.
  Helper lemmas: GabiProofs.ProofCodecClosure (decoder inversion, fixed points, counterexamples),
  GabiProofs.ProofPerm (order independence of the verifier).
-/
import GabiProofs.ProofCodecClosure
namespace Gabi.C18
open Gabi Gabi.Wire Lean

/-! ## what the decoder returns meets the hypotheses of the round-trip theorems

  `AllWF j`: every object node of the tree is a well-formed `Std.TreeMap.Raw` (the notion used by
  `decoded_responses_nodup`; true of parsed trees and of trees built with `Json.mkObj`).
  `CanonTree j`: the integer keys of the `a_responses`, `a_disclosed` and `rangeproofs` objects are
  canonically spelled (`k = toString z` whenever `k` parses to `z`) and the `responses` object of
  the non-revocation proof has no member "alpha". Both conditions are needed, see the
  counterexamples below. -/

/-- Every proof the decoder accepts from a well-formed tree is one the wire can carry: integers
    non-negative (unless the decoder is called directly), map keys distinct and within 64 bits,
    counters within 64 bits. No condition on the spelling of the tree. -/
theorem decoded_wire_ok (j : Json) (hwf : AllWF j) (direct : Bool) (p : ProofD)
    (h : Decode.proofD j direct = .ok p) : p.WireOk direct := Gabi.decoded_wireOk hwf h

/-- The fields that are not serialised are empty in a decoded proof: `nu` and `challenge` of the
    non-revocation proof, `mResponse` of every range proof (no well-formedness needed). -/
theorem decoded_omitted_fields_empty (j : Json) (direct : Bool) (p : ProofD)
    (h : Decode.proofD j direct = .ok p) :
    (∀ nr, p.nonrev = some nr → nr.nu = none ∧ nr.challenge = none) ∧ p.stripRange = p :=
  Gabi.decoded_omitted_empty h

/-- A proof decoded from a well-formed, canonically spelled tree lists its maps in key-text
    order with distinct keys, carries only what the wire can carry, and has no omitted-field
    content: it meets the hypotheses of `decode_encode_sorted` / `reread_verifies_same`. -/
theorem decoded_meets_hypotheses (j : Json) (hwf : AllWF j) (hc : CanonTree j) (direct : Bool) (p : ProofD)
    (h : Decode.proofD j direct = .ok p) : p.MapsSorted ∧ p.WireOk direct ∧ p.strip = p :=
  Gabi.decoded_meets_hypotheses hwf hc h

/-- The canonical tree of any proof the wire can carry is itself well-formed and canonically
    spelled — so `decoded_meets_hypotheses` applies to everything `ProofD.toTree` produces. -/
theorem canonical_tree_closed (direct : Bool) (p : ProofD) (hw : p.WireOk direct) :
    AllWF p.toTree ∧ CanonTree p.toTree := ⟨ProofD.toTree_allWF hw, ProofD.toTree_canon hw⟩

/-- `decoded_meets_hypotheses` needs `CanonTree` for `MapsSorted`: the decoder (like
    `strconv.ParseInt` behind encoding/json) accepts the key "007" for 7. The well-formed tree
    `{"a_responses": {"007": 1, "1": 2}}` decodes to `AResponses = [(7,1), (1,2)]`, which is not
    in the order of the canonical key texts "7", "1". -/
theorem decoded_not_sorted_counterexample (direct : Bool) :
    AllWF cexKeyTree ∧ Decode.proofD cexKeyTree direct = .ok cexKeyProof ∧ ¬ cexKeyProof.MapsSorted := by
  have hf : FieldNames [("007", Enc.big (some 1)), ("1", Enc.big (some 2))] := by simp [FieldNames]
  refine ⟨allWF_struct (by simp [FieldNames])
    (show AllWF (Json.mkObj _) from allWF_struct hf ⟨allWF_big (some 1), allWF_big (some 2)⟩), ?_, ?_⟩
  · have hsorted : KeysSorted [("007", Enc.big (some 1)), ("1", Enc.big (some 2))] := by
      unfold KeysSorted; simp; decide
    have hkey1 : Decode.parseIntKey "007" = .ok 7 := by
      unfold Decode.parseIntKey
      rw [String.toInt?_eq_some_of_toNat?_eq_some (a := 7)
        (by rw [String.toNat?_eq_some_ofDigitChars (String.isNat_of_isDigit (by decide) (by decide))]; rfl)]
      rfl
    have hkey2 : Decode.parseIntKey "1" = .ok 1 := parseIntKey_toString 1 (by constructor <;> decide)
    refine proofD_mkObj direct (by simp [FieldNames]) rfl rfl rfl rfl ?_ rfl rfl rfl
    show Decode.intMap (Json.mkObj _) direct = _
    rw [intMap_mkObj direct hf.distinct hf.notLeaf, sortedEntries_of_sorted hsorted]
    simp only [List.mapM_cons, List.mapM_nil, hkey1, hkey2,
      decode_big direct (some 1) (bigOk_some _ _ (by decide)),
      decode_big direct (some 2) (bigOk_some _ _ (by decide)), bind, Except.bind, pure, Except.pure]
    rw [dedupKeys_of_nodup _ (by decide)]
  · intro h
    have := h.aResponses
    unfold KeyedSorted cexKeyProof at this
    simp only [List.pairwise_cons, List.mem_singleton, forall_eq] at this
    exact absurd this.1 (by decide)

/-- `decoded_meets_hypotheses` needs `CanonTree` for `p.strip = p`: a tree may carry an "alpha"
    response (which an honest prover never sends and `SetExpected` overwrites); the decoder keeps
    it, `strip` removes it. -/
theorem decoded_alpha_counterexample (direct : Bool) :
    AllWF cexAlphaTree ∧ Decode.proofD cexAlphaTree direct = .ok cexAlphaProof ∧
      cexAlphaProof.strip ≠ cexAlphaProof :=
  ⟨allWF_struct (by simp [FieldNames]) (allWF_struct (by simp [FieldNames]) (allWF_strMap (by decide))),
    proofD_mkObj direct (by simp [FieldNames]) rfl rfl rfl rfl rfl rfl
      (nonrev_mkObj direct (by simp [FieldNames]) rfl rfl
        ((decode_strMap direct [("alpha", some 1)] ⟨by decide, by simp [bigOk_some]⟩).trans
          (congrArg _ (sortByKey_of_sorted (List.pairwise_singleton _ _)))) rfl) rfl,
    by decide⟩

/-- Without `CanonTree` the closest true statement: one trip over the wire normalises the proof.
    The re-read proof `p.reread` (omitted fields cleared, maps in key-text order) meets all three
    hypotheses. -/
theorem reread_meets_hypotheses (direct : Bool) (p : ProofD) (hw : p.WireOk direct) :
    p.reread.MapsSorted ∧ p.reread.WireOk direct ∧ p.reread.strip = p.reread :=
  ProofD.reread_meets_hypotheses hw

/-! ## decoding is idempotent -/

/-- Re-encoding a decoded proof canonically and decoding again returns the same proof. -/
theorem decode_idempotent (j : Json) (hwf : AllWF j) (hc : CanonTree j) (direct : Bool) (p : ProofD)
    (h : Decode.proofD j direct = .ok p) : Decode.proofD p.toTree direct = .ok p := by
  obtain ⟨hs, hw, hst⟩ := decoded_meets_hypotheses j hwf hc direct p h
  rw [decode_encode_proofD direct p hw, ProofD.reread_eq_strip p hs, hst]

/-- For an arbitrarily spelled well-formed tree idempotence holds from the second decoding on:
    the first re-read yields `p.reread`, every further one returns `p.reread` again. -/
theorem decode_idempotent_any_spelling (j : Json) (hwf : AllWF j) (direct : Bool) (p : ProofD)
    (h : Decode.proofD j direct = .ok p) :
    Decode.proofD p.toTree direct = .ok p.reread ∧ Decode.proofD p.reread.toTree direct = .ok p.reread :=
  ⟨decode_encode_proofD direct p (Gabi.decoded_wireOk hwf h), ProofD.reread_fixed (Gabi.decoded_wireOk hwf h)⟩

/-- A decoded issuance commitment proof (`ProofU`: nothing omitted, one integer-keyed map)
    re-encodes and decodes to itself, provided the keys of `m_user_responses` were canonically
    spelled. -/
theorem decode_idempotent_proofU (j : Json) (hwf : AllWF j)
    (hc : CanonKeys (Decode.optField j "m_user_responses")) (direct : Bool) (p : ProofU)
    (h : Decode.proofU j direct = .ok p) : Decode.proofU p.toTree direct = .ok p := by
  rw [Gabi.decode_encode_proofU direct p (decoded_wireOk_proofU h),
    ProofU.reread_eq_self p (decoded_sorted_proofU hwf hc h)]

/-- However the tree was spelled, a decoded `ProofU` comes back from the wire as `p.reread`, and
    `p.reread` comes back unchanged. -/
theorem decode_idempotent_proofU_any_spelling (j : Json) (direct : Bool) (p : ProofU)
    (h : Decode.proofU j direct = .ok p) :
    Decode.proofU p.toTree direct = .ok p.reread ∧ Decode.proofU p.reread.toTree direct = .ok p.reread :=
  have hw := decoded_wireOk_proofU h
  ⟨Gabi.decode_encode_proofU direct p hw, by
    rw [Gabi.decode_encode_proofU direct _ (ProofU.reread_wireOk hw), ProofU.reread_eq_self _ (ProofU.reread_sorted hw)]⟩

/-- Proof lists (`ProofList.UnmarshalJSON`): every member is recognised as the kind it was decoded
    as and comes back unchanged. `CanonListTree`: every element of the array is canonically
    spelled. -/
theorem decode_idempotent_proofList (j : Json) (hwf : AllWF j) (hc : CanonListTree j) (direct : Bool)
    (pl : List Proof) (h : Decode.proofList j direct = .ok pl) :
    Decode.proofList (proofListToTree pl) direct = .ok pl := by
  rw [Gabi.decode_encode_proofList direct pl (decoded_list_wireOk hwf h)]
  congr 1
  conv => rhs; rw [← List.map_id pl]
  apply List.map_congr_left
  intro pr hpr
  obtain ⟨hs, hst⟩ := decoded_list_sorted hwf hc h pr hpr
  show pr.reread = pr
  rw [Proof.reread_eq_strip pr hs, hst]

/-- However the elements of a well-formed array were spelled, a decoded proof list comes back from
    the wire with every member re-read, and that list comes back unchanged. -/
theorem decode_idempotent_proofList_any_spelling (j : Json) (hwf : AllWF j) (direct : Bool)
    (pl : List Proof) (h : Decode.proofList j direct = .ok pl) :
    Decode.proofList (proofListToTree pl) direct = .ok (pl.map Proof.reread) ∧
    Decode.proofList (proofListToTree (pl.map Proof.reread)) direct = .ok (pl.map Proof.reread) :=
  ⟨Gabi.decode_encode_proofList direct pl (decoded_list_wireOk hwf h),
    proofList_reread_fixed (decoded_list_wireOk hwf h)⟩

/-! ## the order of the maps does not matter

  `ProofD.PermEq p q`: same scalar members; `AResponses`, `ADisclosed`, the response map of the
  non-revocation proof and the range-proof map of `q` are permutations of those of `p`.
  `ProofD.KeysNodup p`: the keys of `AResponses`, of the responses other than "alpha" and of the
  range-proof map are distinct (these maps are looked up; `ADisclosed` is only traversed and needs
  no condition). -/

/-- `reconstructZ` of a well-formed proof is invariant under permutation of `ADisclosed` and
    `AResponses`: the products (over the integers for the disclosed attributes, before the
    reduction modulo `n` for the responses) commute, and every step either contributes a factor or
    ends with the same outcome (`nil` exponentiation panic resp. error return). -/
theorem reconstructZ_order_independent (pk : PublicKey) (p q : ProofD) (h : p.PermEq q)
    (hw : p.wellFormed pk = true) : p.reconstructZ pk = q.reconstructZ pk :=
  ProofD.reconstructZ_perm pk h hw

/-- Well-formedness is needed for `reconstructZ` taken alone: on a malformed proof the panic that
    is hit first depends on the order (nil attribute versus index out of range). `Verify` is not
    affected because `ChallengeContribution` checks `wellFormed` first. -/
theorem reconstructZ_order_dependent_when_malformed :
    cexOrderD1.PermEq cexOrderD2 ∧ cexOrderD1.reconstructZ cexPk ≠ cexOrderD2.reconstructZ cexPk := by
  obtain ⟨h1, h2⟩ := cexOrder_reconstructZ cexPk (by decide)
  refine ⟨⟨rfl, rfl, rfl, rfl, List.Perm.refl _, List.Perm.swap _ _ _, trivial, trivial⟩, ?_⟩
  rw [h1, h2]
  decide

/-- `ProofD.Verify` (for every signature oracle, key, session and picks of
    `revocationAttrIndex`) gives the same verdict — the same panic, if any — on two proofs that
    differ only in the order in which their maps are listed. The challenge hash input
    (`[A, Z] ++ non-revocation contributions ++ range contributions`) does not depend on the list
    order: `Z` is a commutative product, the non-revocation contributions read the responses by
    name, and the range contributions are collected for index 0, 1, 2, … by lookup. -/
theorem verify_order_independent (o : SigOracle) (kid : String) (pk : PublicKey) (p q : ProofD)
    (h : p.PermEq q) (hnd : p.KeysNodup) (ctx nonce : Int) (issig : Bool) (i1 i2 : Int) :
    p.verifyWith o kid pk ctx nonce issig i1 i2 = q.verifyWith o kid pk ctx nonce issig i1 i2 :=
  ProofD.verifyWith_perm o kid pk h hnd ctx nonce issig i1 i2

/-- the picks `revocationAttrIndex` can make are the same up to order. -/
theorem revChoices_order_independent (p q : ProofD) (h : p.PermEq q) : p.revChoices.Perm q.revChoices :=
  ProofD.revChoices_perm h

/-- `ProofList.Verify` (disclosure and issuance commitment proofs mixed) gives the same verdict on
    two lists whose members differ only in the order of their maps, the looked-up keys of the
    disclosure proofs being distinct. -/
theorem proofList_verify_order_independent (o : SigOracle) (keys : List (String × PublicKey))
    (pl pl' : List Proof) (h : List.Forall₂ ProofPermRel0 pl pl') (ctx nonce : Int) (issig : Bool)
    (kss : List String) (choices : List (Int × Int)) :
    proofListVerifyWith o keys pl ctx nonce issig kss choices =
      proofListVerifyWith o keys pl' ctx nonce issig kss choices :=
  proofListVerifyWith_perm o keys h ctx nonce issig kss choices

/-- `reread_verifies_same` without `MapsSorted` (by `verify_order_independent`): encoding any proof
    the wire can carry and decoding it again yields a proof with the same verdict and, up to order,
    the same `revocationAttrIndex` picks, whatever the omitted fields held and in whatever order
    the maps were listed. -/
theorem reread_verifies_same_any_order (direct : Bool) (p : ProofD) (hw : p.WireOk direct) :
    ∃ q, Decode.proofD p.toTree direct = .ok q ∧ q.revChoices.Perm p.revChoices ∧
      ∀ (o : SigOracle) (kid : String) (pk : PublicKey) (ctx nonce : Int) (issig : Bool) (i1 i2 : Int),
        q.verifyWith o kid pk ctx nonce issig i1 i2 = p.verifyWith o kid pk ctx nonce issig i1 i2 :=
  ⟨p.reread, decode_encode_proofD direct p hw, ProofD.reread_revChoices hw,
    fun o kid pk ctx nonce issig i1 i2 => ProofD.reread_verifyWith hw o kid pk ctx nonce issig i1 i2⟩

/-- `reread_list_verifies_same` without `MapsSorted`: a proof list that went over the wire gets the
    verdict of the original, in whatever order the maps of its members were listed. -/
theorem reread_list_verifies_same_any_order (direct : Bool) (pl : List Proof)
    (hw : ∀ pr ∈ pl, pr.WireOk direct) :
    ∃ ql, Decode.proofList (proofListToTree pl) direct = .ok ql ∧
      ∀ (o : SigOracle) (keys : List (String × PublicKey)) (ctx nonce : Int) (issig : Bool)
        (kss : List String) (choices : List (Int × Int)),
        proofListVerifyWith o keys ql ctx nonce issig kss choices =
          proofListVerifyWith o keys pl ctx nonce issig kss choices :=
  ⟨pl.map Proof.reread, Gabi.decode_encode_proofList direct pl hw,
    fun o keys ctx nonce issig kss choices => proofList_reread_verify hw o keys ctx nonce issig kss choices⟩

/-! ## the verdict is stable under any number of round trips

  `rewire direct` is one trip over the wire on `Except Unit ProofD`: canonical encoding followed by
  decoding; `(rewire direct)^[n]` is `Nat.iterate`. -/

/-- For a proof decoded from a well-formed, canonically spelled tree, any number of round trips
    returns the very same proof. -/
theorem wire_roundtrip_stable (j : Json) (hwf : AllWF j) (hc : CanonTree j) (direct : Bool) (p : ProofD)
    (h : Decode.proofD j direct = .ok p) (n : Nat) : (rewire direct)^[n] (.ok p) = .ok p :=
  rewire_iterate_of_fixed (decode_idempotent j hwf hc direct p h) n

/-- `wire_roundtrip_stable` restated for the `verifyWith` verdict (every oracle, key, session, picks). -/
theorem wire_roundtrip_stable_verdict (j : Json) (hwf : AllWF j) (hc : CanonTree j) (direct : Bool)
    (p : ProofD) (h : Decode.proofD j direct = .ok p) (n : Nat) :
    ∃ q, (rewire direct)^[n] (.ok p) = .ok q ∧ q = p ∧
      ∀ (o : SigOracle) (kid : String) (pk : PublicKey) (ctx nonce : Int) (issig : Bool) (i1 i2 : Int),
        q.verifyWith o kid pk ctx nonce issig i1 i2 = p.verifyWith o kid pk ctx nonce issig i1 i2 :=
  ⟨p, wire_roundtrip_stable j hwf hc direct p h n, rfl, fun _ _ _ _ _ _ _ _ => rfl⟩

/-- For an arbitrarily spelled well-formed tree the sequence is stationary from the first round
    trip on: every round trip returns `p.reread`. -/
theorem wire_roundtrip_stationary (j : Json) (hwf : AllWF j) (direct : Bool) (p : ProofD)
    (h : Decode.proofD j direct = .ok p) (n : Nat) : (rewire direct)^[n + 1] (.ok p) = .ok p.reread :=
  rewire_iterate_succ (Gabi.decoded_wireOk hwf h) n

/-- Without `CanonTree`: every proof decoded from a well-formed tree keeps its verdict (by
    `verify_order_independent`), and its `revocationAttrIndex` picks up to order, through any number
    of round trips, and no round trip fails. -/
theorem wire_roundtrip_stable_verdict_any_spelling (j : Json) (hwf : AllWF j) (direct : Bool) (p : ProofD)
    (h : Decode.proofD j direct = .ok p) (n : Nat) :
    ∃ q, (rewire direct)^[n] (.ok p) = .ok q ∧ q.revChoices.Perm p.revChoices ∧
      ∀ (o : SigOracle) (kid : String) (pk : PublicKey) (ctx nonce : Int) (issig : Bool) (i1 i2 : Int),
        q.verifyWith o kid pk ctx nonce issig i1 i2 = p.verifyWith o kid pk ctx nonce issig i1 i2 := by
  have hw := Gabi.decoded_wireOk hwf h
  cases n with
  | zero => exact ⟨p, rfl, List.Perm.refl _, fun _ _ _ _ _ _ _ _ => rfl⟩
  | succ n =>
    exact ⟨p.reread, rewire_iterate_succ hw n, ProofD.reread_revChoices hw,
      fun o kid pk ctx nonce issig i1 i2 => ProofD.reread_verifyWith hw o kid pk ctx nonce issig i1 i2⟩

/-- A proof list decoded from a well-formed array keeps its `ProofList.Verify` verdict through any
    number of round trips, and no round trip fails. -/
theorem wire_roundtrip_list_stable_verdict (j : Json) (hwf : AllWF j) (direct : Bool) (pl : List Proof)
    (h : Decode.proofList j direct = .ok pl) (n : Nat) :
    ∃ ql, (rewireList direct)^[n] (.ok pl) = .ok ql ∧
      ∀ (o : SigOracle) (keys : List (String × PublicKey)) (ctx nonce : Int) (issig : Bool)
        (kss : List String) (choices : List (Int × Int)),
        proofListVerifyWith o keys ql ctx nonce issig kss choices =
          proofListVerifyWith o keys pl ctx nonce issig kss choices := by
  have hw := decoded_list_wireOk hwf h
  cases n with
  | zero => exact ⟨pl, rfl, fun _ _ _ _ _ _ _ => rfl⟩
  | succ n =>
    exact ⟨pl.map Proof.reread, rewireList_iterate_succ hw n,
      fun o keys ctx nonce issig kss choices => proofList_reread_verify hw o keys ctx nonce issig kss choices⟩

/-- A proof list decoded from a well-formed, canonically spelled array is reproduced by any number
    of round trips. -/
theorem wire_roundtrip_list_stable (j : Json) (hwf : AllWF j) (hc : CanonListTree j) (direct : Bool)
    (pl : List Proof) (h : Decode.proofList j direct = .ok pl) (n : Nat) :
    (rewireList direct)^[n] (.ok pl) = .ok pl :=
  rewireList_iterate_of_fixed (decode_idempotent_proofList j hwf hc direct pl h) n

/-! ## non-vacuity -/

/-- a proof with a non-revocation proof and a range proof, omitted fields filled with junk, maps
    not in key-text order ("10" < "9" as texts). -/
def exC : ProofD :=
  { c := some 5, a := some 7, eResponse := some 1, vResponse := some 2,
    aResponses := [(0, some 3), (9, some 4), (10, some 6)], aDisclosed := [(2, some 9), (1, some 8)],
    nonrev := some { cr := some 2, cu := some 3, nu := some 99, challenge := some 98,
                     responses := [("epsilon", some 2), ("alpha", some 77), ("beta", some 1)],
                     sacc := some { data := some [1, 2], pkCounter := 0 } },
    rangeProofs := some [(9, [some { cs := [some 1], ds := [none], vs := [], v5 := some 3,
                                     mResponse := some 1234, ld := 8, sign := 1, a := 1, k := some 0 }])] }

/-- `exC` is a proof the wire can carry, so the theorems with hypothesis `WireOk` apply to it. -/
theorem exC_wireOk : exC.WireOk false :=
  { c := by decide
    a := by decide
    eResponse := by decide
    vResponse := by decide
    aResponses := ⟨by decide, by decide, by decide⟩
    aDisclosed := ⟨by decide, by decide, by decide⟩
    nonrev := by
      rintro nr ⟨⟩
      exact ⟨by decide, by decide, ⟨by decide, by decide⟩, by rintro s ⟨⟩; decide⟩
    rangeProofs := by
      rintro m ⟨⟩
      refine ⟨by decide, by decide, ?_⟩
      simp only [List.mem_singleton, forall_eq]
      rintro r ⟨⟩
      exact ⟨by decide, by decide, by decide, by decide, by decide, by decide, by decide, by decide⟩ }

/-- the hypotheses of the theorems about decoded proofs are met by the canonical tree of `exC` and
    the proof decoded from it (which differs from `exC`: omitted fields cleared, maps re-ordered). -/
example : AllWF exC.toTree ∧ CanonTree exC.toTree ∧ Decode.proofD exC.toTree false = .ok exC.reread ∧
    exC.reread ≠ exC :=
  ⟨(canonical_tree_closed false exC exC_wireOk).1, (canonical_tree_closed false exC exC_wireOk).2,
    decode_encode_proofD false exC exC_wireOk, by
      intro h
      have : exC.reread.nonrev = exC.nonrev := by rw [h]
      simp only [ProofD.reread, exC, Option.map_some, Option.some.injEq] at this
      have h2 := congrArg NonRevProof.nu this
      simp [NonRevProof.reread, NonRevProof.strip] at h2⟩

/-- `PermEq` / `KeysNodup` are met by the stripped and the re-read form of `exC`. -/
example : exC.strip.PermEq exC.reread ∧ exC.strip.KeysNodup :=
  ⟨ProofD.strip_permEq_reread exC_wireOk, ProofD.strip_keysNodup exC_wireOk⟩

/-- the maps of `exC` are indeed not in key-text order. -/
example : ¬ exC.MapsSorted := by
  intro h
  have := h.aResponses
  unfold KeyedSorted exC at this
  simp only [List.pairwise_cons, List.mem_cons, forall_eq_or_imp] at this
  exact absurd this.2.1.1 (by decide)

end Gabi.C18

#print axioms Gabi.C18.decoded_wire_ok
#print axioms Gabi.C18.decoded_omitted_fields_empty
#print axioms Gabi.C18.decoded_meets_hypotheses
#print axioms Gabi.C18.canonical_tree_closed
#print axioms Gabi.C18.decoded_not_sorted_counterexample
#print axioms Gabi.C18.decoded_alpha_counterexample
#print axioms Gabi.C18.reread_meets_hypotheses
#print axioms Gabi.C18.decode_idempotent
#print axioms Gabi.C18.decode_idempotent_any_spelling
#print axioms Gabi.C18.decode_idempotent_proofU
#print axioms Gabi.C18.decode_idempotent_proofU_any_spelling
#print axioms Gabi.C18.decode_idempotent_proofList
#print axioms Gabi.C18.decode_idempotent_proofList_any_spelling
#print axioms Gabi.C18.reconstructZ_order_independent
#print axioms Gabi.C18.reconstructZ_order_dependent_when_malformed
#print axioms Gabi.C18.verify_order_independent
#print axioms Gabi.C18.revChoices_order_independent
#print axioms Gabi.C18.proofList_verify_order_independent
#print axioms Gabi.C18.reread_verifies_same_any_order
#print axioms Gabi.C18.reread_list_verifies_same_any_order
#print axioms Gabi.C18.wire_roundtrip_stable
#print axioms Gabi.C18.wire_roundtrip_stable_verdict
#print axioms Gabi.C18.wire_roundtrip_stationary
#print axioms Gabi.C18.wire_roundtrip_stable_verdict_any_spelling
#print axioms Gabi.C18.wire_roundtrip_list_stable_verdict
#print axioms Gabi.C18.wire_roundtrip_list_stable
