/-
  C16 (subgroup part) — "Z and R_i lie in the subgroup generated by S": soundness of the order
  criterion that the evaluated predicate `KeyGen.inSubgroup` uses.
  Property theorems only; helper lemmas live in GabiProofs.QrCyclic.

  `GabiProps.C16` proves the construction direction (`Z = S^x` ⇒ `Z ∈ ⟨S⟩`). Here: why the test
  that `KeyGen.wellFormed` performs on a *given* key – `x` is a quadratic residue and
  `x^d ≡ 1 (mod n)` where `d = qrOrder … S ∈ {1, p', q', p'q'}` is the order of `S` – implies
  `x ∈ ⟨S⟩`. It does because `QR_n`, the group of squares of `(ℤ/n)ˣ` for `n = p·q`,
  `p = 2p'+1`, `q = 2q'+1`, is cyclic of order `p'q'` (CRT and cyclicity of `𝔽_pˣ`); the criterion
  is stated first in `(ZMod n)ˣ`, then for the executable predicate.
  Primality of `p, q, p', q'` is a hypothesis (`Nat.Prime`); the executable predicate decides it
  with Miller–Rabin. `QrCyclic.squares G` is the range of `x ↦ x²` on a commutative group `G`;
  `QrCyclic.ordOf a b s` is `1` if `s = 1`, else `a` if `s^a = 1`, else `b` if `s^b = 1`, else `a·b`
  (what `KeyGen.qrOrder` computes).
-/
import GabiProofs.QrCyclic
namespace Gabi.C16
open Gabi Gabi.KeyGen

/-! ### QR_n is cyclic -/

/-- Membership in `squares G` is being a square. -/
theorem mem_squares_iff {G : Type*} [CommGroup G] (x : G) :
    x ∈ QrCyclic.squares G ↔ ∃ y : G, y ^ 2 = x :=
  QrCyclic.mem_squares

/-- **`QR_n` is cyclic of order `p'q'`.** For `n = p·q` with `p = 2p'+1`, `q = 2q'+1`, all four
    prime and `p ≠ q`, the subgroup of squares of `(ℤ/n)ˣ` is cyclic and has exactly `p'·q'`
    elements. (CRT `(ℤ/pq)ˣ ≃ (ℤ/p)ˣ × (ℤ/q)ˣ`; the squares of the cyclic group `(ℤ/p)ˣ` of
    order `2p'` form a cyclic group of order `p'`; a product of cyclic groups of coprime orders is
    cyclic.) -/
theorem qr_cyclic (p q p' q' : Nat) (hp : p.Prime) (hq : q.Prime) (hp' : p'.Prime) (hq' : q'.Prime)
    (ep : p = 2 * p' + 1) (eq : q = 2 * q' + 1) (hne : p ≠ q) :
    IsCyclic (QrCyclic.squares (ZMod (p * q))ˣ) ∧
      Nat.card (QrCyclic.squares (ZMod (p * q))ˣ) = p' * q' :=
  QrCyclic.qr_cyclic ⟨hp, hq, hp', hq', ep, eq, hne⟩

/-! ### the order criterion in `(ZMod n)ˣ` -/

/-- **A square of full order generates `QR_n`.** If `S` is a square unit modulo `n` with
    `S^p' ≠ 1` and `S^q' ≠ 1`, then `S` has order exactly `p'q'`, the cyclic subgroup `⟨S⟩` *is*
    the group of squares, and so every square unit `x` is `S^k` for some `k`. This is the case a
    generated key is in unless the random quadratic residue `S` happens to have order below
    `p'q'` (probability about `1/p' + 1/q'`). -/
theorem order_criterion (p q p' q' : Nat) (hp : p.Prime) (hq : q.Prime) (hp' : p'.Prime)
    (hq' : q'.Prime) (ep : p = 2 * p' + 1) (eq : q = 2 * q' + 1) (hne : p ≠ q)
    (S : (ZMod (p * q))ˣ) (hS : S ∈ QrCyclic.squares (ZMod (p * q))ˣ)
    (h1 : S ^ p' ≠ 1) (h2 : S ^ q' ≠ 1) :
    orderOf S = p' * q' ∧ Subgroup.zpowers S = QrCyclic.squares (ZMod (p * q))ˣ ∧
      ∀ x ∈ QrCyclic.squares (ZMod (p * q))ˣ, ∃ k : Nat, x = S ^ k :=
  have g := QrCyclic.generator_criterion_units ⟨hp, hq, hp', hq', ep, eq, hne⟩ S hS h1 h2
  ⟨g.1, le_antisymm ((Subgroup.zpowers_le).mpr hS) (fun x hx => by
      obtain ⟨k, rfl⟩ := g.2 x hx
      exact Subgroup.npow_mem_zpowers S k), g.2⟩

/-- **The criterion for an arbitrary square `S`** (all four branches of `qrOrder`): `S`, `x`
    square units, `d = ordOf p' q' S` (the order of `S`: `1`, `p'`, `q'` or `p'q'`), `x^d = 1`.
    Then `x = S^k` for some `k`: in the cyclic group `QR_n` the elements killed by `d` are exactly
    the subgroup of order `d`. -/
theorem order_criterion_general (p q p' q' : Nat) (hp : p.Prime) (hq : q.Prime) (hp' : p'.Prime)
    (hq' : q'.Prime) (ep : p = 2 * p' + 1) (eq : q = 2 * q' + 1) (hne : p ≠ q)
    (S x : (ZMod (p * q))ˣ) (hS : S ∈ QrCyclic.squares (ZMod (p * q))ˣ)
    (hx : x ∈ QrCyclic.squares (ZMod (p * q))ˣ) (hxd : x ^ QrCyclic.ordOf p' q' S = 1) :
    ∃ k : Nat, x = S ^ k :=
  QrCyclic.order_criterion_units ⟨hp, hq, hp', hq', ep, eq, hne⟩ S x hS hx hxd

/-- What `KeyGen.qrOrder` computes on a representative `s` coprime to `n > 1` is `ordOf` of the
    unit `s` of `ZMod n`, so `order_criterion_general` speaks about the order the model uses. -/
theorem qrOrder_is_ordOf (n pP qP s : Nat) (hn : 1 < n) (hc : Nat.Coprime s n) :
    qrOrder n pP qP s = QrCyclic.ordOf pP qP (ZMod.unitOfCoprime s hc) :=
  QrCyclic.qrOrder_eq_ordOf hn pP qP s hc

/-! ### the executable predicate -/

/-- **Soundness of `inSubgroup`** (the check named "Z-subgroup" / "R-subgroup" of
    `wellFormed`). `p = 2p'+1`, `q = 2q'+1`, all four prime, `p ≠ q`; `s` passes `isQR`
    (in range, Legendre symbol 1 modulo `p` and `q`); `x` passes `inSubgroup … s` (`isQR`, and
    `x^(qrOrder s) mod n = 1`). Then `x = s^k mod n` for some `k` – `x` is in the subgroup
    generated by `s`. -/
theorem inSubgroup_sound (p q pP qP s x : Nat) (hp : p.Prime) (hq : q.Prime) (hpP : pP.Prime)
    (hqP : qP.Prime) (ep : p = 2 * pP + 1) (eq : q = 2 * qP + 1) (hne : p ≠ q)
    (hs : isQR p q s = true) (h : inSubgroup p q pP qP s x = true) :
    ∃ k : Nat, x = powMod s k (p * q) :=
  QrCyclic.inSubgroup_sound ⟨hp, hq, hpP, hqP, ep, eq, hne⟩ hs h

/-- **A base of full order generates every quadratic residue**, on representatives: `p = 2p'+1`,
    `q = 2q'+1`, all four prime, `p ≠ q`; `s` passes `isQR` and `s^p' mod n ≠ 1`, `s^q' mod n ≠ 1`.
    Then *every* `x` that passes `isQR` is `s^k mod n` for some `k`. -/
theorem generator_sound (p q pP qP s : Nat) (hp : p.Prime) (hq : q.Prime) (hpP : pP.Prime)
    (hqP : qP.Prime) (ep : p = 2 * pP + 1) (eq : q = 2 * qP + 1) (hne : p ≠ q)
    (hs : isQR p q s = true) (h1 : powMod s pP (p * q) ≠ 1) (h2 : powMod s qP (p * q) ≠ 1)
    (x : Nat) (hx : isQR p q x = true) : ∃ k : Nat, x = powMod s k (p * q) := by
  have h : QrCyclic.SafePair p q pP qP := ⟨hp, hq, hpP, hqP, ep, eq, hne⟩
  exact h.exists_powMod_of_units hs hx fun cS _ hS hX =>
    (QrCyclic.generator_criterion_units h _ hS
      (mt (QrCyclic.unitOfCoprime_pow_eq_one_iff h.one_lt s pP cS).mp h1)
      (mt (QrCyclic.unitOfCoprime_pow_eq_one_iff h.one_lt s qP cS).mp h2)).2 _ hX

/-- **Well-formed keys have `Z, R_i ∈ ⟨S⟩`.** A key pair on which `wellFormed` holds and
    whose `p, q, p', q'` are prime has `Z ≡ S^k (mod n)` for some `k`, and likewise every `R_i`. -/
theorem wellFormed_bases_in_subgroup (d : KeyPairData) (h : wellFormed d = true) (hp : d.p.Prime)
    (hq : d.q.Prime) (hp' : d.pPrime.Prime) (hq' : d.qPrime.Prime) :
    (∃ k : Nat, d.z % d.n = d.s ^ k % d.n) ∧ ∀ b ∈ d.r, ∃ k : Nat, b % d.n = d.s ^ k % d.n := by
  obtain ⟨⟨k, hk⟩, hr⟩ := QrCyclic.wellFormed_bases d h hp hq hp' hq'
  refine ⟨⟨k, ?_⟩, fun b hb => ?_⟩
  · rw [hk, powMod_eq, Nat.mod_mod]
  · obtain ⟨j, hj⟩ := hr b hb
    exact ⟨j, by rw [hj, powMod_eq, Nat.mod_mod]⟩

/-- The bases `Z`, `R_i` of a well-formed key (with `p, q, p', q'` prime) are an output of
    `deriveBases`, the computation `GenerateKeyPair` performs, for suitable exponents – the
    converse of `bases_in_subgroup`. -/
theorem wellFormed_bases_derivable (d : KeyPairData) (h : wellFormed d = true) (hp : d.p.Prime)
    (hq : d.q.Prime) (hp' : d.pPrime.Prime) (hq' : d.qPrime.Prime) :
    ∃ (xZ : Nat) (xR : List Nat), deriveBases d.n d.s xZ xR = { s := d.s, z := d.z, r := d.r } := by
  obtain ⟨⟨k, hk⟩, hr⟩ := QrCyclic.wellFormed_bases d h hp hq hp' hq'
  obtain ⟨xs, hxs⟩ : d.r ∈ Set.range (List.map fun x => powMod d.s x d.n) := by
    rw [Set.range_list_map]
    exact fun b hb => (hr b hb).imp fun _ e => e.symm
  exact ⟨k, xs, by simp only [deriveBases, ← hk, hxs]⟩

/-! ### non-vacuity -/

/-- the hypotheses of `wellFormed_bases_in_subgroup` hold for the toy key `p = 47 = 2·23+1`,
    `q = 59 = 2·29+1`, `n = 2773`, `S = 4`, `Z = 4^5`, `R = [4^3, 4^7 mod n]`. -/
example : wellFormed QrCyclic.Toy.key = true ∧ QrCyclic.Toy.key.p.Prime ∧ QrCyclic.Toy.key.q.Prime ∧
    QrCyclic.Toy.key.pPrime.Prime ∧ QrCyclic.Toy.key.qPrime.Prime :=
  ⟨QrCyclic.Toy.key_wellFormed, by norm_num [QrCyclic.Toy.key], by norm_num [QrCyclic.Toy.key],
    by norm_num [QrCyclic.Toy.key], by norm_num [QrCyclic.Toy.key]⟩

/-- `Z = 1024` of the toy key is a power of `S = 4` modulo 2773 by `wellFormed_bases_in_subgroup`
    (not by inspection). -/
example : ∃ k : Nat, 1024 % 2773 = 4 ^ k % 2773 :=
  (wellFormed_bases_in_subgroup QrCyclic.Toy.key QrCyclic.Toy.key_wellFormed
    (by norm_num [QrCyclic.Toy.key]) (by norm_num [QrCyclic.Toy.key])
    (by norm_num [QrCyclic.Toy.key]) (by norm_num [QrCyclic.Toy.key])).1

/-- the hypotheses of `inSubgroup_sound` / `generator_sound`, generator branch: `S = 4` has
    `qrOrder = 23·29` modulo `47·59`, and `x = 1024` passes `inSubgroup`. -/
example : Nat.Prime 47 ∧ Nat.Prime 59 ∧ Nat.Prime 23 ∧ Nat.Prime 29 ∧ isQR 47 59 4 = true ∧
    powMod 4 23 (47 * 59) ≠ 1 ∧ powMod 4 29 (47 * 59) ≠ 1 ∧
    inSubgroup 47 59 23 29 4 1024 = true := by
  refine ⟨by norm_num, by norm_num, by norm_num, by norm_num, QrCyclic.Toy.isQR_4, ?_, ?_,
    QrCyclic.Toy.inSubgroup_1024⟩ <;> rw [powMod_eq] <;> decide

/-- the hypotheses of `inSubgroup_sound` in a non-generator branch: `S = 709` (`≡ 4 mod 47`,
    `≡ 1 mod 59`) has `qrOrder = 23`, and `x = 709² mod 2773 = 768` passes `inSubgroup`, while
    `x = 4` (order 667) does not. -/
example : isQR 47 59 709 = true ∧ qrOrder (47 * 59) 23 29 709 = 23 ∧
    inSubgroup 47 59 23 29 709 768 = true ∧ inSubgroup 47 59 23 29 709 4 = false := by
  have q709 : isQR 47 59 709 = true := QrCyclic.Toy.isQR_toy _
  have q768 : isQR 47 59 768 = true := QrCyclic.Toy.isQR_toy _
  have ho : qrOrder (47 * 59) 23 29 709 = 23 := by
    simp only [qrOrder, powMod_eq]; decide
  refine ⟨q709, ho, ?_, ?_⟩
  · simp only [inSubgroup, q768, ho, powMod_eq, Bool.true_and, beq_iff_eq]; decide
  · simp only [inSubgroup, QrCyclic.Toy.isQR_4, ho, powMod_eq, Bool.true_and]; decide

end Gabi.C16

#print axioms Gabi.C16.mem_squares_iff
#print axioms Gabi.C16.qr_cyclic
#print axioms Gabi.C16.order_criterion
#print axioms Gabi.C16.order_criterion_general
#print axioms Gabi.C16.qrOrder_is_ordOf
#print axioms Gabi.C16.inSubgroup_sound
#print axioms Gabi.C16.generator_sound
#print axioms Gabi.C16.wellFormed_bases_in_subgroup
#print axioms Gabi.C16.wellFormed_bases_derivable
