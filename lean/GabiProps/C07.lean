/-
  C07 — Proof randomness is never reused.
  Property theorems about the executable checker model GabiModel.Reuse (the two-transcript
  extractor and the pairwise freshness count that `./check C07` runs on proofs produced by the
  Go library) and about the provenance model of randomisers (a supply = strictly increasing
  counter). Helper lemmas: GabiProofs.MiscLemmas. The linearity of the prepared non-revocation
  commitment cache is the subject of C20.
-/
import GabiModel.Reuse
import GabiProofs.MiscLemmas
import Mathlib.Tactic.Linarith
namespace Gabi.C07
open Gabi Gabi.Misc

/-! ### the two-transcript extractor -/

/-- The extractor returns `m'` exactly when the challenges differ, the division is exact and
    `m'` is the quotient `(s₁-s₂)/(c₁-c₂)`. -/
theorem extract_spec (c1 s1 c2 s2 m' : Int) :
    extract c1 s1 c2 s2 = some m' ↔
      c1 ≠ c2 ∧ (c1 - c2) ∣ (s1 - s2) ∧ m' = (s1 - s2) / (c1 - c2) := by
  unfold extract
  rw [Option.ite_none_left_eq_some, Option.ite_none_right_eq_some, Option.some.injEq,
    Int.dvd_iff_emod_eq_zero, eq_comm (a := m')]

/-- The extractor fails exactly on equal challenges or an inexact division. -/
theorem extract_none_spec (c1 s1 c2 s2 : Int) :
    extract c1 s1 c2 s2 = none ↔ c1 = c2 ∨ ¬ (c1 - c2) ∣ (s1 - s2) := by
  rw [← Option.not_isSome_iff_eq_none, Option.isSome_iff_exists]
  simp only [extract_spec, exists_and_left, exists_eq, and_true, not_and_or, not_not]

/-- For two honest responses `sᵢ = rᵢ + cᵢ·m` to different challenges the extractor recovers
    the secret **iff** the commitment randomiser was reused. So "the extractor fails to recover
    the secret from any two proofs" is equivalent to "no randomiser is used twice". -/
theorem extractor_needs_reuse (c1 c2 r1 r2 m : Int) (hc : c1 ≠ c2) :
    extract c1 (r1 + c1 * m) c2 (r2 + c2 * m) = some m ↔ r1 = r2 := by
  have hd : c1 - c2 ≠ 0 := sub_ne_zero.mpr hc
  have key : r1 + c1 * m - (r2 + c2 * m) = (r1 - r2) + (c1 - c2) * m := by ring
  rw [extract_spec, key]
  constructor
  · rintro ⟨_, hdvd, hq⟩
    have h2 := Int.mul_ediv_cancel' hdvd
    rw [← hq] at h2
    linarith
  · rintro rfl
    simp [hc, hd]

/-- With fresh randomisers (`r₁ ≠ r₂`) the extractor returns nothing or a wrong value. -/
theorem fresh_randomisers_hide (c1 c2 r1 r2 m : Int) (hc : c1 ≠ c2) (hr : r1 ≠ r2) :
    extract c1 (r1 + c1 * m) c2 (r2 + c2 * m) = none ∨
      ∃ m', extract c1 (r1 + c1 * m) c2 (r2 + c2 * m) = some m' ∧ m' ≠ m := by
  cases h : extract c1 (r1 + c1 * m) c2 (r2 + c2 * m) with
  | none => exact Or.inl rfl
  | some m' =>
    refine Or.inr ⟨m', rfl, fun hm => hr ?_⟩
    subst hm
    exact (extractor_needs_reuse c1 c2 r1 r2 m' hc).mp h

/-- Reusing a randomiser under two different challenges reveals the secret: this is why reuse
    "totally break security" (comment in `Credential.nonrevConsumeBuilder`, credential.go). -/
theorem reuse_recovers_secret (c1 c2 r m : Int) (hc : c1 ≠ c2) :
    extract c1 (r + c1 * m) c2 (r + c2 * m) = some m :=
  (extractor_needs_reuse c1 c2 r r m hc).mpr rfl

/-- In terms of the checker's record type: the implied randomisers of two values for the same
    secret coincide iff the extractor succeeds (different challenges). -/
theorem extractorSucceeds_iff_same_randomizer (a b : TranscriptValue) (hm : a.m = b.m)
    (hc : a.c ≠ b.c) : extractorSucceeds a b = true ↔ a.randomizer = b.randomizer := by
  have ha : a.s = a.randomizer + a.c * a.m := by unfold TranscriptValue.randomizer; ring
  have hb : b.s = b.randomizer + b.c * a.m := by unfold TranscriptValue.randomizer; rw [hm]; ring
  unfold extractorSucceeds
  rw [Bool.and_eq_true, beq_iff_eq, beq_iff_eq, ha, hb]
  rw [extractor_needs_reuse a.c b.c a.randomizer b.randomizer a.m hc]
  exact ⟨fun h => h.1, fun h => ⟨h, hm⟩⟩

/-! ### provenance: a supply never hands out an index twice -/

/-- Any number of consecutive draws from a supply yields pairwise distinct indices, all at or
    above the starting state and below the final state (so later draws are fresh, too). -/
theorem supply_fresh (k s : Nat) :
    (drawMany k s).1.Nodup ∧ ∀ i ∈ (drawMany k s).1, s ≤ i ∧ i < (drawMany k s).2 := by
  rw [drawMany_eq]
  exact ⟨List.nodup_range', fun i hi => List.mem_range'_1.mp hi⟩

/-- Any interleaving (`schedule`: which consumer — proof builder, session, goroutine — draws
    next) of draws from one supply: all indices handed out are distinct, every consumer's
    indices are distinct, and different consumers get disjoint index sets. -/
theorem supply_fresh_interleaved {κ} [DecidableEq κ] (schedule : List κ) (s : Nat) :
    ((runSchedule schedule s).1.map (·.2)).Nodup ∧
    (∀ k, (indicesOf k (runSchedule schedule s).1).Nodup) ∧
    (∀ k k', k ≠ k' →
      List.Disjoint (indicesOf k (runSchedule schedule s).1) (indicesOf k' (runSchedule schedule s).1)) := by
  have hnd : ((runSchedule schedule s).1.map (·.2)).Nodup := by
    rw [runSchedule_indices]; exact List.nodup_range'
  refine ⟨hnd, fun k => hnd.sublist (indicesOf_sublist k _), fun k k' hk i h1 h2 => ?_⟩
  -- an index handed out once belongs to one pair, hence to one consumer
  obtain ⟨p, hp, rfl⟩ := List.mem_map.mp h1
  obtain ⟨q, hq, hpq⟩ := List.mem_map.mp h2
  rw [List.mem_filter] at hp hq
  obtain rfl : q = p := List.inj_on_of_nodup_map hnd hq.1 hp.1 hpq
  exact hk ((of_decide_eq_true hp.2).symm.trans (of_decide_eq_true hq.2))

/-- The run really is the given interleaving: consumers appear in schedule order. -/
theorem supply_schedule_faithful {κ} (schedule : List κ) (s : Nat) :
    (runSchedule schedule s).1.map (·.1) = schedule := by
  rw [runSchedule_eq]
  simp [List.map_fst_zip]

/-! ### the freshness count the check computes -/

/-- `reuseCount = 0` iff (1) every pair of response values from different proofs – other than
    the secret-key randomiser deliberately shared within one session – has different implied
    randomisers and the extractor does not recover the secret from it, and (2) no two group
    elements (`A'`, `C_r`, `C_u`) of different proofs are equal. -/
theorem reuseCount_zero_iff (vals : List TranscriptValue) (els : List (Nat × String × Int)) :
    reuseCount vals els = 0 ↔
      vals.Pairwise (fun a b =>
        a.proof ≠ b.proof →
        ¬ (a.session = b.session ∧ a.slot = "secretkey" ∧ b.slot = "secretkey") →
          a.randomizer ≠ b.randomizer ∧ ¬ (extract a.c a.s b.c b.s = some a.m ∧ a.m = b.m)) ∧
      els.Pairwise (fun x y => x.1 ≠ y.1 → x.2.2 ≠ y.2.2) := by
  show _ ↔ vals.Pairwise FreshPair ∧ _
  unfold reuseCount
  rw [Nat.add_eq_zero_iff, List.length_eq_zero_iff, List.length_eq_zero_iff, List.filter_eq_nil_iff,
    List.filter_eq_nil_iff, ← forall_allPairs_iff, ← forall_allPairs_iff]
  refine and_congr (forall₂_congr fun p _ => ?_) (forall₂_congr fun p _ => ?_)
  · rw [Bool.not_eq_true, reusedPair_eq_false_iff]
  · simp

/-- A reused randomiser is counted: two values of different proofs (not the shared secret-key
    slot) with the same implied randomiser make the count positive. -/
theorem reuse_is_detected (a b : TranscriptValue) (hp : a.proof ≠ b.proof)
    (hs : ¬ (a.session = b.session ∧ a.slot = "secretkey" ∧ b.slot = "secretkey"))
    (hr : a.randomizer = b.randomizer) : 0 < reuseCount [a, b] [] := by
  rw [Nat.pos_iff_ne_zero]
  intro h
  have := ((reuseCount_zero_iff [a, b] []).mp h).1
  rw [List.pairwise_pair] at this
  exact (this hp hs).1 hr

/-! ### non-vacuity -/

example : extract 5 (11 + 5 * 7) 3 (11 + 3 * 7) = some 7 := reuse_recovers_secret 5 3 11 7 (by decide)
example : extract 5 (11 + 5 * 7) 3 (12 + 3 * 7) = none := by decide
example : (drawMany 3 10).1 = [10, 11, 12] := by decide
example : (runSchedule ["a", "b", "a"] 0).1 = [("a", 0), ("b", 1), ("a", 2)] := by decide
example : reuseCount [⟨0, 0, 5, "m1", 11 + 5 * 7, 7⟩, ⟨0, 1, 3, "m1", 12 + 3 * 7, 7⟩] [(0, "A", 4), (1, "A", 9)] = 0 := by
  decide
example : reuseCount [⟨0, 0, 5, "m1", 11 + 5 * 7, 7⟩, ⟨0, 1, 3, "m1", 11 + 3 * 7, 7⟩] [] = 1 := by decide

end Gabi.C07

#print axioms Gabi.C07.extract_spec
#print axioms Gabi.C07.extract_none_spec
#print axioms Gabi.C07.extractor_needs_reuse
#print axioms Gabi.C07.fresh_randomisers_hide
#print axioms Gabi.C07.reuse_recovers_secret
#print axioms Gabi.C07.extractorSucceeds_iff_same_randomizer
#print axioms Gabi.C07.supply_fresh
#print axioms Gabi.C07.supply_fresh_interleaved
#print axioms Gabi.C07.supply_schedule_faithful
#print axioms Gabi.C07.reuseCount_zero_iff
#print axioms Gabi.C07.reuse_is_detected
