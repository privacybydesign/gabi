/-
  C20 — Concurrent use is safe (PARTIAL; also carries the part of C07 about the non-revocation
  commitment cache: a prepared commitment is consumed by at most one proof).

  What is proved here holds for ALL schedules of small labelled transition systems whose steps
  are exactly the synchronisation operations of the source:
    * Cprng       – internal/common/fastrandom.go CPRNG.Read (atomic.AddUint64 + local loop);
    * NonrevCache – credential.go nonrevConsumeBuilder / NonrevPrepareCache (1-buffered channel,
                    non-blocking receive / send);
    * ExpWorkers  – keyproof/exp.go worker pools (atomic todo counter, per-closure list slots);
    * HB          – happens-before over synchronisation skeletons of the shareable objects.
  NOT proved (outside the model): that a skeleton lists all shared accesses of the real code, and
  the Go memory model itself. The `-race` correspondence run of `./check C20` supports the former.
  Property theorems only; helper lemmas live in GabiProofs.Conc*.
-/
import GabiProofs.ConcCprng
import GabiProofs.ConcNonrevCache
import GabiProofs.ConcExpWorkers
import GabiProofs.ConcSkeletons
import GabiProofs.ConcSched
namespace Gabi.C20
open Gabi.Conc

/-! ## the fast random generator -/

/-- The number of blocks a `Read` reserves covers the requested bytes with less than one block
    of slack. -/
theorem cprng_nBlocks_covers (len : Nat) (h : 0 < len) :
    16 * (Cprng.nBlocks len - 1) < len ∧ len ≤ 16 * Cprng.nBlocks len :=
  Cprng.nBlocks_covers len h

/-- A read that obtained `iv` from the atomic add encrypts exactly the counter blocks
    iv, …, iv + nBlocks − 1 (its own reservation), filling exactly `len` bytes, at most 16 per
    block. -/
theorem cprng_read_uses_only_own_blocks (iv len : Nat) (hl : 0 < len) (h : iv + Cprng.nBlocks len ≤ Cprng.W) :
    (Cprng.loop iv len).map (·.1) = List.range' iv (Cprng.nBlocks len) ∧
    ((Cprng.loop iv len).map (·.2)).sum = len ∧ ∀ x ∈ Cprng.loop iv len, 0 < x.2 ∧ x.2 ≤ 16 :=
  ⟨Cprng.loop_blocks iv len hl h, Cprng.loop_bytes iv len⟩

/-- For every list of reads and every order in which their atomic adds execute (no uint64 wrap):
    the reservations `(iv, nBlocks)` are pairwise disjoint – each ends before every later one
    starts – lie in [c, c + total) and the final counter is c + total. -/
theorem cprng_blocks_disjoint (c : Nat) (lens : List Nat) (h : c + Cprng.total lens < Cprng.W) :
    (Cprng.run c lens).2 = c + Cprng.total lens ∧
    List.Pairwise (fun a b => a.1 + a.2 ≤ b.1) (Cprng.run c lens).1 ∧
    (∀ x ∈ (Cprng.run c lens).1, c ≤ x.1 ∧ x.1 + x.2 ≤ c + Cprng.total lens) :=
  Cprng.run_contiguous c lens h

/-- The reservations of `CPRNG.Read` calls are contiguous: the k-th atomic add returns
    c + (blocks reserved by the adds before it), so no counter block is skipped. -/
theorem cprng_blocks_contiguous (c : Nat) (lens : List Nat) (h : c + Cprng.total lens < Cprng.W) :
    (Cprng.run c lens).1 = (List.range lens.length).map (fun k => (c + Cprng.total (lens.take k),
      if lens.getD k 0 = 0 then 0 else Cprng.nBlocks (lens.getD k 0))) :=
  Cprng.run_ivs c lens h

/-- Fine-grained system: for EVERY interleaving of {atomic add, encrypt one block} steps of any
    number of callers, no counter block is ever encrypted twice, so the generator never hands the
    same keystream block to two callers (nor twice to one). -/
theorem cprng_keystream_block_never_shared (c0 : Nat) (lens sched : List Nat) (h : c0 + Cprng.total lens < Cprng.W) :
    ((Cprng.exec (Cprng.init c0 lens) sched).log.map (·.2)).Nodup ∧
    ∀ i j b, (i, b) ∈ (Cprng.exec (Cprng.init c0 lens) sched).log →
             (j, b) ∈ (Cprng.exec (Cprng.init c0 lens) sched).log → i = j :=
  ⟨Cprng.exec_log_nodup c0 lens sched h, Cprng.exec_log_owner c0 lens sched h⟩

/-- Fine-grained system, EVERY schedule: all counter blocks that callers of `CPRNG.Read` have
    encrypted lie in [c0, counter), and the counter never exceeds c0 + the blocks requested. -/
theorem cprng_blocks_below_counter (c0 : Nat) (lens sched : List Nat) (h : c0 + Cprng.total lens < Cprng.W) :
    (Cprng.exec (Cprng.init c0 lens) sched).counter ≤ c0 + Cprng.total lens ∧
    ∀ x ∈ (Cprng.exec (Cprng.init c0 lens) sched).log,
      c0 ≤ x.2 ∧ x.2 < (Cprng.exec (Cprng.init c0 lens) sched).counter :=
  Cprng.exec_log_range c0 lens sched h

/-- the no-wrap hypothesis is satisfiable: 2^40 reads of 200 bytes starting from 0. -/
example : 0 + 2 ^ 40 * Cprng.nBlocks 200 < Cprng.W := by decide

/-! ## the non-revocation builder cache (also used by C07) -/

/-- Linearity of the builder cache: for EVERY schedule (arbitrary interleaving of arbitrarily many Prepare and
    Consume operations, first-time preparation racing with consumers, failing updates), in the
    reached state the channel holds at most one builder and every builder created so far is in
    exactly one place among {channel, owned by one running operation, consumed by one finished
    Consume, discarded}; builders not yet created are nowhere. -/
theorem builder_linear (ls : List NonrevCache.Label) :
    (NonrevCache.exec {} ls).chan.length ≤ NonrevCache.cap ∧
    ∀ b, NonrevCache.places (NonrevCache.exec {} ls) b = if b < (NonrevCache.exec {} ls).supply then 1 else 0 :=
  NonrevCache.builder_linear ls

/-- A prepared non-revocation commitment is consumed by at most one proof. -/
theorem builder_consumed_at_most_once (ls : List NonrevCache.Label) (i j b : Nat)
    (hi : NonrevCache.consumedBy (NonrevCache.exec {} ls) i b)
    (hj : NonrevCache.consumedBy (NonrevCache.exec {} ls) j b) : i = j :=
  NonrevCache.no_double_consume ls i j b hi hj

/-- A consumed builder is not in the cache any more, was not discarded and is held by no other
    operation – it cannot reach a second proof later either (`builder_result_stable`). -/
theorem builder_consumed_exclusive (ls : List NonrevCache.Label) (i b : Nat)
    (hi : NonrevCache.consumedBy (NonrevCache.exec {} ls) i b) :
    b ∉ (NonrevCache.exec {} ls).chan ∧ b ∉ (NonrevCache.exec {} ls).discarded ∧
    ∀ j op, j ≠ i → (NonrevCache.exec {} ls).ops[j]? = some op → op.pc.holds b = 0 :=
  NonrevCache.consumed_exclusive ls i b hi

/-- A finished cache operation never changes again, whatever step is taken next: the builder a
    finished `nonrevConsumeBuilder` returned to its proof stays that proof's. -/
theorem builder_result_stable (s : NonrevCache.St) (l : NonrevCache.Label) (i : Nat) (k : NonrevCache.Kind)
    (r : Option Nat) (h : s.ops[i]? = some { kind := k, pc := .finished r }) :
    (NonrevCache.step s l).ops[i]? = some { kind := k, pc := .finished r } :=
  NonrevCache.finished_stable s l i k r h

/-- After every schedule the cache channel holds at most one builder (its capacity in
    `make(chan *NonRevocationProofBuilder, 1)`): a non-blocking send never overfills it. -/
theorem cache_chan_le_one (ls : List NonrevCache.Label) : (NonrevCache.exec {} ls).chan.length ≤ 1 :=
  NonrevCache.chan_le_one ls

/-- The invariant test the model driver evaluates on replayed traces is implied by the invariant. -/
theorem cache_invOk_of_inv (s : NonrevCache.St) (h : NonrevCache.Inv s) : NonrevCache.invOk s = true :=
  NonrevCache.invOk_of_inv s h

/-! ## the exp-proof worker pool -/

/-- Closures registered at different positions write disjoint list slots. -/
theorem exp_slots_disjoint (base : Nat) (sizes : List Nat) (k k' : Nat) (h : k < k') (hk' : k' < sizes.length) :
    (ExpWorkers.slotRange base sizes k).1 + (ExpWorkers.slotRange base sizes k).2 ≤
      (ExpWorkers.slotRange base sizes k').1 :=
  ExpWorkers.slots_disjoint base sizes k k' h hk'

/-- The slots a closure of the exp-proof writes lie inside the list as `append` allocated it:
    [base, base + sum of the sizes). -/
theorem exp_slots_in_list (base : Nat) (sizes : List Nat) (k : Nat) (hk : k < sizes.length) :
    base ≤ (ExpWorkers.slotRange base sizes k).1 ∧
    (ExpWorkers.slotRange base sizes k).1 + (ExpWorkers.slotRange base sizes k).2 ≤ base + sizes.sum :=
  ExpWorkers.slots_in_list base sizes k hk

/-- For EVERY schedule of the workers: no closure is run twice, only existing closures are run. -/
theorem exp_closure_run_at_most_once (nTodo nWorkers : Nat) (sched : List Nat) (h : nTodo + nWorkers < ExpWorkers.W32) :
    ((ExpWorkers.exec (ExpWorkers.init nTodo nWorkers) sched).log.map (·.2)).Nodup ∧
    ∀ x ∈ (ExpWorkers.exec (ExpWorkers.init nTodo nWorkers) sched).log, x.2 < nTodo :=
  ExpWorkers.exec_log_nodup nTodo nWorkers sched h

/-- A closure being run is neither finished already nor run by another worker at the same time. -/
theorem exp_closure_exclusive (nTodo nWorkers : Nat) (sched : List Nat) (h : nTodo + nWorkers < ExpWorkers.W32)
    (w k : Nat) (hw : (ExpWorkers.exec (ExpWorkers.init nTodo nWorkers) sched).workers[w]? = some (.working k)) :
    k < nTodo ∧ k ∉ (ExpWorkers.exec (ExpWorkers.init nTodo nWorkers) sched).log.map (·.2) ∧
    ∀ w', w' ≠ w → (ExpWorkers.exec (ExpWorkers.init nTodo nWorkers) sched).workers[w']? ≠ some (.working k) :=
  ExpWorkers.exec_working_fresh nTodo nWorkers sched h w k hw

/-- When all workers have exited (`wg.Wait()` returns) every closure has run: together with the
    above, exactly once – the result list is as complete as a sequential run's. -/
theorem exp_all_closures_run (nTodo nWorkers : Nat) (sched : List Nat) (h : nTodo + nWorkers < ExpWorkers.W32)
    (hw : 0 < nWorkers)
    (hall : ∀ w ∈ (ExpWorkers.exec (ExpWorkers.init nTodo nWorkers) sched).workers, w = ExpWorkers.Worker.exited) :
    ∀ k, k < nTodo → k ∈ (ExpWorkers.exec (ExpWorkers.init nTodo nWorkers) sched).log.map (·.2) :=
  ExpWorkers.exec_complete nTodo nWorkers sched h hw hall

/-! ## happens-before over the synchronisation skeletons -/

open HB in
/-- **Fork–join discipline** (the calculus' main rule): main runs `pre`, starts n goroutines,
    waits for them, runs `post`. If conflicting accesses of different goroutines are always inside
    critical sections of a common mutex, then every execution – any interleaving, any prefix –
    orders every pair of conflicting accesses by happens-before. -/
theorem hb_forkJoin_race_free (pre post : List Act) (body : Nat → List Act) (n : Nat)
    (hpre : ∀ a ∈ pre, a.isTok = false) (hpost : ∀ a ∈ post, a.isTok = false)
    (hbody : ∀ t, ∀ a ∈ body t, a.isTok = false)
    (hcc : ∀ t u, t ≠ u → 1 ≤ t → t ≤ n → 1 ≤ u → u ≤ n → ∀ p q a b,
      (body t)[p]? = some a → (body u)[q]? = some b → conflict a b = true →
      ∃ m, Prot (body t) m p ∧ Prot (body u) m q)
    (e : Exec) (hc : Conforms (forkJoin pre post body n) e) (hw : WF e) : RaceFree e :=
  forkJoin_race_free pre post body n hpre hpost hbody hcc e hc hw

open HB in
/-- `Credential.nonrevCache` field, guarded by `nonrevCacheLock` (/repo commit 2f7b61e): any
    number of goroutines calling NonrevPrepareCache (first-time, creating the channel, or not) and
    nonrevConsumeBuilder in any mix `v`: every execution is race free. -/
theorem race_free_nonrevCache_field (v : Nat → Nat) (n : Nat) (e : Exec)
    (hc : Conforms (cacheFieldFixed v n) e) (hw : WF e) : RaceFree e :=
  forkJoin_race_free _ _ _ n (by decide) (by decide) (fun t => cacheFieldFixedBody_tokfree (v t))
    (fun t u _ _ _ _ _ p q a b ha hb hcf => ⟨0, cacheFieldFixedBody_prot (v t) p a b ha hcf,
      cacheFieldFixedBody_prot (v u) q b a hb (conflict_comm a b ▸ hcf)⟩) e hc hw

open HB in
/-- The `Credential.nonrevCache` field without the lock (credential.go before commit 2f7b61e) is
    NOT race free: in the execution `racyExec` of two first-time NonrevPrepareCache calls the write
    of goroutine 1 (`ic.nonrevCache = make…`) and the nil check of goroutine 2
    (`if ic.nonrevCache == nil`) are unordered. -/
theorem nonrevCache_field_as_found_races :
    Conforms (cacheFieldOld (fun _ => 2) 2) racyExec ∧ WF racyExec ∧ ¬ RaceFree racyExec :=
  ⟨conforms_of_conformsB (by decide +kernel), racyExec_wf, racyExec_not_raceFree⟩

open HB in
/-- Without the lock (credential.go before commit 2f7b61e) a first-time NonrevPrepareCache also
    races with a concurrent nonrevConsumeBuilder: the write `ic.nonrevCache = make…` and the read
    of the field in the consumer's `select { case b := <-ic.nonrevCache: … }` are unordered. -/
theorem nonrevCache_field_as_found_races_with_consumer :
    Conforms (cacheFieldOld (fun t => if t = 1 then 2 else 0) 2) racyExec ∧ WF racyExec ∧ ¬ RaceFree racyExec :=
  ⟨conforms_of_conformsB (by decide +kernel), racyExec_wf, racyExec_not_raceFree⟩

open HB in
/-- `SignedAccumulator.Accumulator`: once set before the object is shared (Accumulator.Sign, or a
    first UnmarshalVerify by the owner) all users take the read-only fast path: race free. -/
theorem race_free_signedAccumulator_initialised (n : Nat) (e : Exec)
    (hc : Conforms (saccInitialised n) e) (hw : WF e) : RaceFree e :=
  forkJoin_race_free_of_no_conflict _ _ _ n (by decide) (by decide) (fun _ => by decide)
    (fun _ _ _ => by decide) e hc hw

open HB in
/-- A freshly decoded SignedAccumulator shared BEFORE its first verification is not safe: two
    concurrent UnmarshalVerify calls race on the lazy `s.Accumulator = msg` against the check
    `if s.Accumulator != nil` (revocation/api.go). Not reached by the uses the property lists
    (they need the accumulator to be set). -/
theorem signedAccumulator_fresh_races :
    Conforms (saccFresh (fun _ => 1) 2) racyExec ∧ WF racyExec ∧ ¬ RaceFree racyExec :=
  ⟨conforms_of_conformsB (by decide +kernel), racyExec_wf, racyExec_not_raceFree⟩

open HB in
/-- `Witness.randomizer`: NewProofCommit only copies the shared witness: race free for any number
    of concurrent provers on one credential. -/
theorem race_free_witness_randomizer (n : Nat) (e : Exec)
    (hc : Conforms (randomizerNow n) e) (hw : WF e) : RaceFree e :=
  forkJoin_race_free_of_no_conflict _ _ _ n (by decide) (by decide) (fun _ => by decide)
    (fun _ _ _ => by decide) e hc hw

open HB in
/-- `Witness.randomizer` as revocation.NewProofCommit treated it before the fix of gabi#63
    (`witn.randomizer = randomizer` on the shared witness, which is also what a mutant without the
    shallow copy does) races: two provers' writes are unordered. -/
theorem witness_randomizer_shared_write_races :
    Conforms (randomizerOld 2) racyExecWW ∧ WF racyExecWW ∧ ¬ RaceFree racyExecWW :=
  ⟨conforms_of_conformsB (by decide +kernel), racyExecWW_wf, racyExecWW_not_raceFree⟩

open HB in
/-- `CPRNG`: the counter is only touched by atomic adds after construction, the cipher is only
    read: race free for any number of goroutines performing any number of reads each. -/
theorem race_free_cprng (k : Nat → Nat) (n : Nat) (e : Exec)
    (hc : Conforms (cprngNow k n) e) (hw : WF e) : RaceFree e :=
  forkJoin_race_free_of_no_conflict _ _ _ n (by decide) (by decide)
    (fun t => cprngBody_tokfree (k t)) (fun t u _ => cprngBody_no_conflict (k t) (k u)) e hc hw

open HB in
/-- The mutant of `CPRNG.Read` that advances the counter by a plain `c.counter += nBlocks` instead
    of `atomic.AddUint64` races: one caller's write and another's read of the counter are
    unordered. -/
theorem cprng_plain_increment_races :
    Conforms (cprngPlain (fun _ => 1) 2) racyExecCprng ∧ WF racyExecCprng ∧ ¬ RaceFree racyExecCprng :=
  ⟨conforms_of_conformsB (by decide +kernel), racyExecCprng_wf, racyExecCprng_not_raceFree⟩

open HB in
/-- exp-proof list slots: for every assignment of closures to workers in which no closure is
    given to two workers (`exp_closure_run_at_most_once`), the workers' slot writes, main's
    allocation before the `go` statements and main's reads after `wg.Wait()` are race free. -/
theorem race_free_exp_slots (nTodo : Nat) (own : Nat → List Nat) (n : Nat)
    (hown : ∀ t u, t ≠ u → ∀ k ∈ own t, k ∉ own u) (e : Exec)
    (hc : Conforms (expSlots nTodo own n) e) (hw : WF e) : RaceFree e :=
  forkJoin_race_free_of_no_conflict _ _ _ n (expMainPre_tokfree nTodo) (expMainPost_tokfree nTodo)
    (fun t => expWorkerBody_tokfree (own t))
    (fun t u htu => expWorkerBody_no_conflict (own t) (own u) (hown t u htu)) e hc hw

open HB in
/-- Hand-over of a prepared builder through the cache channel: what the preparer wrote to the
    builder happens before everything its (single, see `builder_consumed_at_most_once`) receiver
    does with it. -/
theorem race_free_builder_handoff (e : Exec) (hc : Conforms builderHandoff e) (hw : WF e) : RaceFree e :=
  builderHandoff_race_free e hc hw

open HB in
/-- non-vacuity: a complete execution of `cacheFieldFixed` with two first-time preparers. -/
example : Conforms (cacheFieldFixed (fun _ => 2) 2)
    [⟨0, 0, .wr 0⟩, ⟨0, 1, .rel 2⟩, ⟨0, 2, .rel 4⟩, ⟨1, 0, .acq 2⟩, ⟨1, 1, .lock 0⟩, ⟨2, 0, .acq 4⟩,
     ⟨1, 2, .rd 0⟩, ⟨1, 3, .wr 0⟩, ⟨1, 4, .rd 0⟩, ⟨1, 5, .unlock 0⟩, ⟨2, 1, .lock 0⟩, ⟨1, 6, .rel 3⟩,
     ⟨2, 2, .rd 0⟩, ⟨2, 3, .wr 0⟩, ⟨2, 4, .rd 0⟩, ⟨2, 5, .unlock 0⟩, ⟨2, 6, .rel 5⟩,
     ⟨0, 3, .acq 3⟩, ⟨0, 4, .acq 5⟩, ⟨0, 5, .rd 0⟩] ∧
  WF [⟨0, 0, .wr 0⟩, ⟨0, 1, .rel 2⟩, ⟨0, 2, .rel 4⟩, ⟨1, 0, .acq 2⟩, ⟨1, 1, .lock 0⟩, ⟨2, 0, .acq 4⟩,
     ⟨1, 2, .rd 0⟩, ⟨1, 3, .wr 0⟩, ⟨1, 4, .rd 0⟩, ⟨1, 5, .unlock 0⟩, ⟨2, 1, .lock 0⟩, ⟨1, 6, .rel 3⟩,
     ⟨2, 2, .rd 0⟩, ⟨2, 3, .wr 0⟩, ⟨2, 4, .rd 0⟩, ⟨2, 5, .unlock 0⟩, ⟨2, 6, .rel 5⟩,
     ⟨0, 3, .acq 3⟩, ⟨0, 4, .acq 5⟩, ⟨0, 5, .rd 0⟩] :=
  ⟨conforms_of_conformsB (by decide +kernel), wf_of_wfB (by decide +kernel)⟩

/-! ## the skeletons as transition systems: all schedules -/

open HB in
/-- The transition system of a skeleton (`runS`: a schedule is ANY list of thread ids; the chosen
    thread takes its next step if it is enabled – a mutex is locked only when free and unlocked
    only by its holder, a token is acquired only after its release) produces only executions that
    conform to the skeleton and whose synchronisation objects behaved. So every
    `∀ e, Conforms … e → WF e → RaceFree e` theorem above covers every schedule of `runS`. -/
theorem hb_scheduler_sound (prog : Prog) (n : Nat) (sched : List Nat) :
    Conforms prog (runS prog n sched).trace ∧ WF (runS prog n sched).trace :=
  ⟨(runS_inv prog n sched).conf, (runS_inv prog n sched).wf⟩

open HB in
/-- For ALL schedules of the transition systems of the shareable objects (current code), with any
    number of goroutines: every pair of conflicting accesses is ordered by happens-before. -/
theorem race_free_all_schedules (nThreads : Nat) (sched : List Nat) :
    (∀ v n, RaceFree (runS (cacheFieldFixed v n) nThreads sched).trace) ∧
    (∀ n, RaceFree (runS (saccInitialised n) nThreads sched).trace) ∧
    (∀ n, RaceFree (runS (randomizerNow n) nThreads sched).trace) ∧
    (∀ k n, RaceFree (runS (cprngNow k n) nThreads sched).trace) ∧
    (∀ nTodo own n, (∀ t u, t ≠ u → ∀ k ∈ own t, k ∉ own u) →
        RaceFree (runS (expSlots nTodo own n) nThreads sched).trace) ∧
    RaceFree (runS builderHandoff nThreads sched).trace :=
  have sound : ∀ prog, Conforms prog (runS prog nThreads sched).trace ∧
      WF (runS prog nThreads sched).trace := fun prog => hb_scheduler_sound prog nThreads sched
  ⟨fun v n => race_free_nonrevCache_field v n _ (sound _).1 (sound _).2,
   fun n => race_free_signedAccumulator_initialised n _ (sound _).1 (sound _).2,
   fun n => race_free_witness_randomizer n _ (sound _).1 (sound _).2,
   fun k n => race_free_cprng k n _ (sound _).1 (sound _).2,
   fun nTodo own n hown => race_free_exp_slots nTodo own n hown _ (sound _).1 (sound _).2,
   race_free_builder_handoff _ (sound _).1 (sound _).2⟩

open HB in
/-- The racy execution of `cacheFieldOld` is reachable in its transition system: schedule
    main, main, main, goroutine 1 ×3, goroutine 2 ×2. -/
theorem nonrevCache_field_as_found_race_reachable :
    (runS (cacheFieldOld (fun _ => 2) 2) 3 [0, 0, 0, 1, 1, 1, 2, 2]).trace = racyExec ∧
    ¬ RaceFree (runS (cacheFieldOld (fun _ => 2) 2) 3 [0, 0, 0, 1, 1, 1, 2, 2]).trace := by
  have h : (runS (cacheFieldOld (fun _ => 2) 2) 3 [0, 0, 0, 1, 1, 1, 2, 2]).trace = racyExec := by
    decide
  exact ⟨h, by rw [h]; exact racyExec_not_raceFree⟩

end Gabi.C20
