/-
  C10 — Update messages are authenticated hash chains.
  "Updating a witness, verifying an update message, or prepending older events to one succeeds
   only if the accumulator carries a valid issuer signature for the matching key counter and the
   supplied events form a gap-free, correctly indexed hash chain ending in the event hash signed
   inside that accumulator. Any altered, dropped, inserted, reordered or re-indexed event, any
   substituted hash, accumulator or signature - and any hash that merely shares a prefix with
   the expected one - is rejected, leaving the receiver's state unchanged."

  Property theorems about the executable model `GabiModel.Revocation` (compared output-for-output
  with revocation/api.go by the correspondence ops of `./check C10`). The ECDSA signature on the
  accumulator is abstract in the model (`SAcc.sigOk`). Helper lemmas: `GabiProofs.RevLemmas`.
-/
import GabiModel.Revocation
import GabiProofs.RevLemmas
namespace Gabi.C10
open Gabi Gabi.Rev

/-! ### hashes are compared whole, and are self-delimiting -/

/-- `Hash.Equal` is equality of the whole byte strings. -/
theorem hashEqual_iff (a b : Hash) : hashEqual a b = true ↔ a = b := Rev.hashEqual_iff a b

/-- a hash that merely shares a prefix with the expected one (a truncation or an extension) is
    not equal to it. -/
theorem prefix_not_equal (a t : Hash) (ht : t ≠ []) :
    hashEqual (a ++ t) a = false ∧ hashEqual a (a ++ t) = false := by
  constructor <;> rw [← Bool.not_eq_true, Rev.hashEqual_iff] <;> intro h
  · exact ht (List.append_right_eq_self.mp h)
  · exact ht (List.append_right_eq_self.mp h.symm)

/-- `Event.hashEquals` accepts `h` exactly when `h` is a well-formed multihash and is the event's
    own hash, byte for byte. -/
theorem hashEquals_iff (ev : Event) (h : Hash) :
    ev.hashEquals h = true ↔ hashAlgOk h = true ∧ ev.hash = h := Rev.hashEquals_iff ev h

/-- every byte string other than the event's hash is rejected by `Event.hashEquals`. -/
theorem wrong_hash_rejected (ev : Event) (h : Hash) (hne : h ≠ ev.hash) :
    ev.hashEquals h = false := by
  cases hh : ev.hashEquals h with
  | false => rfl
  | true => exact absurd ((Rev.hashEquals_iff ev h).mp hh).2.symm hne

/-- a proper prefix of the event's hash and a proper extension of it are both rejected by
    `Event.hashEquals`. -/
theorem prefix_rejected (ev : Event) (h t : Hash) (ht : t ≠ []) :
    (ev.hash = h ++ t → ev.hashEquals h = false) ∧
    (ev.hash = h → ev.hashEquals (h ++ t) = false) := by
  constructor
  · intro he
    apply wrong_hash_rejected
    rw [he]; intro hc; exact ht (List.self_eq_append_right.mp hc)
  · intro he
    apply wrong_hash_rejected
    rw [he]; intro hc; exact ht (List.append_right_eq_self.mp hc)

/-- What `hashDecode` accepts (`multihash.Decode` followed by `Hash.Algorithm`): the varint of the
    SHA2-256 code, the varint of a digest length of at most `2^31 - 1`, then exactly that many
    digest bytes. -/
theorem hashDecode_spec (h : Hash) (d : List UInt8) :
    hashDecode h = some d ↔
      2 ≤ h.length ∧ ∃ rest, uvarint h = some (sha2_256Code, rest) ∧
        uvarint rest = some (d.length, d) ∧ d.length ≤ 2 ^ 31 - 1 := hashDecode_eq_some_iff h d

/-- The frame is unique: a hash that `hashDecode` accepts with a digest shorter than 128 bytes
    (single-byte varints; SHA-256 has 32) is literally `0x12 ‖ len ‖ digest`. -/
theorem hashDecode_length {h : Hash} {d : List UInt8} (hd : hashDecode h = some d)
    (hlen : d.length < 128) : h = 0x12 :: d.length.toUInt8 :: d := by
  obtain ⟨-, rest, ha, hb, -⟩ := (hashDecode_eq_some_iff _ _).mp hd
  have h1 := uvarint_small ha (by decide)
  have h2 := uvarint_small hb hlen
  rw [h1, h2]; rfl

/-- `0x12 ‖ len ‖ digest` decodes to `digest`, for digests shorter than 128 bytes (the converse of
    `hashDecode_length`). -/
theorem hashDecode_frame (d : List UInt8) (hlen : d.length < 128) :
    hashDecode (0x12 :: d.length.toUInt8 :: d) = some d := Rev.hashDecode_frame d hlen

/-- **self-delimiting**: no proper extension – hence no proper truncation – of a well-formed
    hash is well-formed. -/
theorem hash_self_delimiting {h t : Hash} (h1 : hashAlgOk h = true)
    (h2 : hashAlgOk (h ++ t) = true) : t = [] := hashAlgOk_append h1 h2

/-- The hash the model computes for an event is itself well-formed. -/
theorem event_hash_wellformed (ev : Event) : hashAlgOk ev.hash = true := hashAlgOk_eventHash ev

/-! ### the hashed bytes bind the whole event -/

/-- index (8 bytes) ‖ well-formed parent hash ‖ minimal bytes of `E ≥ 0` is injective. -/
theorem event_hash_input_injective {e1 e2 : Event}
    (h1 : hashAlgOk e1.parentHash = true) (h2 : hashAlgOk e2.parentHash = true)
    (p1 : 0 ≤ e1.e) (p2 : 0 ≤ e2.e) (i1 : e1.index < 2 ^ 64) (i2 : e2.index < 2 ^ 64)
    (h : e1.hashBytes = e2.hashBytes) : e1 = e2 :=
  event_hashBytes_injective h1 h2 p1 p2 i1 i2 h

/-- Two events with well-formed parent hashes, `E ≥ 0` and 64-bit indices that have equal hashes
    are equal, or their hashed bytes are an explicit SHA-256 collision. -/
theorem event_hash_binds {e1 e2 : Event}
    (h1 : hashAlgOk e1.parentHash = true) (h2 : hashAlgOk e2.parentHash = true)
    (p1 : 0 ≤ e1.e) (p2 : 0 ≤ e2.e) (i1 : e1.index < 2 ^ 64) (i2 : e2.index < 2 ^ 64)
    (h : e1.hash = e2.hash) :
    e1 = e2 ∨ (e1.hashBytes ≠ e2.hashBytes ∧
      Sha256.hash e1.hashBytes = Sha256.hash e2.hashBytes) :=
  Rev.event_hash_binds h1 h2 p1 p2 i1 i2 h

/-- The well-formedness requirement on the (first) parent hash is needed: without it two
    different events have the same hashed bytes (one byte moved from the parent hash to `E`). -/
theorem malformed_parent_ambiguous :
    ambiguousEvent1 ≠ ambiguousEvent2 ∧
      ambiguousEvent1.hashBytes = ambiguousEvent2.hashBytes ∧
      hashAlgOk ambiguousEvent1.parentHash = true ∧
      hashAlgOk ambiguousEvent2.parentHash = false := by
  refine ⟨by decide, by decide, by decide, by decide⟩

/-! ### what `Update.Verify` / `EventList.Verify` accept -/

/-- **an update verifies only if** the key counter matches, the signature is valid, and the
    events are accepted against the event hash inside the signed accumulator; the accumulator
    returned is the signed one. (And conversely.) -/
theorem verify_update_logic (pk : PublicKey) (u : Update) (acc : SAcc) :
    u.verify pk = some acc ↔
      pk.counter = u.sacc.pkCounter ∧ u.sacc.sigOk = true ∧ acc = u.sacc ∧
        eventsVerify u.events u.sacc.eventHash = true := verify_eq_some_iff pk u acc

/-- A wrong key counter or an invalid signature is rejected whatever the events are. -/
theorem bad_signature_rejected (pk : PublicKey) (u : Update)
    (h : pk.counter ≠ u.sacc.pkCounter ∨ u.sacc.sigOk = false) : u.verify pk = none := by
  cases hv : u.verify pk with
  | none => rfl
  | some acc =>
    obtain ⟨h1, h2, -, -⟩ := (verify_eq_some_iff pk u acc).mp hv
    rcases h with h | h
    · exact absurd h1 h
    · rw [h2] at h; exact absurd h (by simp)

/-- **what an accepted event list is**: empty, or: the last event hashes to the hash in the
    accumulator; the first parent hash is a well-formed hash; every later event carries the
    (well-formed) hash of its predecessor; the indices count up by one from the first – no gap,
    no repetition, no reordering. -/
theorem eventsVerify_spec (evs : List Event) (h : Hash) :
    eventsVerify evs h = true ↔
      evs = [] ∨
      ((∃ last, evs.getLast? = some last ∧ last.hashEquals h = true) ∧
       (∀ f, evs.head? = some f → hashAlgOk f.parentHash = true) ∧
       List.IsChain (fun a b : Event => a.hashEquals b.parentHash = true) evs ∧
       ∀ k (hk : k < evs.length), evs[k].index = (evs.head?.map (·.index)).getD 0 + k) :=
  Rev.eventsVerify_spec evs h

/-- **an accepted chain is bound by the signed hash**: two event lists accepted for the same
    accumulator hash are nested – one is a suffix of the other – or a SHA-256 collision exists.
    `InRange`: indices `< 2^64`, and values `≥ 0`, which is a hypothesis since `E.Bytes()` drops the
    sign. -/
theorem chain_nested {l1 l2 : List Event} {h : Hash}
    (v1 : eventsVerify l1 h = true) (v2 : eventsVerify l2 h = true)
    (r1 : ∀ e ∈ l1, e.InRange) (r2 : ∀ e ∈ l2, e.InRange) :
    l1 <:+ l2 ∨ l2 <:+ l1 ∨ Sha256Collision := chain_suffix v1 v2 r1 r2

/-- Two event lists of equal length accepted for the same accumulator hash are equal, or a SHA-256
    collision exists: an altered, inserted-for-dropped, reordered or re-indexed event changes the
    list and is therefore rejected. -/
theorem chain_binds {l1 l2 : List Event} {h : Hash}
    (v1 : eventsVerify l1 h = true) (v2 : eventsVerify l2 h = true)
    (r1 : ∀ e ∈ l1, e.InRange) (r2 : ∀ e ∈ l2, e.InRange) (hlen : l1.length = l2.length) :
    l1 = l2 ∨ Sha256Collision := Rev.chain_binds v1 v2 r1 r2 hlen

/-- Tampering with the events of an accepted update (same signed accumulator, as many events,
    but not the same events) is rejected – unless a SHA-256 collision exists. -/
theorem tampered_events_rejected {pk : PublicKey} {u u' : Update} {acc : SAcc}
    (hv : u.verify pk = some acc) (hs : u'.sacc = u.sacc) (hne : u'.events ≠ u.events)
    (hlen : u'.events.length = u.events.length)
    (r : ∀ e ∈ u.events, e.InRange) (r' : ∀ e ∈ u'.events, e.InRange)
    (hnc : ¬ Sha256Collision) : u'.verify pk = none := by
  cases hv' : u'.verify pk with
  | none => rfl
  | some acc' =>
    obtain ⟨-, -, -, v⟩ := (verify_eq_some_iff pk u acc).mp hv
    obtain ⟨-, -, -, v'⟩ := (verify_eq_some_iff pk u' acc').mp hv'
    rw [hs] at v'
    rcases Rev.chain_binds v' v r' r hlen with h | h
    · exact absurd h hne
    · exact absurd h hnc

/-- A list no longer than an accepted one that is not a suffix of it is rejected for the same
    accumulator hash (unless a SHA-256 collision exists): events can be dropped from the *front*
    of an accepted list only, which gives the update message for a later window. -/
theorem dropped_event_rejected {l1 l2 : List Event} {h : Hash}
    (v1 : eventsVerify l1 h = true) (r1 : ∀ e ∈ l1, e.InRange) (r2 : ∀ e ∈ l2, e.InRange)
    (hlen : l2.length ≤ l1.length) (hns : ¬ l2 <:+ l1) (hnc : ¬ Sha256Collision) :
    eventsVerify l2 h = false := by
  cases v2 : eventsVerify l2 h with
  | false => rfl
  | true =>
    rcases chain_suffix v1 v2 r1 r2 with h | h | h
    · have := h.eq_of_length (by have := h.length_le; omega)
      subst this; exact absurd List.suffix_rfl hns
    · exact absurd h hns
    · exact absurd h hnc

/-! ### `Witness.Update`, `Update.Prepend`: success needs verification, failure changes nothing -/

/-- `Witness.update` returns `ok` only for an update that verifies (signature, key counter,
    event chain). -/
theorem update_ok_requires_verify {pk : PublicKey} {w : Witness} {upd : Update}
    (h : (w.update pk upd).1 = .ok) :
    pk.counter = upd.sacc.pkCounter ∧ upd.sacc.sigOk = true ∧
      eventsVerify upd.events upd.sacc.eventHash = true := by
  cases hv : upd.verify pk with
  | none => rw [update_verify_none hv] at h; exact absurd h nofun
  | some acc =>
    obtain ⟨h1, h2, -, h4⟩ := (verify_eq_some_iff pk upd acc).mp hv
    exact ⟨h1, h2, h4⟩

/-- An update that does not verify: `err`, witness and update object exactly as they were. -/
theorem failed_verify_leaves_state {pk : PublicKey} {w : Witness} {upd : Update}
    (h : upd.verify pk = none) : w.update pk upd = (.err, w, upd) := update_verify_none h

/-- Every non-`ok` exit of `Witness.update` returns the witness it was given. -/
theorem failed_update_leaves_witness (pk : PublicKey) (w : Witness) (upd : Update)
    (h : (w.update pk upd).1 ≠ .ok) : (w.update pk upd).2.1 = w := update_of_ne_ok h

/-- **`Prepend` is atomic**: it either fails (`none`: the model returns no new state, the update
    is the old one) or returns an update with the *same* signed accumulator whose event list
    `evs ++ (a suffix of the old events)` has been verified against that accumulator's event
    hash; prepending nothing returns the update itself. -/
theorem prepend_atomic {u u' : Update} {evs : List Event} (h : u.prepend evs = some u') :
    u'.sacc = u.sacc ∧
      ((evs = [] ∧ u' = u) ∨
       (evs ≠ [] ∧ eventsVerify u'.events u.sacc.eventHash = true ∧
         ∃ m, m ≤ u.events.length ∧ u'.events = evs ++ u.events.drop m)) := by
  unfold Update.prepend at h
  split at h
  · rename_i hl
    obtain rfl := Option.some.inj h
    exact ⟨rfl, Or.inl ⟨List.getLast?_eq_none_iff.mp hl, rfl⟩⟩
  · cases h
  · rename_i last ourFirst hl hf
    have hne : evs ≠ [] := by rintro rfl; cases hl
    dsimp only at h
    split_ifs at h with h1 hmn hev
    obtain rfl := Option.some.inj h
    exact ⟨rfl, Or.inr ⟨hne, hev, _, Nat.le_of_not_gt hmn, rfl⟩⟩

/-- `Prepend` applied to an update that verifies (as `Update.Prepend` presupposes) returns an
    update that verifies, with the same accumulator. -/
theorem prepend_verified {pk : PublicKey} {u u' : Update} {evs : List Event} {acc : SAcc}
    (hv : u.verify pk = some acc) (h : u.prepend evs = some u') : u'.verify pk = some acc := by
  obtain ⟨h1, h2, h3, h4⟩ := (verify_eq_some_iff pk u acc).mp hv
  obtain ⟨hs, hc⟩ := prepend_atomic h
  rw [verify_eq_some_iff, hs]
  refine ⟨h1, h2, h3, ?_⟩
  rcases hc with ⟨-, rfl⟩ | ⟨-, hev, -⟩
  · exact h4
  · exact hev

/-- `Prepend` of a non-empty list that joined to no suffix of the update's events gives an
    accepted chain fails; the model then returns no new state. -/
theorem failed_prepend_leaves_state {u : Update} {evs : List Event} (hne : evs ≠ [])
    (hbad : ∀ m, m ≤ u.events.length →
      eventsVerify (evs ++ u.events.drop m) u.sacc.eventHash = false) :
    u.prepend evs = none := by
  cases h : u.prepend evs with
  | none => rfl
  | some u' =>
    obtain ⟨-, hc⟩ := prepend_atomic h
    rcases hc with ⟨h1, -⟩ | ⟨-, hev, m, hm, hm'⟩
    · exact absurd h1 hne
    · rw [hm', hbad m hm] at hev; exact absurd hev (by simp)

/-! ### non-vacuity -/

/-- an accepted two-event update (the toy history of `GabiProofs.RevLemmas`). -/
example : toyUpdate.verify toyKey = some toyUpdate.sacc := toy_update.verified

example : eventsVerify toyUpdate.events toyUpdate.sacc.eventHash = true :=
  ((verify_update_logic toyKey toyUpdate toyUpdate.sacc).mp toy_update.verified).2.2.2

example : ∀ e ∈ toyUpdate.events, e.InRange := by
  intro e he
  have : e = toyEv1 ∨ e = toyEv2 := by simpa [toyUpdate] using he
  rcases this with rfl | rfl <;> exact ⟨by decide, by decide⟩

example : hashAlgOk toyEv0.parentHash = true := by decide

end Gabi.C10

#print axioms Gabi.C10.hashEqual_iff
#print axioms Gabi.C10.prefix_not_equal
#print axioms Gabi.C10.prefix_rejected
#print axioms Gabi.C10.hashDecode_length
#print axioms Gabi.C10.hash_self_delimiting
#print axioms Gabi.C10.event_hash_input_injective
#print axioms Gabi.C10.event_hash_binds
#print axioms Gabi.C10.malformed_parent_ambiguous
#print axioms Gabi.C10.verify_update_logic
#print axioms Gabi.C10.bad_signature_rejected
#print axioms Gabi.C10.eventsVerify_spec
#print axioms Gabi.C10.chain_nested
#print axioms Gabi.C10.chain_binds
#print axioms Gabi.C10.tampered_events_rejected
#print axioms Gabi.C10.dropped_event_rejected
#print axioms Gabi.C10.update_ok_requires_verify
#print axioms Gabi.C10.failed_verify_leaves_state
#print axioms Gabi.C10.failed_update_leaves_witness
#print axioms Gabi.C10.prepend_atomic
#print axioms Gabi.C10.prepend_verified
#print axioms Gabi.C10.failed_prepend_leaves_state
