/-
  C04 (end-to-end part) — completeness of the disclosure proof and the extractor's equation,
  for the executable model itself (namespace `Gabi.C04`, continuing GabiProps/C04.lean).

  `GabiProps.C04` proves the parameter / shape / range part; `GabiProofs.GroupAlgebra` the algebra
  in an abstract commutative group. Here the two are joined through `GabiProofs.Bridge`
  (`goExp` ↔ `(ZMod n)ˣ`): the verifier's `reconstructZ` of an honest proof is the prover's
  commitment `Z~`, so `ProofD.Verify` accepts it; two model proofs with the same first message
  satisfy the extractor's equation, which the reported disclosed values enter through `attrExp`
  only. Helper lemmas: GabiProofs.DisclosureE2E. The units `zunit n x` are defined in
  GabiProofs.Bridge, `E2E.baseU n pk i = zunit n R_i` and
  `E2E.knownU n pk A' disclosed = Z / (A'^(2^(Le-1)) · ∏ R_i^{attrExp a_i})` in
  GabiProofs.DisclosureE2E.
-/
import GabiProps.C04
import GabiProps.C05
import GabiProofs.DisclosureE2E
namespace Gabi.C04
open Gabi

/-- the hypotheses on an issuer key used below: modulus `> 1`, and `Z`, `S`, every `R_i` coprime
    to the modulus (for a real key they are quadratic residues modulo a product of two safe
    primes). -/
structure KeyUnits (pk : PublicKey) : Prop where
  n_gt : 1 < pk.n
  z : Int.gcd pk.z pk.n = 1
  s : Int.gcd pk.s pk.n = 1
  r : ∀ b ∈ pk.r, Int.gcd b pk.n = 1

/-- `KeyUnits` as the unit-group lemmas take it: `n` as a natural number `> 1`, and `Z`, `S`, every
    `R_i` units of `ZMod n`. -/
theorem KeyUnits.cast {pk : PublicKey} (h : KeyUnits pk) :
    pk.n = (pk.n.toNat : Int) ∧ 1 < pk.n.toNat ∧ IsUnit (pk.z : ZMod pk.n.toNat) ∧
      IsUnit (pk.s : ZMod pk.n.toNat) ∧ ∀ b ∈ pk.r, IsUnit (b : ZMod pk.n.toNat) := by
  have hN : pk.n = (pk.n.toNat : Int) := (Int.toNat_of_nonneg (by have := h.n_gt; omega)).symm
  refine ⟨hN, by have := h.n_gt; omega, ?_, ?_, ?_⟩
  · rw [isUnit_iff_gcd, ← hN]; exact h.z
  · rw [isUnit_iff_gcd, ← hN]; exact h.s
  · intro b hb; rw [isUnit_iff_gcd, ← hN]; exact h.r b hb

/-! ### honest proofs reconstruct -/

/-- **Completeness of the underlying Σ-protocol, for every challenge `c`.** On a key with
    invertible `Z`, `S`, `R_i` and a valid signature (without keyshare factor) on `attrs`, the
    responses `CreateProof(c)` computes make `reconstructZ` return the second element `Z~` of the
    builder's `Commit`; `A'` is a unit modulo `n`. The challenge need not be the hash. -/
theorem createProof_reconstructs (isPrime : Nat → Bool) {pk : PublicKey} (hk : KeyUnits pk)
    {sig : CLSignature} {attrs D U : List Int} {rnd : DisclosureRandomness} (c : Int) {p : ProofD}
    (hsig : clVerifyWith isPrime pk sig attrs = .ok true) (hkp : sig.keyshareP = none)
    (hlen : attrs.length ≤ pk.r.length) (hnd : D.Nodup)
    (hU : getUndisclosedAttributes D attrs.length = .ok U)
    (hp : disclosureCreateProof pk attrs D U (clRandomize pk sig rnd.r) rnd c = .ok p) :
    ∃ z, disclosureCommit pk (clRandomize pk sig rnd.r) rnd U = .ok [(clRandomize pk sig rnd.r).a, z] ∧
      p.reconstructZ pk = .ok (some z) ∧ p.a = some (clRandomize pk sig rnd.r).a ∧ p.c = some c ∧
      Int.gcd (clRandomize pk sig rnd.r).a pk.n = 1 := by
  obtain ⟨hN, hn, hz, hs, hr⟩ := hk.cast
  obtain ⟨rfl, hD⟩ := getUndisclosed_ok hU
  obtain ⟨-, rfl⟩ := disclosureCreateProof_ok hp
  obtain ⟨hua', heq⟩ := E2E.randomized_sig_eq isPrime pk sig attrs D rnd.r hN hn hz hs hr hlen hkp
    hsig hnd hD
  have hDr : ∀ v ∈ D, 0 ≤ v ∧ v < (pk.r.length : Int) := fun v hv => by
    have := hD v hv; omega
  have hUr : ∀ v ∈ complementList D attrs.length, 0 ≤ v ∧ v < (pk.r.length : Int) := fun v hv => by
    have := (mem_complementList D attrs.length v).mp hv; omega
  obtain ⟨zc, hzc, zc0, zc1, zcc⟩ := E2E.disclosureCommit_spec pk _ rnd _ hN hn hs hr hua' hUr
  obtain ⟨z, hz', z0, z1, zcast⟩ := E2E.reconstructZ_spec pk
    (honestProofD pk attrs D (complementList D attrs.length) (clRandomize pk sig rnd.r) rnd c)
    hN hn hz hs hr rfl hua' rfl rfl rfl (E2E.entriesOK_map _ hDr) (E2E.entriesOK_map _ hUr)
  -- both are the representative in `[0, n)` of the same unit, by completeness in `(ZMod n)ˣ`
  obtain rfl : z = zc := by
    apply eq_of_cast_eq z0 z1 zc0 zc1
    rw [zcast, zcc]
    congr 1
    unfold E2E.reconU E2E.knownU
    rw [honestProofD, E2E.mapU_map, E2E.mapU_map]
    exact Alg.proofD_complete (E2E.baseU _ pk) D _ _ _ rnd.attrRand heq
  exact ⟨z, hzc, hz', rfl, rfl, by rwa [isUnit_iff_gcd, ← hN] at hua'⟩

/-- **The verifier's reconstruction equals the prover's commitment.** Key with invertible `Z`, `S`,
    `R_i`; `sig` a valid signature (without keyshare factor) on `attrs`; `D` a duplicate-free
    list of disclosed indices; *any* integers as randomness. If `CreateDisclosureProof` returns
    `p`, then the hidden indices are `U = getUndisclosedAttributes D`, the builder's `Commit` is
    `[A', Z~]`, the verifier's `reconstructZ p` returns exactly `Z~`, and the proof's challenge
    is the hash of `[A', Z~]`. (Uses `Alg.proofD_complete` in `(ZMod n)ˣ`.) -/
theorem honest_reconstructs_model (isPrime : Nat → Bool) {pk : PublicKey} (hk : KeyUnits pk)
    {sig : CLSignature} {attrs D : List Int} {rnd : DisclosureRandomness} {ctx nonce : Int}
    {issig : Bool} {p : ProofD}
    (hsig : clVerifyWith isPrime pk sig attrs = .ok true) (hkp : sig.keyshareP = none)
    (hlen : attrs.length ≤ pk.r.length) (hnd : D.Nodup)
    (h : createDisclosureProof pk sig attrs D rnd ctx nonce issig = .ok p) :
    ∃ U z, getUndisclosedAttributes D attrs.length = .ok U ∧
      disclosureCommit pk (clRandomize pk sig rnd.r) rnd U = .ok [(clRandomize pk sig rnd.r).a, z] ∧
      p.reconstructZ pk = .ok (some z) ∧ p.a = some (clRandomize pk sig rnd.r).a ∧
      p.c = some ((createChallenge ctx nonce [(clRandomize pk sig rnd.r).a, z] issig : Nat) : Int) := by
  obtain ⟨commit, hD, hcommit, hp⟩ := createDisclosureProof_ok h
  have hU := getUndisclosed_of_bounds hD
  obtain ⟨z, h1, h2, h3, h4, _⟩ := createProof_reconstructs isPrime hk _ hsig hkp hlen hnd hU hp
  rw [h1] at hcommit
  obtain rfl := Except.ok.inj hcommit
  exact ⟨_, z, hU, h1, h2, h3, h4⟩

/-! ### completeness -/

/-- **Completeness of selective disclosure.** For a sound parameter set, a key
    with invertible bases and at least as many bases as attributes, a valid signature on
    non-negative attributes (index 0: the secret key), a duplicate-free list `D` of disclosed
    indices in `[1, len attrs)` and randomness inside the documented ranges, the prover
    succeeds and `ProofD.Verify` accepts the result — for every accumulator-signature oracle and
    every pair of picks of `revocationAttrIndex` (the proof has no non-revocation part). -/
theorem honest_accepts (isPrime : Nat → Bool) (o : SigOracle) (kid : String) {pk : PublicKey}
    (hk : KeyUnits pk) (hP : ParamsSound pk.params)
    {sig : CLSignature} {attrs D : List Int} {rnd : DisclosureRandomness}
    (ctx nonce : Int) (issig : Bool) (i1 i2 : Int)
    (hsig : clVerifyWith isPrime pk sig attrs = .ok true) (hkp : sig.keyshareP = none)
    (hlen : attrs.length ≤ pk.r.length) (hpos : 0 < attrs.length) (hattrs : ∀ a ∈ attrs, 0 ≤ a)
    (hnd : D.Nodup) (hD : ∀ v ∈ D, 1 ≤ v ∧ v < (attrs.length : Int))
    (hrnd : rnd.InRange pk.params) :
    ∃ p, createDisclosureProof pk sig attrs D rnd ctx nonce issig = .ok p ∧
      p.verifyWith o kid pk ctx nonce issig i1 i2 = .ok true := by
  obtain ⟨hN, hn, hz, hs, hr⟩ := hk.cast
  obtain ⟨hua, _⟩ := clVerifyWith_repU isPrime pk sig attrs hN hn hz hs hr hlen hkp hsig
  obtain ⟨he, _⟩ := clVerifyWith_ok_true isPrime pk sig attrs hsig
  obtain ⟨p, hp⟩ := E2E.createDisclosureProof_isOk pk sig attrs D rnd ctx nonce issig hN hn hs hr hlen hua
    (fun v hv => by have := hD v hv; omega)
  refine ⟨p, hp, ?_⟩
  obtain ⟨_, z, _, _, hz', hpa, hpc⟩ := honest_reconstructs_model isPrime hk hsig hkp hlen hnd hp
  obtain ⟨hw, hnr, hrp⟩ := E2E.honest_wellFormed pk sig attrs D rnd ctx nonce issig hlen hpos
    (fun v hv => (hD v hv).1)
    (fun v _ a ha hh => absurd (hattrs a (List.mem_of_getElem? ha)) (by omega)) hp
  exact E2E.verifyWith_plain o kid pk p ctx nonce issig i1 i2 hw hz' hpa hpc hnr hrp
    (honest_disclosure_sizes_ok hP hrnd hattrs he hp)

/-- `honest_accepts` at the two picks `-1` of `revocationAttrIndex`, which are the ones the
    verifier makes on a proof without non-revocation part. -/
theorem honest_accepts' (isPrime : Nat → Bool) (o : SigOracle) (kid : String) {pk : PublicKey}
    (hk : KeyUnits pk) (hP : ParamsSound pk.params)
    {sig : CLSignature} {attrs D : List Int} {rnd : DisclosureRandomness}
    (ctx nonce : Int) (issig : Bool)
    (hsig : clVerifyWith isPrime pk sig attrs = .ok true) (hkp : sig.keyshareP = none)
    (hlen : attrs.length ≤ pk.r.length) (hpos : 0 < attrs.length) (hattrs : ∀ a ∈ attrs, 0 ≤ a)
    (hnd : D.Nodup) (hD : ∀ v ∈ D, 1 ≤ v ∧ v < (attrs.length : Int))
    (hrnd : rnd.InRange pk.params) :
    ∃ p, createDisclosureProof pk sig attrs D rnd ctx nonce issig = .ok p ∧
      p.verifyWith o kid pk ctx nonce issig (-1) (-1) = .ok true :=
  honest_accepts isPrime o kid hk hP ctx nonce issig (-1) (-1) hsig hkp hlen hpos hattrs hnd hD hrnd

/-! ### special soundness for the model's integers -/

/-- `K = Z / (A'^(2^(Le−1)) · ∏_{(i, a_i) disclosed} R_i^{attrExp a_i})`, with the bases written
    out as units `zunit n R_i`. -/
theorem knownU_def (n : ℕ) (pk : PublicKey) (a : Int) (disclosed : IntMap) :
    E2E.knownU n pk a disclosed =
      zunit n pk.z / (zunit n a ^ ((2 : ℤ) ^ (pk.params.Le - 1)) *
        Alg.rep (fun kv : Int × Option Int => zunit n (pk.r.getD kv.1.toNat 0))
          (fun kv => attrExp pk.params.Lm (kv.2.getD 0)) disclosed) := rfl

/-- what `reconstructZ` returns, for any proof it does not reject (unit `A'`, invertible bases):
    the representative in `[0, n)` of `K^(−c) · A'^ê · S^v̂ · ∏_{hidden} R_j^{ŝ_j}`. -/
theorem reconstructZ_value {pk : PublicKey} (hk : KeyUnits pk) {p : ProofD}
    {a c er vr z : Int} (hau : Int.gcd a pk.n = 1) (ha : p.a = some a) (hc : p.c = some c)
    (her : p.eResponse = some er) (hvr : p.vResponse = some vr)
    (h : p.reconstructZ pk = .ok (some z)) :
    0 ≤ z ∧ z < pk.n ∧
    (z : ZMod pk.n.toNat) =
      ((E2E.knownU pk.n.toNat pk a p.aDisclosed ^ (-c) * zunit pk.n.toNat a ^ er *
        zunit pk.n.toNat pk.s ^ vr *
        Alg.rep (fun kv : Int × Option Int => E2E.baseU pk.n.toNat pk kv.1) (fun kv => kv.2.getD 0)
          p.aResponses : (ZMod pk.n.toNat)ˣ) : ZMod pk.n.toNat) := by
  obtain ⟨hN, hn, hz, hs, hr⟩ := hk.cast
  have hau' : IsUnit (a : ZMod pk.n.toNat) := by rw [isUnit_iff_gcd, ← hN]; exact hau
  obtain ⟨hD, hA⟩ := E2E.reconstructZ_entriesOK h
  obtain ⟨z', hz', z0, z1, zc⟩ := E2E.reconstructZ_spec pk p hN hn hz hs hr ha hau' hc her hvr hD hA
  rw [h] at hz'
  obtain rfl : z = z' := Option.some.inj (Except.ok.inj hz')
  exact ⟨z0, by omega, zc⟩

/-- **The extractor's equation.** Two model proofs `p`, `p'` with the same `A'` (a unit), the same
    disclosed map and the same hidden keys (a map: no duplicates) for which `reconstructZ` returns
    the same commitment `z` satisfy in `(ZMod n)ˣ`
    `K^(c−c') = A'^(ê−ê') · S^(v̂−v̂') · ∏_{j hidden} R_j^(ŝ_j−ŝ'_j)` with
    `K = Z / (A'^(2^(Le−1)) · ∏_{i disclosed} R_i^{attrExp(a_i)})` built from the *reported*
    disclosed values. From here (CRYPTO-HYP: strong RSA) `c − c'` divides the exponent
    differences and `(A', ê−ê'/(c−c') + 2^(Le−1), …)` is a CL signature on the reported values. -/
theorem proofD_special_soundness_model {pk : PublicKey} (hk : KeyUnits pk) {p p' : ProofD}
    {a c c' er er' vr vr' z : Int} (hau : Int.gcd a pk.n = 1)
    (ha : p.a = some a) (ha' : p'.a = some a)
    (hc : p.c = some c) (hc' : p'.c = some c')
    (her : p.eResponse = some er) (her' : p'.eResponse = some er')
    (hvr : p.vResponse = some vr) (hvr' : p'.vResponse = some vr')
    (hdis : p'.aDisclosed = p.aDisclosed)
    (hkeys : p'.aResponses.map (·.1) = p.aResponses.map (·.1))
    (hnd : (p.aResponses.map (·.1)).Nodup)
    (h1 : p.reconstructZ pk = .ok (some z)) (h2 : p'.reconstructZ pk = .ok (some z)) :
    E2E.knownU pk.n.toNat pk a p.aDisclosed ^ (c - c') =
      zunit pk.n.toNat a ^ (er - er') * zunit pk.n.toNat pk.s ^ (vr - vr') *
        Alg.rep (E2E.baseU pk.n.toNat pk)
          (fun j => (p.aResponses.get j).getD 0 - (p'.aResponses.get j).getD 0)
          (p.aResponses.map (·.1)) := by
  obtain ⟨_, _, zc⟩ := reconstructZ_value hk hau ha hc her hvr h1
  obtain ⟨_, _, zc'⟩ := reconstructZ_value hk hau ha' hc' her' hvr' h2
  have e1 : E2E.reconU _ pk a c er vr p.aDisclosed p.aResponses =
      E2E.reconU _ pk a c' er' vr' p'.aDisclosed p'.aResponses := Units.ext (zc.symm.trans zc')
  unfold E2E.reconU at e1
  rw [hdis, E2E.mapU_eq_rep_keys pk id _ hnd,
    E2E.mapU_eq_rep_keys pk id p'.aResponses (hkeys ▸ hnd), hkeys] at e1
  exact Alg.proofD_special_soundness (E2E.baseU _ pk) (p.aResponses.map (·.1)) _ _ e1 rfl

/-- The extractor's equation of `proofD_special_soundness_model` with `K` unfolded:
    `A'^(2^(Le−1)·(c−c') + (ê−ê')) · (∏_{disclosed} R_i^{attrExp a_i})^(c−c') ·`
    `∏_{hidden} R_j^(ŝ_j−ŝ'_j) · S^(v̂−v̂') = Z^(c−c')`,
    the shape of the CL verification equation "in the exponent `c − c'`". -/
theorem proofD_extract_model {pk : PublicKey} (hk : KeyUnits pk) {p p' : ProofD}
    {a c c' er er' vr vr' z : Int} (hau : Int.gcd a pk.n = 1)
    (ha : p.a = some a) (ha' : p'.a = some a)
    (hc : p.c = some c) (hc' : p'.c = some c')
    (her : p.eResponse = some er) (her' : p'.eResponse = some er')
    (hvr : p.vResponse = some vr) (hvr' : p'.vResponse = some vr')
    (hdis : p'.aDisclosed = p.aDisclosed)
    (hkeys : p'.aResponses.map (·.1) = p.aResponses.map (·.1))
    (hnd : (p.aResponses.map (·.1)).Nodup)
    (h1 : p.reconstructZ pk = .ok (some z)) (h2 : p'.reconstructZ pk = .ok (some z)) :
    zunit pk.n.toNat a ^ ((2 : ℤ) ^ (pk.params.Le - 1) * (c - c') + (er - er')) *
        Alg.rep (fun kv : Int × Option Int => E2E.baseU pk.n.toNat pk kv.1)
          (fun kv => attrExp pk.params.Lm (kv.2.getD 0)) p.aDisclosed ^ (c - c') *
        Alg.rep (E2E.baseU pk.n.toNat pk)
          (fun j => (p.aResponses.get j).getD 0 - (p'.aResponses.get j).getD 0)
          (p.aResponses.map (·.1)) *
        zunit pk.n.toNat pk.s ^ (vr - vr') = zunit pk.n.toNat pk.z ^ (c - c') :=
  Alg.proofD_extract_of_known (proofD_special_soundness_model hk hau ha ha' hc hc' her her' hvr hvr'
    hdis hkeys hnd h1 h2)

/-! ### the disclosed values enter `K` through `attrExp` only -/

/-- `K` is a function of the list of pairs (disclosed index, `attrExp` of the reported value):
    two disclosed maps that agree after `attrExp` give the same `K` (e.g. a long value and its
    SHA-256 image). -/
theorem disclosed_values_enter_K (n : ℕ) (pk : PublicKey) (a : Int) (l l' : IntMap)
    (h : l.map (fun kv => (kv.1, attrExp pk.params.Lm (kv.2.getD 0))) =
      l'.map (fun kv => (kv.1, attrExp pk.params.Lm (kv.2.getD 0)))) :
    E2E.knownU n pk a l = E2E.knownU n pk a l' := by
  unfold E2E.knownU E2E.mapU Alg.rep
  have : ∀ m : IntMap, (m.map fun kv => E2E.baseU n pk kv.1 ^ attrExp pk.params.Lm (kv.2.getD 0)) =
      (m.map (fun kv => (kv.1, attrExp pk.params.Lm (kv.2.getD 0)))).map
        (fun q : Int × Int => E2E.baseU n pk q.1 ^ q.2) := by
    intro m; rw [List.map_map]; rfl
  rw [this l, this l', h]

/-- Changing the reported value of one disclosed index `i` from `x` to `x'` multiplies `K` by
    `R_i^(attrExp x − attrExp x')`; the two `K` coincide iff `R_i^(attrExp x − attrExp x') = 1`,
    i.e. (for `R_i` of order `ord`) iff `attrExp x ≡ attrExp x' (mod ord)`. Together with
    `C01.disclosed_shift_excluded` (such an `x' ≠ x` is longer than `Lm` bits, hence hashed) a
    different reported value means a different `K` in the extractor's equation. -/
theorem disclosed_value_changes_K (n : ℕ) (pk : PublicKey) (a : Int) (l1 l2 : IntMap) (i x x' : Int) :
    E2E.knownU n pk a (l1 ++ (i, some x') :: l2) =
        E2E.knownU n pk a (l1 ++ (i, some x) :: l2) *
          E2E.baseU n pk i ^ (attrExp pk.params.Lm x - attrExp pk.params.Lm x') ∧
    (E2E.knownU n pk a (l1 ++ (i, some x) :: l2) = E2E.knownU n pk a (l1 ++ (i, some x') :: l2) ↔
      E2E.baseU n pk i ^ (attrExp pk.params.Lm x - attrExp pk.params.Lm x') = 1) := by
  have h : E2E.knownU n pk a (l1 ++ (i, some x') :: l2) =
      E2E.knownU n pk a (l1 ++ (i, some x) :: l2) *
        E2E.baseU n pk i ^ (attrExp pk.params.Lm x - attrExp pk.params.Lm x') := by
    unfold E2E.knownU
    rw [E2E.mapU_append, E2E.mapU_append, E2E.mapU_cons, E2E.mapU_cons, Option.getD_some,
      Option.getD_some]
    to_additive_goal
    module
  exact ⟨h, by rw [h, eq_comm, mul_eq_left]⟩

/-! ### non-vacuity

  Key: the toy key of `GabiProofs.CLLemmas` (`n = 77`, bases in `QR_77`, exponent 15) with the
  1024-bit *parameter set* (`ParamsSound` does not constrain the size of `n`). The signature is
  produced by the issuer model (`clSignWith`, valid by `C05.sign_verifies`), so every hypothesis of
  `honest_accepts` is discharged in the kernel; the `#guard`s evaluate the same instance. -/
namespace E2EDemo

def base : Gen.BaseParams := { LePrime := 120, Lh := 256, Lm := 256, Ln := 1024, Lstatzk := 80 }
def params : SysParams := SysParams.ofBase base
/-- the 1024-bit base parameters give a sound set. -/
theorem params_sound : ParamsSound params := ofBase_sound (by decide)

def pk : PublicKey := { toyKey with params := params }

/-- the toy key satisfies `KeyUnits`. -/
theorem pk_units : KeyUnits pk := ⟨by decide, by decide, by decide, by decide⟩

/-- `Z`, `S` and the bases of the toy key have order dividing 15 (the hypothesis of the issuer
    lemmas of C05). -/
theorem pk_inGroup : pk.InGroup 15 := by
  refine ⟨by decide, by decide, by decide, by decide, ?_⟩
  intro b hb
  rw [goExp_nonneg b 15 pk.n (by decide) (by decide)]
  simp only [pk, toyKey, List.mem_cons, List.not_mem_nil, or_false] at hb
  rcases hb with rfl | rfl | rfl | rfl | rfl <;> decide

def e : Int := 2 ^ 596 + 1
def rnd : DisclosureRandomness :=
  { r := 17, eCommit := 1234567, vCommit := 7654321, attr := [(0, 1111), (2, 2222)] }

/-- `e = 2^(Le-1) + 1` lies in the signature interval. -/
theorem e_int : eInInterval pk.params e = true := by decide +kernel
/-- `e` is invertible modulo the group exponent 15. -/
theorem e_gcd : Int.gcd e 15 = 1 := by decide +kernel
/-- the demo randomness lies inside the documented ranges of the draws. -/
theorem rnd_inRange : rnd.InRange pk.params := by
  refine ⟨by decide +kernel, by decide +kernel, by decide +kernel, by decide +kernel,
    by decide +kernel, by decide +kernel, ?_⟩
  intro kv hkv
  simp only [rnd, List.mem_cons, List.not_mem_nil, or_false] at hkv
  rcases hkv with rfl | rfl <;> exact ⟨by decide +kernel, by decide +kernel⟩

/-- there is a valid signature on `[3, 5, 7]` under `pk` (produced by the issuer model; the
    primality oracle accepts everything). -/
theorem sig_exists : ∃ sig, clVerifyWith (fun _ => true) pk sig [3, 5, 7] = .ok true ∧
    sig.keyshareP = none := by
  obtain ⟨sig, h⟩ := C05.sign_succeeds_of_nonneg pk 15 [3, 5, 7] 6 e pk_inGroup (by decide)
    (by decide) e_gcd
  exact ⟨sig, C05.sign_verifies _ pk 15 [3, 5, 7] 6 e sig pk_inGroup (by decide) e_int rfl h,
    (clSignWith_keyshareP h).1⟩

/-- **non-vacuity of `honest_accepts` / `honest_reconstructs_model`**: all hypotheses hold on this
    instance, so the prover model produces a proof and `verifyWith` accepts it (kernel-checked,
    no evaluation of SHA-256 or modular exponentiation needed). -/
example : ∃ sig p, clVerifyWith (fun _ => true) pk sig [3, 5, 7] = .ok true ∧
    createDisclosureProof pk sig [3, 5, 7] [1] rnd 42 43 false = .ok p ∧
    p.verifyWith (fun _ _ => none) "" pk 42 43 false (-1) (-1) = .ok true := by
  obtain ⟨sig, hsig, hkp⟩ := sig_exists
  obtain ⟨p, hp, hv⟩ := honest_accepts' (fun _ => true) (fun _ _ => none) "" pk_units params_sound
    (rnd := rnd) (D := [1]) 42 43 false hsig hkp (by decide) (by decide) (by decide) (by decide)
    (by decide) rnd_inRange
  exact ⟨sig, p, hsig, hp, hv⟩

/-- **non-vacuity of `proofD_special_soundness_model`**: the responses of the same builder to the
    two challenges `5 ≠ 9` are two proofs with the same `A'`, disclosed map, hidden keys and
    reconstructed commitment. -/
example : ∃ (p p' : ProofD) (a z : Int), p.c = some 5 ∧ p'.c = some 9 ∧ Int.gcd a pk.n = 1 ∧
    p.a = some a ∧ p'.a = some a ∧ p'.aDisclosed = p.aDisclosed ∧
    p'.aResponses.map (·.1) = p.aResponses.map (·.1) ∧ (p.aResponses.map (·.1)).Nodup ∧
    p.reconstructZ pk = .ok (some z) ∧ p'.reconstructZ pk = .ok (some z) := by
  obtain ⟨sig, hsig, hkp⟩ := sig_exists
  have hU : getUndisclosedAttributes [1] ([3, 5, 7] : List Int).length = .ok [0, 2] := by decide
  have hidx : ∀ v ∈ ([1] ++ [0, 2] : List Int), 0 ≤ v ∧ v.toNat < ([3, 5, 7] : List Int).length := by decide
  obtain ⟨p, hp⟩ := proof_total (pk := pk) (sigR := clRandomize pk sig rnd.r) (rnd := rnd) (c := 5) hidx
  obtain ⟨p', hp'⟩ := proof_total (pk := pk) (sigR := clRandomize pk sig rnd.r) (rnd := rnd) (c := 9) hidx
  obtain ⟨z, h1, h2, h3, h4, h5⟩ := createProof_reconstructs (fun _ => true) pk_units 5 hsig hkp
    (by decide) (by decide) hU hp
  obtain ⟨z', h1', h2', h3', h4', _⟩ := createProof_reconstructs (fun _ => true) pk_units 9 hsig hkp
    (by decide) (by decide) hU hp'
  rw [h1] at h1'
  obtain rfl : z = z' := by
    have := Except.ok.inj h1'
    simpa using this
  obtain ⟨_, hd, _, hk, _⟩ := proof_shape hp
  obtain ⟨_, hd', _, hk', _⟩ := proof_shape hp'
  exact ⟨p, p', _, z, h4, h4', h5, h3, h3', by rw [hd, hd'], by rw [hk, hk'], by rw [hk]; decide,
    h2, h2'⟩

/-- the signature the issuer model computes on this instance; the `#guard`s below evaluate prover
    and verifier on it. -/
def sig : Option CLSignature := clSignWith pk 15 1 [3, 5, 7] 6 e
#guard sig.isSome
#guard (do
  let s ← sig
  let p ← (createDisclosureProof pk s [3, 5, 7] [1] rnd 42 43 false).toOption
  (p.verifyWith (fun _ _ => none) "" pk 42 43 false (-1) (-1)).toOption) == some true
-- the verifier's reconstruction is the second element of the builder's commitment
#guard (do
  let s ← sig
  let p ← (createDisclosureProof pk s [3, 5, 7] [1] rnd 42 43 false).toOption
  let z ← (p.reconstructZ pk).toOption
  let cm ← (disclosureCommit pk (clRandomize pk s rnd.r) rnd [0, 2]).toOption
  pure (decide (cm = [(clRandomize pk s rnd.r).a, z.getD 0]))) == some true
-- a disclosed value and a different one with the same `attrExp` do not exist below `2^Lm`;
-- changing the disclosed value changes `K`, and the proof is rejected
#guard (do
  let s ← sig
  let p ← (createDisclosureProof pk s [3, 5, 7] [1] rnd 42 43 false).toOption
  ({ p with aDisclosed := [(1, some 6)] }.verifyWith (fun _ _ => none) "" pk 42 43 false (-1) (-1)).toOption)
    == some false

end E2EDemo

end Gabi.C04

#print axioms Gabi.C04.honest_reconstructs_model
#print axioms Gabi.C04.createProof_reconstructs
#print axioms Gabi.C04.honest_accepts
#print axioms Gabi.C04.honest_accepts'
#print axioms Gabi.C04.proofD_special_soundness_model
#print axioms Gabi.C04.proofD_extract_model
#print axioms Gabi.C04.reconstructZ_value
#print axioms Gabi.C04.disclosed_values_enter_K
#print axioms Gabi.C04.disclosed_value_changes_K
#print axioms Gabi.C04.E2EDemo.sig_exists
