/-
  C09 — Revocation witnesses under updates.
  "For every history of revocations and every witness issued at any point in it, applying the
   issuer's update messages in any batching, order, repetition or overlap - including one update
   object applied to several witnesses - leaves a non-revoked witness valid against the newest
   accumulator it has been shown and never moves it backwards, while a revoked witness is
   reported as revoked and can never again be made valid against an accumulator from which its
   value was removed. A failed update leaves the witness exactly as it was."

  Property theorems about the executable model `GabiModel.Revocation` (compared output-for-output
  with revocation/api.go and `Witness.Update` of revocation/proof.go by the correspondence ops of
  `./check C09`).
  Helper lemmas: `GabiProofs.RevLemmas`; the algebra is done in an arbitrary commutative group
  and transported to `goExp` through `GabiProofs.Bridge` (`(ZMod n)ˣ`).
-/
import GabiModel.Revocation
import GabiProofs.RevLemmas
namespace Gabi.C09
open Gabi Gabi.Rev

/-! ### the algebra of a witness update (any commutative group) -/

/-- `u^e = ν` (old accumulator), `ν'^prod = ν` (`prod` = product of the removed values),
    `a·e + b·prod = 1`: the updated witness `u^b · ν'^a` is a witness for `e` against `ν'`. -/
theorem update_algebra {G : Type*} [CommGroup G] {u ν ν' : G} {e prod a b : ℤ} (hu : u ^ e = ν)
    (hν : ν' ^ prod = ν) (hab : a * e + b * prod = 1) : (u ^ b * ν' ^ a) ^ e = ν' :=
  Rev.update_algebra hu hν hab

/-- The updated witness `u^b · ν'^a` does not depend on the Bezout pair `(a, b)` the gcd routine
    happens to return. -/
theorem update_algebra_indep {G : Type*} [CommGroup G] {u ν ν' : G} {e prod a b a' b' : ℤ}
    (hu : u ^ e = ν) (hν : ν' ^ prod = ν) (hab : a * e + b * prod = 1)
    (hab' : a' * e + b' * prod = 1) : u ^ b * ν' ^ a = u ^ b' * ν' ^ a' := by
  have key : ∀ x : G, x = (x ^ e) ^ a * (x ^ prod) ^ b := by
    intro x
    rw [← zpow_mul, ← zpow_mul, ← zpow_add]
    have : e * a + prod * b = 1 := by linear_combination hab
    rw [this, zpow_one]
  rw [key (u ^ b * ν' ^ a), key (u ^ b' * ν' ^ a'), update_algebra hu hν hab,
    update_algebra_prod hu hν hab, update_algebra hu hν hab', update_algebra_prod hu hν hab']

/-- **the chain lemma** for an honest history `ν_k = ν_{k-1}^{d_k}`, `d_k·e_k ≡ 1 (mod ord)`,
    `ν₀^ord = 1`: `ν_j ^ (e_{i+1}⋯e_j) = ν_i` for `i ≤ j`. -/
theorem accumulator_chain {G : Type*} [CommGroup G] {ν₀ : G} {ord : ℤ} {es ds : List ℤ}
    (hν : ν₀ ^ ord = 1) (h : InvPairs ord es ds) {i j : ℕ} (hij : i ≤ j) :
    accAt ν₀ ds j ^ window es i j = accAt ν₀ ds i := accAt_window hν h hij

/-- Along an honest history, a witness `u` for `e` against `ν_i` and a Bezout pair for `e` and
    the product of the values removed in `(i, j]` give the witness `u^b · ν_j^a` against `ν_j`. -/
theorem honest_step {G : Type*} [CommGroup G] {ν₀ u : G} {ord e a b : ℤ} {es ds : List ℤ}
    (hν : ν₀ ^ ord = 1) (h : InvPairs ord es ds) {i j : ℕ} (hij : i ≤ j)
    (hu : u ^ e = accAt ν₀ ds i) (hab : a * e + b * window es i j = 1) :
    (u ^ b * accAt ν₀ ds j ^ a) ^ e = accAt ν₀ ds j :=
  update_algebra hu (accAt_window hν h hij) hab

/-- A value coprime to every removed value is coprime to every window product, so a Bezout pair
    exists. -/
theorem bezout_exists {e : ℤ} {es : List ℤ} (h : ∀ x ∈ es, IsCoprime e x) (i j : ℕ) :
    ∃ a b : ℤ, a * e + b * window es i j = 1 :=
  isCoprime_list_prod fun x hx => h x (mem_of_mem_window hx)

/-! ### revoked: no Bezout pair, `revoked` is reported -/

/-- If the witness's own value divides the removed product (it is one of the removed values)
    and is not `±1`, the gcd is not 1. -/
theorem revoked_no_bezout {e prod : Int} (hd : e ∣ prod) (he : e.natAbs ≠ 1) :
    Int.gcd e prod ≠ 1 := by
  rw [Int.gcd_eq_natAbs_left_iff_dvd.mpr hd]; exact he

/-- No pair `(a, b)` with `a·e + b·prod = 1` exists when `e` (not `±1`) is among the values
    removed in the window. -/
theorem revoked_no_pair {e a b : ℤ} {es : List ℤ} {i j : ℕ} (he : e.natAbs ≠ 1)
    (hmem : e ∈ (es.drop i).take (j - i)) : a * e + b * window es i j ≠ 1 := by
  intro hab
  have hd : e ∣ window es i j := List.dvd_prod hmem
  have : IsCoprime e (window es i j) := ⟨a, b, hab⟩
  have hu : IsUnit e := this.isUnit_of_dvd' (dvd_refl e) hd
  exact he (Int.isUnit_iff_natAbs_eq.mp hu)

/-- On the path of `Witness.update` that reaches the gcd (the update verifies, is not empty, is
    newer than the witness and connects to it), a gcd `≠ 1` makes it return `revoked`, the witness
    unchanged. -/
theorem revoked_reported {pk : PublicKey} {w : Witness} {upd upd' : Update} {newAcc : SAcc}
    {prod : Int} (hv : upd.verify pk = some newAcc) (hne : upd.events ≠ [])
    (hidx : w.sacc.index < newAcc.index)
    (hstart : (upd.events.head?.map (·.index)).getD 0 ≤ w.sacc.index + 1)
    (hp : upd.productFrom (w.sacc.index + 1) = some (prod, upd'))
    (hg : (xgcd w.e.toNat prod.toNat).1 ≠ 1) :
    w.update pk upd = (.revoked, w, upd') := by
  obtain rfl := verify_some hv
  rw [update_of_connects ⟨hv, hne, hidx, hstart⟩, hp]
  dsimp only
  rw [advance_revoked hg]

/-- `Witness.update` returns `revoked`, the witness unchanged, when it reaches the gcd and the
    witness value (`> 1`) divides the positive product of the removed values. -/
theorem revoked_reported_of_dvd {pk : PublicKey} {w : Witness} {upd upd' : Update}
    {newAcc : SAcc} {prod : Int} (hv : upd.verify pk = some newAcc) (hne : upd.events ≠ [])
    (hidx : w.sacc.index < newAcc.index)
    (hstart : (upd.events.head?.map (·.index)).getD 0 ≤ w.sacc.index + 1)
    (hp : upd.productFrom (w.sacc.index + 1) = some (prod, upd'))
    (he : 1 < w.e) (hprod : 0 < prod) (hd : w.e ∣ prod) :
    w.update pk upd = (.revoked, w, upd') :=
  revoked_reported hv hne hidx hstart hp (by
    rw [(xgcd_toNat (by omega) hprod.le).1]
    exact revoked_no_bezout hd (by omega))

/-- An honest update message whose events include the removal of the witness's own value is
    answered with `revoked`; the witness is left exactly as it was. -/
theorem revoked_by_honest_update {pk : PublicKey} {es : List Int} {nu : ℕ → Int}
    (hpos : ∀ x ∈ es, 0 < x) {w : Witness} (he : 1 < w.e) {upd : Update} {frm hi : ℕ}
    (U : HonestUpdate pk es nu upd frm hi) (h1 : frm ≤ w.sacc.index + 1)
    (h2 : w.sacc.index < hi)
    (hmem : w.e ∈ (es.drop w.sacc.index).take (hi - w.sacc.index)) :
    ∃ upd', w.update pk upd = (.revoked, w, upd') := by
  obtain ⟨upd', hp⟩ := U.productFrom h1 h2
  exact ⟨upd', revoked_reported_of_dvd U.verified U.events_ne_nil (by rw [U.index]; exact h2)
    (by rw [U.start]; exact h1) hp he (window_pos hpos _ _) (List.dvd_prod hmem)⟩

/-! ### failure is the identity; the index never decreases; `ok` means valid -/

/-- **a failed update leaves the witness exactly as it was**: every exit of `Witness.update`
    other than `ok` (error, revoked, panic) returns the witness it was given. -/
theorem failed_update_is_identity (pk : PublicKey) (w : Witness) (upd : Update)
    (h : (w.update pk upd).1 ≠ .ok) : (w.update pk upd).2.1 = w := update_of_ne_ok h

/-- The witness only ever changes on `ok`, for a verified update whose accumulator is strictly
    newer (greater index, or equal index and later time). -/
theorem changed_only_if_newer {pk : PublicKey} {w : Witness} {upd : Update}
    (h : (w.update pk upd).2.1 ≠ w) :
    (w.update pk upd).1 = .ok ∧ upd.verify pk = some upd.sacc ∧
      (w.sacc.index < upd.sacc.index ∨
        (w.sacc.index = upd.sacc.index ∧ w.sacc.time < upd.sacc.time)) := by
  rcases update_witness_cases pk w upd with h' | ⟨a, -, -, d, ⟨h1, h2, -⟩ | ⟨C, -⟩⟩
  · exact absurd h' h
  · exact ⟨a, d, Or.inr ⟨h1.symm, h2⟩⟩
  · exact ⟨a, d, Or.inl C.newer⟩

/-- **never backwards**: whatever update is applied, the index of the accumulator the witness
    carries does not decrease, and its value `e` is untouched. -/
theorem update_never_backwards (pk : PublicKey) (w : Witness) (upd : Update) :
    w.sacc.index ≤ (w.update pk upd).2.1.sacc.index ∧ (w.update pk upd).2.1.e = w.e := by
  rcases update_witness_cases pk w upd with h | ⟨-, hs, he, -, h⟩
  · rw [h]; exact ⟨le_rfl, rfl⟩
  · rw [hs]
    rcases h with ⟨h, -⟩ | ⟨C, -⟩
    exacts [⟨h.ge, he⟩, ⟨C.newer.le, he⟩]

/-- **`ok` keeps the witness valid.** In the exit that recomputes `u` validity has been
    re-checked by the code itself; in the exits that keep the witness nothing changes. The one
    remaining exit (same index, later time: only the signed accumulator is replaced) keeps validity
    provided accumulators of equal index carry equal values – which the code does *not* check
    (`same_index_unchecked` shows the hypothesis cannot be dropped). `hok` is not needed: the
    other exits return the witness unchanged. -/
theorem ok_update_valid (pk : PublicKey) (w : Witness) (upd : Update)
    (hok : (w.update pk upd).1 = .ok) (hw : witnessValid pk w = true)
    (hsame : upd.sacc.index = w.sacc.index → w.sacc.time < upd.sacc.time →
      upd.sacc.nu = w.sacc.nu) :
    witnessValid pk (w.update pk upd).2.1 = true := by
  rcases update_witness_cases pk w upd with h | ⟨-, hs, he, -, ⟨h1, h2, hu⟩ | ⟨-, h⟩⟩
  · rw [h]; exact hw
  · rw [witnessValid_congr pk hu he (by rw [hs]; exact hsame h1 h2)]; exact hw
  · exact h

/-- Whenever `u` is changed, the new witness is valid against the accumulator of the update –
    even if the old one was not. `hok` is not needed: `u` changes on the recomputing `ok` exit
    only. -/
theorem changed_u_valid (pk : PublicKey) (w : Witness) (upd : Update)
    (hok : (w.update pk upd).1 = .ok) (hch : (w.update pk upd).2.1.u ≠ w.u) :
    witnessValid pk (w.update pk upd).2.1 = true := by
  rcases update_witness_cases pk w upd with h | ⟨-, -, -, -, ⟨-, -, hu⟩ | ⟨-, h⟩⟩
  · exact absurd (congrArg Witness.u h) hch
  · exact absurd hu hch
  · exact h

/-- **model behaviour outside the property's honest-issuer reading**: an issuer-signed accumulator
    with the same index, a later time and a *different* value is accepted with `ok`, and the
    witness, valid before the call, is invalid after it (`Witness.Update` returns nil without
    re-verifying).
    An honest issuer never signs two different values for one index. -/
theorem same_index_unchecked :
    witnessValid toyKey toyWitness = true ∧
    (toyWitness.update toyKey toyBadUpdate).1 = .ok ∧
    witnessValid toyKey (toyWitness.update toyKey toyBadUpdate).2.1 = false := by
  have h : toyWitness.update toyKey toyBadUpdate =
      (.ok, { toyWitness with sacc := toyBadUpdate.sacc }, toyBadUpdate) := by decide
  refine ⟨toy_tracks.valid, by rw [h], ?_⟩
  rw [h]
  show (goExp 60 13 77 == some 5) = false
  rw [goExp_nonneg 60 13 77 (by norm_num) (by norm_num)]; decide

/-! ### one update object, several witnesses -/

/-- **cache coherence**: on an object whose cache (if any) holds the true product for its cached
    start index, `productFrom` returns the true product for the requested start index and leaves
    an object with the same accumulator and events and, again, a coherent cache. -/
theorem cache_coherent (u : Update) (frm : Nat) (hc : CacheOk u) :
    (trueProduct u.events frm = none ∧ u.productFrom frm = none) ∨
    ∃ p u', trueProduct u.events frm = some p ∧ u.productFrom frm = some (p, u') ∧
      u'.sacc = u.sacc ∧ u'.events = u.events ∧ CacheOk u' := productFrom_coherent u frm hc

/-- An update object as it is received, without a cached product, is coherent. -/
theorem fresh_coherent (sacc : SAcc) (events : List Event) :
    CacheOk { sacc := sacc, events := events } := cacheOk_none _ rfl

/-- **shared update object**: with a coherent cache the result and the resulting witness are
    those obtained with a fresh copy of the object; the object handed back is coherent and has the
    same accumulator and events. -/
theorem shared_update_object (pk : PublicKey) (w : Witness) (upd : Update) (hc : CacheOk upd) :
    (w.update pk upd).1 = (w.update pk upd.fresh).1 ∧
    (w.update pk upd).2.1 = (w.update pk upd.fresh).2.1 ∧
    (w.update pk upd).2.2.sacc = upd.sacc ∧ (w.update pk upd).2.2.events = upd.events ∧
    CacheOk (w.update pk upd).2.2 :=
  have h := update_congr pk w (u1 := upd) (u2 := upd.fresh) rfl rfl
    (by rw [productFrom_value _ _ hc, productFrom_value _ _ (fresh_cacheOk upd)]; rfl)
  ⟨h.1, h.2, update_object pk w upd hc⟩

/-- Handing one update object with a coherent cache from witness to witness gives every witness
    the result and the new witness that a fresh copy of the object would have given it. -/
theorem shared_update_object_all (pk : PublicKey) (upd : Update) (hc : CacheOk upd)
    (ws : List Witness) :
    (updateAll pk upd ws).1 =
      ws.map (fun w => ((w.update pk upd.fresh).1, (w.update pk upd.fresh).2.1)) := by
  induction ws generalizing upd with
  | nil => rfl
  | cons w ws ih =>
    obtain ⟨h1, h2, h3, h4, h5⟩ := shared_update_object pk w upd hc
    simp only [updateAll, List.map_cons, List.cons.injEq, Prod.mk.injEq]
    refine ⟨⟨h1, h2⟩, ?_⟩
    rw [ih _ h5, fresh_eq_of h3 h4]

/-! ### the main induction: a non-revoked witness tracks the honest history -/

/-- The index machine `stepIdx` never decreases, and jumps exactly to the end of a newer
    connecting window. -/
theorem index_machine (idx : ℕ) (win : ℕ × ℕ) (wins : List (ℕ × ℕ)) :
    idx ≤ stepIdx idx win ∧ stepIdx idx win ≤ max idx win.2 ∧
    (idx < win.2 → win.1 ≤ idx + 1 → stepIdx idx win = win.2) ∧
    idx ≤ wins.foldl stepIdx idx :=
  ⟨le_stepIdx idx win, by unfold stepIdx; split <;> omega,
    fun h1 h2 => by unfold stepIdx; rw [if_pos ⟨h1, h2⟩], le_foldl_stepIdx wins idx⟩

/-- One honest update, any window `frm..hi`, any coherent cache state, applied to a valid witness
    for a value `e > 1` coprime to the values removed in `(idx, hi]`, standing at `idx`:
    * the witness ends valid at `stepIdx idx (frm, hi)` (`= hi` if the update is newer and
      connects, `= idx` otherwise);
    * the call returns `ok`, except when the update does not connect (`idx + 1 < frm`): then
      `err`, witness unchanged;
    * the update object remains an honest update for the same window. -/
theorem nonrevoked_step {pk : PublicKey} {N : ℕ} {ord : Int} {es : List Int} {nu : ℕ → Int}
    (H : Honest pk N ord es nu) {e : Int} (he : 1 < e) {w : Witness} {idx : ℕ}
    (T : TracksAt pk nu e w idx) {upd : Update} {frm hi : ℕ}
    (U : HonestUpdate pk es nu upd frm hi)
    (hcop : idx < hi → frm ≤ idx + 1 → ∀ x ∈ (es.drop idx).take (hi - idx), Int.gcd e x = 1) :
    TracksAt pk nu e (w.update pk upd).2.1 (stepIdx idx (frm, hi)) ∧
    HonestUpdate pk es nu (w.update pk upd).2.2 frm hi ∧
    ((w.update pk upd).1 = .ok ∨
      ((w.update pk upd).1 = .err ∧ idx + 1 < frm ∧ idx < hi ∧ (w.update pk upd).2.1 = w)) := by
  have hC : Connects pk w upd ↔ idx < hi ∧ frm ≤ idx + 1 := U.connects_iff T.index
  suffices h : TracksAt pk nu e (w.update pk upd).2.1 (stepIdx idx (frm, hi)) ∧
      ((w.update pk upd).1 = .ok ∨ ((w.update pk upd).1 = .err ∧ idx + 1 < frm ∧ idx < hi ∧
        (w.update pk upd).2.1 = w)) from ⟨h.1, U.update w, h.2⟩
  by_cases hc : idx < hi ∧ frm ≤ idx + 1
  · obtain ⟨upd', hp⟩ := U.productFrom hc.2 hc.1
    obtain ⟨u', hadv, hchk⟩ := honest_core H he (hcop hc.1 hc.2) T hc.1 U.hi_le U.nu
    rw [update_of_connects (hC.mpr hc), T.index, hp, stepIdx, if_pos hc]
    dsimp only
    rw [hadv]
    exact ⟨⟨U.index, U.nu, T.e, beq_iff_eq.mpr hchk⟩, Or.inl rfl⟩
  · have C := mt hC.mp hc
    rw [stepIdx, if_neg hc]
    refine ⟨T.update_of_not_connects U C, ?_⟩
    by_cases h : idx < hi
    · have herr : (w.update pk upd).1 = .err := by
        rw [update_of_not_connects C, U.index, T.index]
        exact if_pos fun _ => ⟨h, U.events_ne_nil⟩
      exact Or.inr ⟨herr, by omega, h, update_of_ne_ok (by rw [herr]; nofun)⟩
    · rw [update_of_not_connects C, U.index, T.index]
      exact Or.inl (if_neg fun h' => h (h' U.verified).1)

/-- **non-revoked witnesses track the history.** Honest history (`Honest`: modulus, an exponent
    annihilating `ν₀`, positive removed values `es`, accumulators produced by
    `Accumulator.Remove`), a witness for a value `e > 1` coprime to all removed values, valid at
    index `idx`. After *any* list of honest update messages – any windows, any order, repeated,
    overlapping – the witness is valid against the accumulator of the index computed by the index
    machine `stepIdx` (see `index_machine`: it never decreases and jumps exactly to the end of a
    newer connecting window). -/
theorem nonrevoked_tracks {pk : PublicKey} {N : ℕ} {ord : Int} {es : List Int} {nu : ℕ → Int}
    (H : Honest pk N ord es nu) {e : Int} (he : 1 < e) (hcop : ∀ x ∈ es, Int.gcd e x = 1)
    (ups : List (Update × ℕ × ℕ)) (hU : ∀ x ∈ ups, HonestUpdate pk es nu x.1 x.2.1 x.2.2)
    {w : Witness} {idx : ℕ} (T : TracksAt pk nu e w idx) :
    TracksAt pk nu e (applyAll pk w (ups.map (·.1))) ((ups.map (·.2)).foldl stepIdx idx) := by
  induction ups generalizing w idx with
  | nil => exact T
  | cons a t ih =>
    simp only [List.map_cons, applyAll, List.foldl_cons]
    exact ih (fun x hx => hU x (List.mem_cons_of_mem _ hx))
      (nonrevoked_step H he T (hU a (by simp))
        (fun _ _ x hx => hcop x (mem_of_mem_window hx))).1

/-- One honest update object handed to several witnesses (each for its own value, at its own
    index, the cache being filled and replaced along the way): every one ends valid where the
    index machine says. -/
theorem nonrevoked_shared {pk : PublicKey} {N : ℕ} {ord : Int} {es : List Int} {nu : ℕ → Int}
    (H : Honest pk N ord es nu) {frm hi : ℕ} (ws : List (Witness × ℕ))
    (hT : ∀ x ∈ ws, 1 < x.1.e ∧ (∀ y ∈ es, Int.gcd x.1.e y = 1) ∧ TracksAt pk nu x.1.e x.1 x.2)
    {upd : Update} (U : HonestUpdate pk es nu upd frm hi) :
    List.Forall₂ (fun (x : Witness × ℕ) (r : UpdateResult × Witness) =>
        TracksAt pk nu x.1.e r.2 (stepIdx x.2 (frm, hi)))
      ws (updateAll pk upd (ws.map (·.1))).1 := by
  induction ws generalizing upd with
  | nil => exact List.Forall₂.nil
  | cons a t ih =>
    obtain ⟨he, hcop, T⟩ := hT a (by simp)
    obtain ⟨h1, h2, -⟩ := nonrevoked_step H he T U
      (fun _ _ x hx => hcop x (mem_of_mem_window hx))
    simp only [List.map_cons, updateAll]
    exact List.Forall₂.cons h1 (ih (fun x hx => hT x (List.mem_cons_of_mem _ hx)) h2)

/-! ### a revoked witness never gets past its removal -/

/-- The value `e = es[k]` is removed by event `k+1` and is coprime to the values removed before;
    its witness stands at `idx ≤ k`. Any honest update leaves it valid for the accumulator it
    stands at, at an index `≤ k` (`stepIdxRemoved`), and every connecting update that reaches
    beyond `k` is answered with `revoked`. -/
theorem revoked_step {pk : PublicKey} {N : ℕ} {ord : Int} {es : List Int} {nu : ℕ → Int}
    (H : Honest pk N ord es nu) {e : Int} (he : 1 < e) {k : ℕ} (hk : k < es.length)
    (hek : es[k] = e) (hcop : ∀ j, ∀ hj : j < es.length, j < k → Int.gcd e es[j] = 1)
    {w : Witness} {idx : ℕ} (hidx : idx ≤ k) (T : TracksAt pk nu e w idx)
    {upd : Update} {frm hi : ℕ} (U : HonestUpdate pk es nu upd frm hi) :
    TracksAt pk nu e (w.update pk upd).2.1 (stepIdxRemoved k idx (frm, hi)) ∧
    HonestUpdate pk es nu (w.update pk upd).2.2 frm hi ∧
    (k < hi → frm ≤ idx + 1 → (w.update pk upd).1 = .revoked) := by
  by_cases hhi : hi ≤ k
  · obtain ⟨h1, h2, -⟩ := nonrevoked_step H he T U (by
      intro _ _ x hx
      obtain ⟨j, hj, _, _, rfl⟩ := mem_window_iff.mp hx
      exact hcop j hj (by omega))
    exact ⟨by rw [stepIdxRemoved, if_pos hhi]; exact h1, h2, fun h => by omega⟩
  rw [stepIdxRemoved, if_neg hhi]
  have hTi := T.index
  by_cases hc : frm ≤ idx + 1
  · have hTe := T.e
    obtain ⟨upd', hr⟩ := revoked_by_honest_update (w := w) H.es_pos (hTe ▸ he) U (hTi ▸ hc)
      (by rw [hTi]; omega)
      (by rw [hTi, hTe]; exact mem_window_iff.mpr ⟨k, hk, hidx, by omega, hek⟩)
    exact ⟨by rw [hr]; exact T, U.update w, fun _ _ => by rw [hr]⟩
  · exact ⟨T.update_of_not_connects U fun C => hc ((U.connects_iff hTi).mp C).2, U.update w,
      fun _ h => absurd h hc⟩

/-- **never again**: after any list of honest updates the witness of a removed value still
    carries an accumulator of index `≤ k`, i.e. one that still contains its value; `Witness.update`
    never attaches it to an accumulator from which its value was removed. (That no *other*
    procedure can produce such a witness is the strong-RSA assumption, outside this model.) -/
theorem revoked_never_passes {pk : PublicKey} {N : ℕ} {ord : Int} {es : List Int} {nu : ℕ → Int}
    (H : Honest pk N ord es nu) {e : Int} (he : 1 < e) {k : ℕ} (hk : k < es.length)
    (hek : es[k] = e) (hcop : ∀ j, ∀ hj : j < es.length, j < k → Int.gcd e es[j] = 1)
    (ups : List (Update × ℕ × ℕ)) (hU : ∀ x ∈ ups, HonestUpdate pk es nu x.1 x.2.1 x.2.2)
    {w : Witness} {idx : ℕ} (hidx : idx ≤ k) (T : TracksAt pk nu e w idx) :
    ∃ idx', idx ≤ idx' ∧ idx' ≤ k ∧ TracksAt pk nu e (applyAll pk w (ups.map (·.1))) idx' := by
  induction ups generalizing w idx with
  | nil => exact ⟨idx, Nat.le_refl _, hidx, T⟩
  | cons a t ih =>
    simp only [List.map_cons, applyAll]
    obtain ⟨h1, -, -⟩ := revoked_step H he hk hek hcop hidx T (hU a (by simp))
    obtain ⟨i', a1, a2, a3⟩ := ih (fun x hx => hU x (List.mem_cons_of_mem _ hx))
      (stepIdxRemoved_le hidx _) h1
    exact ⟨i', Nat.le_trans (le_stepIdxRemoved k idx _) a1, a2, a3⟩

/-! ### non-vacuity: a concrete history satisfying the hypotheses
  `n = 77`, `ord = 15`, `ν₀ = 4`, removed values 7 then 11 (`ν₁ = 53`, `ν₂ = 9`), a witness
  `u = 60` for `e = 13` issued at index 0, the update message for events 1..2. -/

example : Honest toyKey 77 15 [7, 11] toyNu := toy_honest
example : TracksAt toyKey toyNu 13 toyWitness 0 := toy_tracks
example : HonestUpdate toyKey [7, 11] toyNu toyUpdate 1 2 := toy_update
example : CacheOk toyUpdate := toy_update.cache

/-- the toy witness, given the toy update, is valid at index 2 (instance of `nonrevoked_step`). -/
example : TracksAt toyKey toyNu 13 (toyWitness.update toyKey toyUpdate).2.1 2 :=
  (nonrevoked_step toy_honest (by norm_num) toy_tracks toy_update
    (fun _ _ x hx => by
      have : x = 7 ∨ x = 11 := by simpa using hx
      rcases this with rfl | rfl <;> decide)).1

/-- a Bezout pair exists for the toy value 13 and the toy window `7·11`. -/
example : ∃ a b : ℤ, a * 13 + b * window [7, 11] 0 2 = 1 :=
  bezout_exists (e := 13) (es := [7, 11]) (fun x hx => by
    have : x = 7 ∨ x = 11 := by simpa using hx
    rcases this with rfl | rfl <;> exact Int.isCoprime_iff_gcd_eq_one.mpr (by decide)) 0 2

end Gabi.C09

#print axioms Gabi.C09.update_algebra
#print axioms Gabi.C09.update_algebra_indep
#print axioms Gabi.C09.accumulator_chain
#print axioms Gabi.C09.revoked_no_bezout
#print axioms Gabi.C09.revoked_reported
#print axioms Gabi.C09.revoked_by_honest_update
#print axioms Gabi.C09.failed_update_is_identity
#print axioms Gabi.C09.changed_only_if_newer
#print axioms Gabi.C09.update_never_backwards
#print axioms Gabi.C09.ok_update_valid
#print axioms Gabi.C09.changed_u_valid
#print axioms Gabi.C09.same_index_unchecked
#print axioms Gabi.C09.cache_coherent
#print axioms Gabi.C09.shared_update_object
#print axioms Gabi.C09.shared_update_object_all
#print axioms Gabi.C09.nonrevoked_step
#print axioms Gabi.C09.nonrevoked_tracks
#print axioms Gabi.C09.nonrevoked_shared
#print axioms Gabi.C09.revoked_step
#print axioms Gabi.C09.revoked_never_passes
