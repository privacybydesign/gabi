/-
  C06 (end to end) — **an honest run of the issuance protocol ends with a valid credential.**

  For any attribute list, any set of random-blind attributes, with or without a keyshare
  contribution: the holder commits (`U`, `ProofU`), the issuer signs `U` together with its block
  (`0` for the secret, its own shares at the random-blind positions) and proves `ProofS`, the
  holder runs `ConstructCredential` — and owns a credential whose signature `(A, e, v'' + v')`
  verifies over exactly `(secret, attributes)`, each random-blind attribute being the sum of the
  two parties' shares.  Also: the decision logic of `ConstructCredential` (every failed check is a
  rejection, never a credential) and when it can panic.

  Helper lemmas: `GabiProofs.IssuanceE2E` (the share loop `blindLoop` and the tail `constructTail`
  of `CredBuilder.construct` as plain functions, the two blocks `issuerMsgs` / `holderMsgs`, the
  relation `SharesCombine` between them, the hypotheses `HonestShares` of an honest run).
-/
import GabiProps.C06
import GabiProofs.IssuanceE2E
namespace Gabi.C06
open Gabi

/-! ### decision logic of `ConstructCredential` -/

/-- A message without `ProofS` or without signature is rejected. -/
theorem construct_rejects_incomplete (pk : PublicKey) (b : CredBuilder) (proofS : Option ProofS)
    (sig : Option CLSignature) (mIssuer : List (Int × Option Int)) (attributes : List (Option Int))
    (w : Option MsgWitness) (h : proofS = none ∨ sig = none) :
    b.construct pk proofS sig mIssuer attributes w = .ok (.rejected "incomplete") := by
  rcases h with rfl | rfl
  · rfl
  · cases proofS <;> rfl

/-- A `ProofS` that does not verify is rejected (before anything else is looked at). -/
theorem construct_rejects_proofS (pk : PublicKey) (b : CredBuilder) (ps : ProofS) (sg : CLSignature)
    (mIssuer : List (Int × Option Int)) (attributes : List (Option Int)) (w : Option MsgWitness)
    (h : ps.verify pk sg b.context b.nonce2 = .ok false) :
    b.construct pk (some ps) (some sg) mIssuer attributes w = .ok (.rejected "proofS") := by
  rw [construct_eq, h]; rfl

/-- If the issuer's share for one random-blind index is missing (absent from the map, or a nil
    entry), the result is a rejection.  `hps`: `ProofS.Verify` did not panic (it panics only on a
    negative exponent with a non-invertible `A`). -/
theorem construct_rejects_missing_share (pk : PublicKey) (b : CredBuilder) (ps : ProofS)
    (sg : CLSignature) (mIssuer : List (Int × Option Int)) (attributes : List (Option Int))
    (w : Option MsgWitness) (okS : Bool)
    (hps : ps.verify pk sg b.context b.nonce2 = .ok okS)
    (h : ∃ kv ∈ b.mUser, (mIssuer.lookup kv.1).join = none) :
    ∃ why, b.construct pk (some ps) (some sg) mIssuer attributes w = .ok (.rejected why) := by
  obtain ⟨kv, hm, hkv⟩ := h
  obtain ⟨why, hb⟩ := blindLoop_error_of mIssuer b.mUser (some b.secret :: attributes)
    (Nat.succ_pos _) ⟨kv, hm, .inr (.inr hkv)⟩
  exact construct_of_blindLoop_error pk b ps sg mIssuer attributes w okS why hps hb

/-- If a random-blind position of `secret :: attributes` is not nil — an attribute value was
    supplied at a blind index `i ≥ 1` (position `i - 1` of `attributes`), or the index is `≤ 0`
    (the secret's position) — the result is a rejection. -/
theorem construct_rejects_blind_not_nil (pk : PublicKey) (b : CredBuilder) (ps : ProofS)
    (sg : CLSignature) (mIssuer : List (Int × Option Int)) (attributes : List (Option Int))
    (w : Option MsgWitness) (okS : Bool)
    (hps : ps.verify pk sg b.context b.nonce2 = .ok okS)
    (h : ∃ kv ∈ b.mUser, kv.1 ≤ 0 ∨ ∃ a, attributes[kv.1.toNat - 1]? = some (some a)) :
    ∃ why, b.construct pk (some ps) (some sg) mIssuer attributes w = .ok (.rejected why) := by
  obtain ⟨kv, hm, hkv⟩ := h
  have hsome : ((some b.secret :: attributes)[kv.1.toNat]?).join.isSome = true := by
    by_cases h0 : kv.1 ≤ 0
    · have : kv.1.toNat = 0 := by omega
      rw [this]; rfl
    · rcases hkv with h' | ⟨a, ha⟩
      · exact absurd h' h0
      · rw [getElem?_cons_toNat _ _ (by omega), ha]; rfl
  obtain ⟨why, hb⟩ := blindLoop_error_of mIssuer b.mUser (some b.secret :: attributes)
    (Nat.succ_pos _) ⟨kv, hm, .inr (.inl hsome)⟩
  exact construct_of_blindLoop_error pk b ps sg mIssuer attributes w okS why hps hb

/-- A random-blind index beyond the end of `secret :: attributes` is rejected. -/
theorem construct_rejects_too_few (pk : PublicKey) (b : CredBuilder) (ps : ProofS)
    (sg : CLSignature) (mIssuer : List (Int × Option Int)) (attributes : List (Option Int))
    (w : Option MsgWitness) (okS : Bool)
    (hps : ps.verify pk sg b.context b.nonce2 = .ok okS)
    (h : ∃ kv ∈ b.mUser, kv.1 > attributes.length) :
    ∃ why, b.construct pk (some ps) (some sg) mIssuer attributes w = .ok (.rejected why) := by
  obtain ⟨kv, hm, hkv⟩ := h
  obtain ⟨why, hb⟩ := blindLoop_error_of mIssuer b.mUser (some b.secret :: attributes)
    (Nat.succ_pos _) ⟨kv, hm, .inl (by rw [List.length_cons]; push_cast; omega)⟩
  exact construct_of_blindLoop_error pk b ps sg mIssuer attributes w okS why hps hb

/-- **A credential is returned only if every check passed**: both parts present, `ProofS`
    verified, the share loop succeeded (`blindLoop`: every blind index in range, nil before, with
    an issuer share), no nil attribute left, the final signature `(A, e, v'' + v')` with the
    builder's `KeyshareP` verifies over the returned attributes, and a witness — if present —
    verified and its value is one of the attributes.  Whatever the inputs (also when
    `ProofS.Verify` would panic), nothing else yields a credential. -/
theorem construct_credential_only_if (pk : PublicKey) (b : CredBuilder) (proofS : Option ProofS)
    (sig : Option CLSignature) (mIssuer : List (Int × Option Int)) (attributes : List (Option Int))
    (w : Option MsgWitness) (s : CLSignature) (vals : List Int)
    (h : b.construct pk proofS sig mIssuer attributes w = .ok (.credential s vals)) :
    ∃ ps sg ms, proofS = some ps ∧ sig = some sg ∧
      ps.verify pk sg b.context b.nonce2 = .ok true ∧
      s = { a := sg.a, e := sg.e, v := sg.v + b.vPrime, keyshareP := b.keyshareP } ∧
      blindLoop mIssuer b.mUser (some b.secret :: attributes) = .ok ms ∧
      ms.mapM (deref "attribute") = .ok vals ∧ clVerify pk s vals = .ok true ∧
      ∀ w', w = some w' → w'.verify pk = true ∧ vals.contains (w'.e.getD 0) = true := by
  cases proofS with
  | none => cases h
  | some ps =>
  cases sig with
  | none => cases h
  | some sg =>
    rw [construct_eq] at h
    cases hp : ps.verify pk sg b.context b.nonce2 with
    | error e => rw [hp] at h; cases h
    | ok ok =>
      rw [hp] at h
      cases ok with
      | false => cases h
      | true =>
        simp only [bind, Except.bind, Bool.not_true, Bool.false_eq_true, if_false] at h
        cases hb : blindLoop mIssuer b.mUser (some b.secret :: attributes) with
        | error why => rw [hb] at h; cases h
        | ok ms =>
          rw [hb] at h
          obtain ⟨rfl, h1, h2, h3⟩ := constructTail_credential _ _ _ _ _ _ h
          exact ⟨ps, sg, ms, rfl, rfl, hp, rfl, rfl, h1, h2, h3⟩

/-- **The credential that is returned verifies** — a final signature that does not verify never
    becomes a credential. -/
theorem construct_credential_verifies (pk : PublicKey) (b : CredBuilder) (proofS : Option ProofS)
    (sig : Option CLSignature) (mIssuer : List (Int × Option Int)) (attributes : List (Option Int))
    (w : Option MsgWitness) (s : CLSignature) (vals : List Int)
    (h : b.construct pk proofS sig mIssuer attributes w = .ok (.credential s vals)) :
    clVerify pk s vals = .ok true := by
  obtain ⟨_, _, _, _, _, _, _, _, _, hv, _⟩ :=
    construct_credential_only_if pk b proofS sig mIssuer attributes w s vals h
  exact hv

/-- Exact form of `construct_credential_verifies`: after a verified `ProofS` and a successful share
    loop leaving the values `vals`, a final signature with `Verify = false` is rejected. -/
theorem construct_rejects_signature (pk : PublicKey) (b : CredBuilder) (ps : ProofS)
    (sg : CLSignature) (mIssuer : List (Int × Option Int)) (attributes : List (Option Int))
    (w : Option MsgWitness) (ms : List (Option Int)) (vals : List Int)
    (hps : ps.verify pk sg b.context b.nonce2 = .ok true)
    (hb : blindLoop mIssuer b.mUser (some b.secret :: attributes) = .ok ms)
    (hm : ms.mapM (deref "attribute") = .ok vals)
    (hv : clVerify pk { a := sg.a, e := sg.e, v := sg.v + b.vPrime, keyshareP := b.keyshareP } vals =
      .ok false) :
    ∃ why, b.construct pk (some ps) (some sg) mIssuer attributes w = .ok (.rejected why) := by
  rw [construct_of_blindLoop_ok pk b ps sg mIssuer attributes w ms hps hb,
    constructTail_eq pk _ w ms vals false hm hv]
  split
  · exact ⟨_, rfl⟩
  · exact ⟨_, rfl⟩

/-- A witness that does not verify (`Witness.Verify`: incomplete, or `u^e ≠ ν`) is a rejection. -/
theorem construct_rejects_witness (pk : PublicKey) (b : CredBuilder) (ps : ProofS)
    (sg : CLSignature) (mIssuer : List (Int × Option Int)) (attributes : List (Option Int))
    (w : MsgWitness) (okS : Bool)
    (hps : ps.verify pk sg b.context b.nonce2 = .ok okS) (hw : w.verify pk = false) :
    ∃ why, b.construct pk (some ps) (some sg) mIssuer attributes (some w) = .ok (.rejected why) := by
  cases hb : blindLoop mIssuer b.mUser (some b.secret :: attributes) with
  | error why => exact construct_of_blindLoop_error pk b ps sg mIssuer attributes _ okS why hps hb
  | ok ms =>
    cases okS with
    | false => rw [construct_eq, hps]; exact ⟨_, rfl⟩
    | true =>
      rw [construct_of_blindLoop_ok pk b ps sg mIssuer attributes _ ms hps hb, constructTail_some, hw]
      exact ⟨_, rfl⟩

/-- A witness whose value `e` is not one of the final attributes never yields a credential
    (`NonrevIndex` fails). -/
theorem construct_rejects_revocation_attribute (pk : PublicKey) (b : CredBuilder)
    (proofS : Option ProofS) (sig : Option CLSignature) (mIssuer : List (Int × Option Int))
    (attributes : List (Option Int)) (w : MsgWitness) (s : CLSignature) (vals : List Int)
    (h : b.construct pk proofS sig mIssuer attributes (some w) = .ok (.credential s vals)) :
    w.verify pk = true ∧ vals.contains (w.e.getD 0) = true := by
  obtain ⟨_, _, _, _, _, _, _, _, _, _, hw⟩ :=
    construct_credential_only_if pk b proofS sig mIssuer attributes (some w) s vals h
  exact hw w rfl

/-- Exact form of `construct_rejects_revocation_attribute`: with a witness that verifies, after a
    verified `ProofS`, a successful share loop leaving `vals` and a verifying final signature, a
    witness value that is not among `vals` is rejected. -/
theorem construct_rejects_revocation_attribute' (pk : PublicKey) (b : CredBuilder) (ps : ProofS)
    (sg : CLSignature) (mIssuer : List (Int × Option Int)) (attributes : List (Option Int))
    (w : MsgWitness) (ms : List (Option Int)) (vals : List Int)
    (hps : ps.verify pk sg b.context b.nonce2 = .ok true)
    (hb : blindLoop mIssuer b.mUser (some b.secret :: attributes) = .ok ms)
    (hm : ms.mapM (deref "attribute") = .ok vals)
    (hv : clVerify pk { a := sg.a, e := sg.e, v := sg.v + b.vPrime, keyshareP := b.keyshareP } vals =
      .ok true)
    (hw : w.verify pk = true) (hc : vals.contains (w.e.getD 0) = false) :
    b.construct pk (some ps) (some sg) mIssuer attributes (some w) =
      .ok (.rejected "revocation attribute") := by
  rw [construct_of_blindLoop_ok pk b ps sg mIssuer attributes _ ms hps hb,
    constructTail_eq pk _ (some w) ms vals true hm hv]
  simp only [Option.any_some, hw, hc]
  rfl

/-- **`ConstructCredential` does not panic** — it returns a credential or a rejection, for every
    `MIssuer` map and every witness — provided
    (1) `ProofS.Verify` does not panic (`hps`; it panics only when `A` is not invertible and an
        exponent `c + ê·e` or `e` is negative),
    (2) every nil entry of `attributes` is one of the builder's random-blind indices (`hnil`),
    (3) there are at most as many messages as bases (`hlen`),
    (4) the modulus is `> 1` and the bases `R_i` are invertible (`hn`, `hr`; needed only for
        negative attribute values).
    Without (2) it *does* panic (nil dereference of the attribute in `RepresentToBases` /
    here `deref "attribute"`), see `construct_panics_on_nil_attribute`: `attributes` is caller
    input, not attacker input. -/
theorem construct_total (pk : PublicKey) (b : CredBuilder) (ps : ProofS) (sg : CLSignature)
    (mIssuer : List (Int × Option Int)) (attributes : List (Option Int)) (w : Option MsgWitness)
    (okS : Bool) (hn : 1 < pk.n) (hr : ∀ x ∈ pk.r, Int.gcd x pk.n = 1)
    (hps : ps.verify pk sg b.context b.nonce2 = .ok okS)
    (hnil : ∀ j : Nat, attributes[j]? = some none → ∃ kv ∈ b.mUser, kv.1 = (j : Int) + 1)
    (hlen : attributes.length + 1 ≤ pk.r.length) :
    ∃ r, b.construct pk (some ps) (some sg) mIssuer attributes w = .ok r := by
  obtain ⟨n, hN, hn'⟩ := exists_nat_modulus hn
  rw [hN] at hr
  have hr : ∀ x ∈ pk.r, IsUnit (x : ZMod n) := fun x hx => (isUnit_iff_gcd _).mpr (hr x hx)
  cases hb : blindLoop mIssuer b.mUser (some b.secret :: attributes) with
  | error why =>
    obtain ⟨why', h⟩ := construct_of_blindLoop_error pk b ps sg mIssuer attributes w okS why hps hb
    exact ⟨_, h⟩
  | ok ms =>
    cases okS with
    | false =>
      rw [construct_eq, hps]; exact ⟨_, rfl⟩
    | true =>
      rw [construct_of_blindLoop_ok pk b ps sg mIssuer attributes w ms hps hb]
      have hall := blindLoop_all_some mIssuer b.mUser b.secret attributes ms hnil hb
      have hl : ms.length = attributes.length + 1 := by
        obtain ⟨_, _, rfl⟩ := (blindLoop_eq_ok_iff mIssuer b.mUser (some b.secret :: attributes) ms
          (Nat.succ_pos _)).mp hb
        exact length_foldl_set _ _ _ _
      obtain ⟨ok, hv⟩ := clVerifyWith_total probablyPrime pk
        { a := sg.a, e := sg.e, v := sg.v + b.vPrime, keyshareP := b.keyshareP }
        (ms.map (·.getD 0)) hN hn' hr (by rw [List.length_map, hl]; exact hlen)
      exact ⟨_, constructTail_eq pk _ w ms _ ok (mapM_deref_ok _ ms hall) hv⟩

/-- `ProofS.Verify` does not panic when `A` is invertible modulo `n` (hypothesis (1) of
    `construct_total`). -/
theorem proofS_verify_total (pk : PublicKey) (ps : ProofS) (sg : CLSignature) (ctx nonce : Int)
    (hn : 1 < pk.n) (ha : Int.gcd sg.a pk.n = 1) :
    ∃ ok, ps.verify pk sg ctx nonce = .ok ok := by
  obtain ⟨n, hN, hn'⟩ := exists_nat_modulus hn
  rw [hN] at ha
  obtain ⟨x, hx, _⟩ := goExp_coprime hn' ha (ps.c + ps.eResponse * sg.e)
  obtain ⟨q, hq, _⟩ := goExp_coprime hn' ha sg.e
  rw [← hN] at hx hq
  exact ⟨_, proofS_verify_eq pk ps sg ctx nonce hx hq⟩

/-- the panic of `construct_total` without hypothesis (2): a nil attribute at a position that is
    not random-blind is dereferenced once `ProofS` verified and the share loop went through. -/
theorem construct_panics_on_nil_attribute (pk : PublicKey) (b : CredBuilder) (ps : ProofS)
    (sg : CLSignature) (mIssuer : List (Int × Option Int)) (attributes : List (Option Int))
    (ms : List (Option Int))
    (hps : ps.verify pk sg b.context b.nonce2 = .ok true)
    (hb : blindLoop mIssuer b.mUser (some b.secret :: attributes) = .ok ms)
    (j : ℕ) (hj : attributes[j]? = some none) (hne : ∀ kv ∈ b.mUser, kv.1 ≠ (j : Int) + 1) :
    b.construct pk (some ps) (some sg) mIssuer attributes none = .error (.nilDeref "attribute") := by
  have : ms[j + 1]? = some none := by
    rw [((blindLoop_eq_ok_iff mIssuer b.mUser (some b.secret :: attributes) ms
        (Nat.succ_pos _)).mp hb).2.2,
      getElem?_foldl_set_of_ne _ _ _ _ _ (fun kv hm => by have := hne kv hm; omega),
      List.getElem?_cons_succ, hj]
  rw [construct_of_blindLoop_ok pk b ps sg mIssuer attributes none ms hps hb, constructTail_none,
    mapM_deref_error "attribute" ms (List.mem_of_getElem? this)]
  rfl

/-! ### the issuer signs the commitment, the holder's signature verifies -/

/-- **What the issuer signs on the user's commitment verifies for the holder**
    (the counterpart, for a signature on a user commitment, of `C05.sign_verifies`, where the
    issuer signs with `U = 1`).

    `U = userCommitment pk secret v' mUser keyshareP = S^{v'} · R_0^{secret} · ∏ R_i^{mUser_i} (· P)`.
    The issuer signs `U` and the block `msI`, the holder checks
    `(A, e, v'' + v')` (with `KeyshareP`) over the block `msH`, where
    `SharesCombine Lm secret mUser msI msH` says: same length; `msI[0] = 0`, `msH[0] = secret`,
    `0 ≤ secret < 2^Lm`; the random-blind indices (keys of `mUser`) are distinct and in
    `[1, len)`; at such an index `msI[i] = mIssuer_i`, `msH[i] = mIssuer_i + mUser_i` with
    `0 ≤ mIssuer_i, mUser_i < 2^(Lm-1)`; all other positions agree.  The size conditions make
    sure that `RepresentToBases` hashes none of `secret`, `mIssuer_i`, `mIssuer_i + mUser_i`
    (`attrExp` is the identity on them) — the user's commitment uses the raw exponents; at
    the non-blind positions both sides apply the same `attrExp`, whatever the value.
    `hP`: the keyshare contribution lies in the subgroup (`P = R_0^{ks}`).
    Also returned: `A^order ≡ 1`, which is what `proofS_complete` needs. -/
theorem sign_commitment_verifies (isPrime : Nat → Bool) (pk : PublicKey) (order : Int)
    (secret vPrime : Int) (mUser : List (Int × Int)) (keyshareP : Option Int) (U : Int)
    (msI msH : List Int) (v e : Int) (sig : CLSignature)
    (hk : pk.InGroup order)
    (hP : ∀ p, keyshareP = some p → goExp p order pk.n = some 1)
    (hU : userCommitment pk secret vPrime mUser keyshareP = .ok U)
    (hsh : SharesCombine pk.params.Lm secret mUser msI msH)
    (hlen : msH.length ≤ pk.r.length)
    (hint : eInInterval pk.params e = true) (hprime : isPrime e.toNat = true)
    (h : clSignWith pk order U msI v e = some sig) :
    clVerifyWith isPrime pk
        { a := sig.a, e := sig.e, v := sig.v + vPrime, keyshareP := keyshareP } msH = .ok true ∧
      goExp sig.a order pk.n = some 1 := by
  obtain ⟨n, hN, hn, -, hu, ⟨hs, oS⟩, ⟨hz, oZ⟩, hr⟩ := hk.units
  have hpu : ∀ p, keyshareP = some p → IsUnit (p : ZMod n) := fun p hp => (hu p (hP p hp)).1
  have oK : keyshareU n keyshareP ^ order = 1 := by
    cases keyshareP with
    | none => exact one_zpow _
    | some p => exact (hu p (hP p rfl)).2
  have hr0 : pk.r ≠ [] := List.ne_nil_of_length_pos (hsh.length_pos.trans_le hlen)
  have hkeys := hsh.keys_lt hlen
  obtain ⟨U', hU', _, _, Uc⟩ := userCommitment_spec_ks pk secret vPrime mUser keyshareP hN hn hs
    (fun b hb => (hr b hb).1) hr0 hkeys hpu
  obtain rfl := Except.ok.inj (hU.symm.trans hU')
  obtain ⟨he, hv, hA, oA, heq⟩ := clSignWith_unit pk order U msI v e hN hn hz oZ hs oS hr Uc
    (userCommitment_unit_zpow pk secret vPrime mUser keyshareP oS (fun b hb => (hr b hb).2) oK hr0
      hkeys) (by rw [hsh.len]; exact hlen) hk.order_gt h
  refine ⟨?_, by rw [hN]; exact goExp_eq_one_of_zunit hn hA oA⟩
  obtain ⟨bb, hb1, hb2⟩ := clVerifyWith_iff isPrime pk
    { a := sig.a, e := sig.e, v := sig.v + vPrime, keyshareP := keyshareP } msH hN hn hk.z_nonneg
    hk.z_lt hz hs (fun b hb => (hr b hb).1) hA hpu hlen
    (by rw [he]; exact hint) (by rw [he]; exact hprime)
  rw [hb1, hb2.mpr]
  refine ⟨hsh.any_negOversized (clSignWith_some_guard h), ?_⟩
  simp only
  rw [he, hv, repU_shares pk.params.Lm pk.r secret mUser msI msH hsh hlen]
  exact Alg.issuance_algebra heq

/-- `sign_commitment_verifies` for the two blocks of the protocol: `issuerMsgs attributes mIssuer`
    is `0 :: attributes` with the issuer's shares at the nil positions
    (`signCommitmentAndAttributes`), `holderMsgs secret attributes mIssuer mUser` is
    `secret :: attributes` with the sums of the shares there.  `HonestShares`: `attributes` is nil
    exactly at the (distinct) keys of `mUser`, which lie in `[1, len]`, and all shares are in
    `[0, 2^(Lm-1))`. -/
theorem sign_commitment_verifies_msgs (isPrime : Nat → Bool) (pk : PublicKey) (order : Int)
    (secret vPrime : Int) (mUser : List (Int × Int)) (keyshareP : Option Int) (U : Int)
    (attributes : List (Option Int)) (mIssuer : List (Int × Option Int)) (v e : Int)
    (sig : CLSignature) (hk : pk.InGroup order)
    (hP : ∀ p, keyshareP = some p → goExp p order pk.n = some 1)
    (hU : userCommitment pk secret vPrime mUser keyshareP = .ok U)
    (hs0 : 0 ≤ secret) (hs1 : secret < 2 ^ pk.params.Lm)
    (hh : HonestShares pk.params.Lm attributes mIssuer mUser)
    (hlen : attributes.length + 1 ≤ pk.r.length)
    (hint : eInInterval pk.params e = true) (hprime : isPrime e.toNat = true)
    (h : clSignWith pk order U (issuerMsgs attributes mIssuer) v e = some sig) :
    clVerifyWith isPrime pk { a := sig.a, e := sig.e, v := sig.v + vPrime, keyshareP := keyshareP }
        (holderMsgs secret attributes mIssuer mUser) = .ok true :=
  (sign_commitment_verifies isPrime pk order secret vPrime mUser keyshareP U _ _ v e sig hk hP hU
    (sharesCombine_msgs pk.params.Lm secret attributes mIssuer mUser hs0 hs1 hh)
    (by rw [holderMsgs_length]; exact hlen) hint hprime h).1

/-- the issuer's signing computation on the commitment succeeds when `e` is invertible modulo
    `order` (so the hypothesis `clSignWith … = some sig` of the theorems here is satisfiable).
    `hneg`: no message of the block is negative and longer than `Lm` bits — for such a message
    `RepresentToPublicKey` returns its error and nothing is signed (`clSignWith_of_negOversized`);
    non-negative messages satisfy it. -/
theorem sign_commitment_succeeds (pk : PublicKey) (order : Int) (secret vPrime : Int)
    (mUser : List (Int × Int)) (keyshareP : Option Int) (U : Int) (ms : List Int) (v e : Int)
    (hk : pk.InGroup order)
    (hP : ∀ p, keyshareP = some p → goExp p order pk.n = some 1)
    (hU : userCommitment pk secret vPrime mUser keyshareP = .ok U)
    (hkeys : ∀ kv ∈ mUser, 0 ≤ kv.1 ∧ kv.1 < pk.r.length)
    (hlen : ms.length ≤ pk.r.length)
    (hneg : ∀ m ∈ ms, ¬ (m < 0 ∧ bitLen m > pk.params.Lm)) (he : Int.gcd e order = 1) :
    ∃ sig, clSignWith pk order U ms v e = some sig := by
  obtain ⟨n, hN, hn', ho0, hu, ⟨hs, -⟩, ⟨hz, -⟩, hr⟩ := hk.units
  have hr : ∀ b ∈ pk.r, IsUnit (b : ZMod n) := fun b hb => (hr b hb).1
  have hpu : ∀ p, keyshareP = some p → IsUnit (p : ZMod n) := fun p hp => (hu p (hP p hp)).1
  have hr0 : pk.r ≠ [] := by
    intro h0
    unfold userCommitment at hU
    rw [h0] at hU
    cases keyshareP <;> cases hU
  obtain ⟨U', hU', _, _, Uc⟩ := userCommitment_spec_ks pk secret vPrime mUser keyshareP hN hn' hs hr hr0
    hkeys hpu
  rw [hU] at hU'
  obtain rfl := Except.ok.inj hU'
  exact clSignWith_isSome pk order U ms v e hN hn' hz hs hr (isUnit_of_cast Uc) hlen
    (any_negOversized_eq_false_iff.mpr hneg) ho0 he

/-! ### the honest `ConstructCredential` -/

/-- **`ConstructCredential` on an honest message returns the credential**
    `(A, e, v'' + v', KeyshareP)` over `holderMsgs … = secret :: attributes` with the sums of the
    shares at the random-blind positions — with or without keyshare contribution.
    Honest message: `sig` is the issuer's signature on the builder's `U` and the issuer's block,
    `ps` the issuer's `ProofS` for the builder's context and nonce (any `eCommit`), `mIssuer`
    carries the shares that were signed; `attributes` is nil exactly at the builder's
    random-blind indices (`HonestShares`); `e` is a prime (for `ProbablyPrime`) in its interval. -/
theorem construct_honest (pk : PublicKey) (order : Int) (b : CredBuilder)
    (attributes : List (Option Int)) (mIssuer : List (Int × Option Int)) (v e eCommit : Int)
    (sig : CLSignature) (ps : ProofS)
    (hk : pk.InGroup order)
    (hP : ∀ p, b.keyshareP = some p → goExp p order pk.n = some 1)
    (hU : userCommitment pk b.secret b.vPrime b.mUser b.keyshareP = .ok b.u)
    (hs0 : 0 ≤ b.secret) (hs1 : b.secret < 2 ^ pk.params.Lm)
    (hh : HonestShares pk.params.Lm attributes mIssuer b.mUser)
    (hlen : attributes.length + 1 ≤ pk.r.length)
    (hint : eInInterval pk.params e = true) (hprime : probablyPrime e.toNat = true)
    (hsig : clSignWith pk order b.u (issuerMsgs attributes mIssuer) v e = some sig)
    (hps : proveSignature pk order sig b.context b.nonce2 eCommit = some ps) :
    b.construct pk (some ps) (some sig) mIssuer attributes none =
      .ok (.credential { a := sig.a, e := sig.e, v := sig.v + b.vPrime, keyshareP := b.keyshareP }
        (holderMsgs b.secret attributes mIssuer b.mUser)) := by
  obtain ⟨hver, hAord⟩ := sign_commitment_verifies probablyPrime pk order b.secret b.vPrime
    b.mUser b.keyshareP b.u _ _ v e sig hk hP hU
    (sharesCombine_msgs pk.params.Lm b.secret attributes mIssuer b.mUser hs0 hs1 hh)
    (by rw [holderMsgs_length]; exact hlen) hint hprime hsig
  have hpsv := proofS_complete pk order sig b.context b.nonce2 eCommit ps hk.n_gt hk.order_gt
    hAord hps
  rw [construct_of_blindLoop_ok pk b ps sig mIssuer attributes none _ hpsv
      (blindLoop_honest pk.params.Lm b.secret attributes mIssuer b.mUser hh),
    constructTail_none, mapM_deref_map_some, GoM.ok_bind]
  -- `clVerify` is `clVerifyWith probablyPrime`
  rw [show clVerify pk _ _ = _ from hver]
  rfl

/-! ### the whole run -/

/-- the part of the run after the commitment, with or without keyshare contribution: the issuer
    can sign and prove (`e` invertible modulo `order`), and whatever signature / proof these
    computations return, the holder constructs a credential that verifies over
    `vals = secret :: attributes'`, where each random-blind attribute is the sum of the two shares
    and every other attribute is the one that was supplied.
    `hattr`: none of the supplied attributes is negative and longer than `Lm` bits (the issuer's
    `RepresentToPublicKey` refuses such a block: nothing would be signed); non-negative
    attributes satisfy it. -/
theorem issuance_core (pk : PublicKey) (order : Int) (b : CredBuilder)
    (attributes : List (Option Int)) (mIssuer : List (Int × Option Int)) (v e eCommit : Int)
    (hk : pk.InGroup order)
    (hP : ∀ p, b.keyshareP = some p → goExp p order pk.n = some 1)
    (hU : userCommitment pk b.secret b.vPrime b.mUser b.keyshareP = .ok b.u)
    (hs0 : 0 ≤ b.secret) (hs1 : b.secret < 2 ^ pk.params.Lm)
    (hh : HonestShares pk.params.Lm attributes mIssuer b.mUser)
    (hattr : ∀ a, some a ∈ attributes → ¬ (a < 0 ∧ bitLen a > pk.params.Lm))
    (hlen : attributes.length + 1 ≤ pk.r.length)
    (hint : eInInterval pk.params e = true) (hprime : probablyPrime e.toNat = true)
    (he : Int.gcd e order = 1) :
    ∃ sig ps vals,
      clSignWith pk order b.u (issuerMsgs attributes mIssuer) v e = some sig ∧
      proveSignature pk order sig b.context b.nonce2 eCommit = some ps ∧
      b.construct pk (some ps) (some sig) mIssuer attributes none =
        .ok (.credential { a := sig.a, e := e, v := v + b.vPrime, keyshareP := b.keyshareP } vals) ∧
      clVerify pk { a := sig.a, e := e, v := v + b.vPrime, keyshareP := b.keyshareP } vals = .ok true ∧
      vals.length = attributes.length + 1 ∧ vals[0]? = some b.secret ∧
      (∀ kv ∈ b.mUser, ∃ mi, (mIssuer.lookup kv.1).join = some mi ∧
        vals[kv.1.toNat]? = some (mi + kv.2)) ∧
      (∀ (k : ℕ) (a : Int), attributes[k]? = some (some a) → vals[k + 1]? = some a) := by
  have hkeys : ∀ kv ∈ b.mUser, 0 ≤ kv.1 ∧ kv.1 < pk.r.length := by
    intro kv hm
    obtain ⟨a1, a2, _⟩ := hh.blind kv hm
    exact ⟨by omega, by omega⟩
  obtain ⟨sig, hsig⟩ := sign_commitment_succeeds pk order b.secret b.vPrime b.mUser b.keyshareP
    b.u (issuerMsgs attributes mIssuer) v e hk hP hU hkeys (by rw [issuerMsgs_length]; exact hlen)
    (issuerMsgs_guard pk.params.Lm attributes mIssuer b.mUser hh hattr) he
  obtain ⟨_, hse, hsv⟩ := clSignWith_keyshareP hsig
  obtain ⟨h2, hA⟩ := sign_commitment_verifies probablyPrime pk order b.secret b.vPrime b.mUser
    b.keyshareP b.u _ _ v e sig hk hP hU
    (sharesCombine_msgs pk.params.Lm b.secret attributes mIssuer b.mUser hs0 hs1 hh)
    (by rw [holderMsgs_length]; exact hlen) hint hprime hsig
  obtain ⟨ps, hps⟩ := proveSignature_succeeds pk order sig b.context b.nonce2 eCommit hk.n_gt
    hk.order_gt hA (by rw [hse]; exact he)
  have h1 := construct_honest pk order b attributes mIssuer v e eCommit sig ps hk hP hU
    hs0 hs1 hh hlen hint hprime hsig hps
  rw [hse, hsv] at h1 h2
  refine ⟨sig, ps, holderMsgs b.secret attributes mIssuer b.mUser, hsig, hps, h1, h2,
    holderMsgs_length _ _ _ _, rfl, ?_, ?_⟩
  · intro kv hm
    obtain ⟨a1, _, a3, _, _, mi, b1, _⟩ := hh.blind kv hm
    exact ⟨mi, b1, holderMsgs_blind b.secret attributes mIssuer b.mUser hh.nodup kv hm a1 a3 mi b1⟩
  · intro k a hka
    exact holderMsgs_plain b.secret attributes mIssuer b.mUser k a hka

/-- **The whole honest run, without keyshare server.**  The builder's `U` is the user
    commitment to `(secret, v', mUser)`; then
    * the holder's commitment proof (`Commit`, Fiat–Shamir challenge over `[U, Ũ]`,
      `CreateProof`) is accepted by the issuer's `ProofU.Verify` (for every `skRandomizer`,
      `mUserCommit`, `nonce1`);
    * the issuer's signing of `U` and its block and `proveSignature` succeed;
    * `ConstructCredential` returns the credential `(A, e, v'' + v')` over `vals`, and that
      signature verifies over `vals`;
    * `vals = secret :: attributes'` where each random-blind attribute is the sum of the two
      parties' shares and the other attributes are the supplied ones.
    With a keyshare server (`b.keyshareP = some P`) the statement about `ProofU` is *not*
    expected to hold for the builder's proof alone (`U` contains the factor `P = R_0^{ks}` that
    only the server's response accounts for — `Alg.keyshare_proofU` is the algebra of the merged
    proof; see the `#guard` below where the builder's own proof is refused); everything after
    the commitment is `issuance_core`, which covers both cases.
    `hattr`: none of the supplied attributes is negative and longer than `Lm` bits (see
    `issuance_core`). -/
theorem issuance_complete (pk : PublicKey) (order : Int) (b : CredBuilder) (skRandomizer nonce1 : Int)
    (attributes : List (Option Int)) (mIssuer : List (Int × Option Int)) (v e eCommit : Int)
    (hk : pk.InGroup order) (hkp : b.keyshareP = none)
    (hU : userCommitment pk b.secret b.vPrime b.mUser none = .ok b.u)
    (hvc0 : 0 ≤ b.vPrimeCommit) (hvc1 : b.vPrimeCommit < 2 ^ pk.params.LvPrimeCommit)
    (hv0 : 0 ≤ b.vPrime) (hv1 : b.vPrime < 2 ^ pk.params.LvPrime)
    (hpar : 256 + pk.params.LvPrime ≤ pk.params.LvPrimeCommit)
    (hs0 : 0 ≤ b.secret) (hs1 : b.secret < 2 ^ pk.params.Lm)
    (hh : HonestShares pk.params.Lm attributes mIssuer b.mUser)
    (hattr : ∀ a, some a ∈ attributes → ¬ (a < 0 ∧ bitLen a > pk.params.Lm))
    (hlen : attributes.length + 1 ≤ pk.r.length)
    (hint : eInInterval pk.params e = true) (hprime : probablyPrime e.toNat = true)
    (he : Int.gcd e order = 1) :
    ∃ Ut sig ps vals,
      b.commit pk skRandomizer = .ok [b.u, Ut] ∧
      (b.createProof skRandomizer (createChallenge b.context nonce1 [b.u, Ut] false)).verify pk
        b.context nonce1 = .ok true ∧
      clSignWith pk order b.u (issuerMsgs attributes mIssuer) v e = some sig ∧
      proveSignature pk order sig b.context b.nonce2 eCommit = some ps ∧
      b.construct pk (some ps) (some sig) mIssuer attributes none =
        .ok (.credential { a := sig.a, e := e, v := v + b.vPrime, keyshareP := none } vals) ∧
      clVerify pk { a := sig.a, e := e, v := v + b.vPrime, keyshareP := none } vals = .ok true ∧
      vals.length = attributes.length + 1 ∧ vals[0]? = some b.secret ∧
      (∀ kv ∈ b.mUser, ∃ mi, (mIssuer.lookup kv.1).join = some mi ∧
        vals[kv.1.toNat]? = some (mi + kv.2)) ∧
      (∀ (k : ℕ) (a : Int), attributes[k]? = some (some a) → vals[k + 1]? = some a) := by
  obtain ⟨n, hN, -, -, hu, -⟩ := hk.units
  have hgcd : ∀ x ∈ pk.s :: pk.z :: pk.r, Int.gcd x pk.n = 1 := fun x hx => by
    rw [hN]; exact (isUnit_iff_gcd x).mp (hu x (hk.bases x hx)).1
  have hr0 : pk.r ≠ [] := by
    intro h0; rw [h0, List.length_nil] at hlen; omega
  have hkeys : ∀ kv ∈ b.mUser, 1 ≤ kv.1 ∧ kv.1 < pk.r.length := by
    intro kv hm
    obtain ⟨a1, a2, _⟩ := hh.blind kv hm
    exact ⟨a1, by omega⟩
  obtain ⟨Ut, hc, hpu⟩ := proofU_complete pk b skRandomizer b.context nonce1 hk.n_gt
    (hgcd pk.s (by simp)) (fun x hx => hgcd x (by simp [hx])) hr0 hkeys hU hvc0 hvc1 hv0 hv1 hpar
  obtain ⟨sig, ps, vals, h1, h2, h3, h4, h5⟩ := issuance_core pk order b attributes mIssuer v e
    eCommit hk (by rw [hkp]; intro p hp; cases hp) (by rw [hkp]; exact hU) hs0 hs1 hh hattr hlen
    hint hprime he
  rw [hkp] at h3 h4
  exact ⟨Ut, sig, ps, vals, hc, hpu, h1, h2, h3, h4, h5⟩

/-! ### non-vacuity (toy key `Gabi.toyKey`: `n = 77`, bases in `QR_77`, `order = 15`, `Lm = 8`) -/

/-- the toy run: secret `5`, `v' = 9`, attributes `[3, ⊥]` (the second one random blind, position
    `2` of the block), user share `4`, issuer share `6`, `e = 11`, `v'' = 6`. -/
def toyBuilder (u : Int) (kp : Option Int) : CredBuilder :=
  { secret := 5, vPrime := 9, vPrimeCommit := 1000, mUser := [(2, 4)], mUserCommit := [(2, 77)],
    u := u, keyshareP := kp, context := 7, nonce2 := 8 }

/-- the honest run, evaluated, with keyshare contribution `kp`. Result: (commitment proof accepted,
    `ProofS` accepted, attributes of the constructed credential, its signature verifies). The issuer
    signs `[0, 3, 6]`, the holder constructs the credential over `[5, 3, 10]` (`10 = 6 + 4`). -/
def toyRun (kp : Option Int) : Option (Bool × Bool × List Int × Bool) := do
  let u ← (userCommitment toyKey 5 9 [(2, 4)] kp).toOption
  let b := toyBuilder u kp
  let contrib ← (b.commit toyKey 123).toOption
  let proofU := b.createProof 123 (createChallenge 7 99 contrib false)
  let okU ← (proofU.verify toyKey 7 99).toOption
  let sig ← clSignWith toyKey 15 u (issuerMsgs [some 3, none] [(2, some 6)]) 6 11
  let ps ← proveSignature toyKey 15 sig 7 8 5
  let okS ← (ps.verify toyKey sig 7 8).toOption
  match b.construct toyKey (some ps) (some sig) [(2, some 6)] [some 3, none] none with
  | .ok (.credential s vals) => do
    let okV ← (clVerify toyKey s vals).toOption
    pure (okU, okS, vals, okV)
  | _ => none

#guard issuerMsgs [some 3, none] [(2, some 6)] == [0, 3, 6]
#guard holderMsgs 5 [some 3, none] [(2, some 6)] [(2, 4)] == [5, 3, 10]
#guard toyRun none == some (true, true, [5, 3, 10], true)
/- with a keyshare contribution `P = R_0^3 = 16^3 mod 77 = 15`: the builder's commitment proof
   alone is refused (first component `false`), the rest of the run is the same. -/
#guard toyRun (some 15) == some (false, true, [5, 3, 10], true)

/-- `ConstructCredential` of the toy run on another `MIssuer` map or attribute list. The `#guard`s
    reach a missing share, a supplied value at the blind position, a wrong share (the final
    signature does not verify) and a non-blind nil attribute (panic). -/
def toyConstruct (mIssuer : List (Int × Option Int)) (attributes : List (Option Int)) :
    Option (GoM ConstructResult) := do
  let u ← (userCommitment toyKey 5 9 [(2, 4)] none).toOption
  let b := toyBuilder u none
  let sig ← clSignWith toyKey 15 u (issuerMsgs [some 3, none] [(2, some 6)]) 6 11
  let ps ← proveSignature toyKey 15 sig 7 8 5
  pure (b.construct toyKey (some ps) (some sig) mIssuer attributes none)

#guard match toyConstruct [] [some 3, none] with
  | some (.ok (.rejected why)) => why == "issuer share missing" | _ => false
#guard match toyConstruct [(2, none)] [some 3, none] with
  | some (.ok (.rejected why)) => why == "issuer share missing" | _ => false
#guard match toyConstruct [(2, some 6)] [some 3, some 10] with
  | some (.ok (.rejected why)) => why == "blind attribute not nil" | _ => false
#guard match toyConstruct [(2, some 7)] [some 3, none] with
  | some (.ok (.rejected why)) => why == "signature" | _ => false
#guard match toyConstruct [(2, some 6)] [none, none] with
  | some (.error (.nilDeref what)) => what == "attribute" | _ => false

/- `hattr` of `issuance_core` / `issuance_complete` (and `hneg` of `sign_commitment_succeeds`) is
   needed: with the supplied attribute `-256` (9 bits, `Lm = 8`) in place of `3` all other
   hypotheses are unchanged (`HonestShares` does not look at the supplied values), and the issuer
   signs nothing (`RepresentToPublicKey` returns its error); with `256` it signs. -/
#guard clSignWith toyKey 15 1 (issuerMsgs [some (-256), none] [(2, some 6)]) 6 11 == none
#guard (clSignWith toyKey 15 1 (issuerMsgs [some 256, none] [(2, some 6)]) 6 11).isSome

set_option exponentiation.threshold 400 in
/-- the hypotheses of `issuance_complete` (hence of `sign_commitment_verifies`,
    `construct_honest`, `issuance_core`) are satisfiable: the toy run. -/
example : ∃ (b : CredBuilder) (Ut : Int) (sig : CLSignature) (ps : ProofS) (vals : List Int),
    b.commit toyKey 123 = .ok [b.u, Ut] ∧
    (b.createProof 123 (createChallenge b.context 99 [b.u, Ut] false)).verify toyKey b.context 99 =
      .ok true ∧
    clSignWith toyKey 15 b.u (issuerMsgs [some 3, none] [(2, some 6)]) 6 11 = some sig ∧
    proveSignature toyKey 15 sig b.context b.nonce2 5 = some ps ∧
    b.construct toyKey (some ps) (some sig) [(2, some 6)] [some 3, none] none =
      .ok (.credential { a := sig.a, e := 11, v := 6 + b.vPrime, keyshareP := none } vals) ∧
    clVerify toyKey { a := sig.a, e := 11, v := 6 + b.vPrime, keyshareP := none } vals = .ok true ∧
    vals[2]? = some (6 + 4) := by
  have hs : Int.gcd toyKey.s toyKey.n = 1 := by decide
  have hr : ∀ x ∈ toyKey.r, Int.gcd x toyKey.n = 1 := by decide
  obtain ⟨U, hU, _⟩ := userCommitment_spec (n := 77) toyKey 5 9 [(2, 4)] rfl (by decide)
    ((isUnit_iff_gcd _).mpr hs) (fun x hx => (isUnit_iff_gcd _).mpr (hr x hx)) (by decide)
    (by decide)
  obtain ⟨Ut, sig, ps, vals, h1, h2, h3, h4, h5, h6, _, _, h9, _⟩ :=
    issuance_complete toyKey 15 (toyBuilder U none) 123 99 [some 3, none] [(2, some 6)] 6 11 5
      toyKey_inGroup rfl hU (show (0 : Int) ≤ 1000 by decide)
      (show (1000 : Int) < 2 ^ 300 by decide) (show (0 : Int) ≤ 9 by decide)
      (show (9 : Int) < 2 ^ 8 by decide) (by decide) (show (0 : Int) ≤ 5 by decide)
      (show (5 : Int) < 2 ^ 8 by decide) toy_honestShares
      (by intro a ha; simp at ha; subst ha; decide) (by decide) (by decide) (by decide)
      (by decide)
  obtain ⟨mi, hmi, hv⟩ := h9 (2, 4) (by simp [toyBuilder])
  have : mi = 6 := by
    have h' : ((List.lookup (2 : Int) [((2 : Int), some (6 : Int))]).join) = some 6 := by decide
    rw [show ((2, 4) : Int × Int).1 = 2 from rfl, h'] at hmi
    exact (Option.some.inj hmi).symm
  subst this
  exact ⟨toyBuilder U none, Ut, sig, ps, vals, h1, h2, h3, h4, h5, h6, hv⟩

end Gabi.C06

#print axioms Gabi.C06.construct_rejects_incomplete
#print axioms Gabi.C06.construct_rejects_proofS
#print axioms Gabi.C06.construct_rejects_missing_share
#print axioms Gabi.C06.construct_rejects_blind_not_nil
#print axioms Gabi.C06.construct_rejects_too_few
#print axioms Gabi.C06.construct_credential_only_if
#print axioms Gabi.C06.construct_credential_verifies
#print axioms Gabi.C06.construct_rejects_signature
#print axioms Gabi.C06.construct_rejects_witness
#print axioms Gabi.C06.construct_rejects_revocation_attribute
#print axioms Gabi.C06.construct_rejects_revocation_attribute'
#print axioms Gabi.C06.construct_total
#print axioms Gabi.C06.proofS_verify_total
#print axioms Gabi.C06.construct_panics_on_nil_attribute
#print axioms Gabi.C06.sign_commitment_verifies
#print axioms Gabi.C06.sign_commitment_verifies_msgs
#print axioms Gabi.C06.sign_commitment_succeeds
#print axioms Gabi.C06.construct_honest
#print axioms Gabi.C06.issuance_core
#print axioms Gabi.C06.issuance_complete
