/-
  C17 (companion) — the structure of the composed key-correctness proof: which statement the tree built by
  `NewValidKeyProofStructure(N, Bases)` wires together. The theorems are about the model of the
  constructors, GabiModel.KeyProofTree; the correspondence ops `kp-structure`, `kp-substructure` and
  `kp-structure-full` compare the canonical text of its values with that of the real structure values
  (moduli of 16 … 2048 bits, 0 … 6 bases). Proved: the flat list of claims; the wiring of the sub-proofs;
  what the tree entails under the ideal reading (defined in GabiProofs.KeyProofTree), and that a tree whose
  second prime proof is wired to "pprime" is satisfied with a composite q'; name hygiene; counting.
  NOT proved: that proofs accepted by VerifyProof make the relations hold over ℤ (soundness of the
  Σ-protocols, range proofs, Fiat–Shamir), that the traversal of the tree by commitmentsFromProof uses
  every part of the structure, and the relation `agenproof` that primeproof.go builds on the fly
  (unpredictability of the Euler witness `a`).
-/
import GabiModel.KeyProofTree
import GabiProofs.KeyProofTree
namespace Gabi.C17Tree
open Gabi Gabi.KeyProof

/-! ## The claims of the key statement -/

/-- **Both primes.** The primality claims of the key statement are exactly: "pprime" is prime
    and "qprime" is prime, both at bit length `(bitlen N + 1)/2`. -/
theorem claims_primality (n : Int) (bases : List Int) :
    (validKeyStructure n bases).claims.filterMap Claim.primeOf =
      [("pprime", (bitLen n + 1) / 2), ("qprime", (bitLen n + 1) / 2)] := by
  simp only [ValidKeyStructure.claims, List.filterMap_append, filterMap_primeOf_isSquare]
  rfl

/-- **p = 2p'+1 and q = 2q'+1**, as wired: `p¹·pprime⁻²·g⁻¹ = h^p_hider·h^(−2·pprime_hider)`
    and the same for q; **p·q = N**: `g^N = p^q · h^(−pqnrel)`; and `p`, `q`, `pprime`, `qprime` are
    Pedersen commitments the prover can open. -/
theorem claims_relations (n : Int) (bases : List Int) :
    let c := (validKeyStructure n bases).claims
    Claim.linear ⟨[⟨"p", 1⟩, ⟨"pprime", -2⟩, ⟨"g", -1⟩], [⟨"h", "p_hider", 1⟩, ⟨"h", "pprime_hider", -2⟩]⟩ ∈ c ∧
    Claim.linear ⟨[⟨"q", 1⟩, ⟨"qprime", -2⟩, ⟨"g", -1⟩], [⟨"h", "q_hider", 1⟩, ⟨"h", "qprime_hider", -2⟩]⟩ ∈ c ∧
    Claim.linear ⟨[⟨"g", n⟩], [⟨"p", "q", 1⟩, ⟨"h", "pqnrel", -1⟩]⟩ ∈ c ∧
    Claim.pedersen "p" ∈ c ∧ Claim.pedersen "q" ∈ c ∧ Claim.pedersen "pprime" ∈ c ∧ Claim.pedersen "qprime" ∈ c := by
  simp only [ValidKeyStructure.claims, validKeyStructure, pedStructure, List.append_assoc, List.cons_append,
    List.mem_cons, true_or, or_true, and_self]

/-- **The bases.** The isSquare claims are exactly one per supplied base, in order, each about
    that base and the modulus `N`. -/
theorem claims_squares (n : Int) (bases : List Int) :
    (validKeyStructure n bases).claims.filterMap Claim.squareOf = bases.zipIdx.map fun (b, i) => (i, b, n) :=
  filterMap_squareOf_validKey (validKeyStructure n bases)

/-! ## Wiring of the sub-proofs -/

/-- **The prime proof talks about its own commitments.** In `newPrimeProofStructure(name, l)` the two
    exponentiation proofs are `ares = a^halfp mod name` and `anegres = aneg^halfp mod name` over the
    commitments `a`, `aneg`, `halfp`, `ares`, `anegres` of this very prime proof; `halfPRep` relates
    `name` and `halfp` (`name = 2·halfp + 1`); the three result relations say `ares = 1`, `ares = −1`
    (OR-composed) and `anegres = −1`; the three range proofs are over `prea`, `a`, `aneg`. -/
theorem prime_wiring (name : String) (l : Nat) :
    let s := primeStructure name l
    s.primeName = name ∧ s.bitlen = l ∧
    s.aExp = expStructure s.a.name s.halfP.name s.primeName s.aRes.name s.bitlen ∧
    s.anegExp = expStructure s.aneg.name s.halfP.name s.primeName s.anegRes.name s.bitlen ∧
    s.halfPRep.lhs = [⟨s.primeName, 1⟩, ⟨s.halfP.name, -2⟩, ⟨"g", -1⟩] ∧
    s.aPlus1ResRep.lhs = [⟨s.aRes.name, 1⟩, ⟨"g", -1⟩] ∧
    s.aMin1ResRep.lhs = [⟨s.aRes.name, 1⟩, ⟨"g", 1⟩] ∧
    s.anegResRep.lhs = [⟨s.anegRes.name, 1⟩, ⟨"g", 1⟩] ∧
    (∀ r ∈ s.halfPRep.rhs ++ s.aPlus1ResRep.rhs ++ s.aMin1ResRep.rhs ++ s.anegResRep.rhs, r.base = "h") ∧
    s.preaRange = pedRangeStructure s.prea.name 0 s.bitlen ∧
    s.aRange = pedRangeStructure s.a.name 0 s.bitlen ∧
    s.anegRange = pedRangeStructure s.aneg.name 0 s.bitlen := by
  refine ⟨rfl, rfl, rfl, rfl, rfl, rfl, rfl, rfl, ?_, rfl, rfl, rfl⟩
  simp [primeStructure]

/-- **Step `i` of an exponentiation proof** (at least two bits) is the step over the `i`-th bit
    commitment and the `i`-th base-power commitment, from the previous intermediate result (the
    `start` commitment for `i = 0`) to the `i`-th one (the `result` for the last step); the `i`-th
    base-power relation is `base_0 = start·base`, `base_i = base_{i-1}²`; all modulo the proof's
    `mod`. -/
theorem exp_wiring (base e md r : String) (l i : Nat) (hl : 2 ≤ l) (hi : i < l) :
    let s := expStructure base e md r l
    ∃ bit pw st rel, s.expBits[i]? = some bit ∧ s.basePows[i]? = some pw ∧
      s.interSteps[i]? = some st ∧ s.basePowRels[i]? = some rel ∧
      st = stepStructure bit.name (if i = 0 then s.start.name else expInterName s.myname (i - 1))
             (if i = l - 1 then s.result else expInterName s.myname i) pw.name s.md l ∧
      rel = (if i = 0 then mulStructure s.start.name s.base s.md pw.name l
             else mulStructure (expBaseName s.myname (i - 1)) (expBaseName s.myname (i - 1)) s.md pw.name l) ∧
      (∀ j, j < l - 1 → s.interRess[j]?.map (·.name) = some (expInterName s.myname j)) ∧
      (∀ j, j < l → s.basePows[j]?.map (·.name) = some (expBaseName s.myname j)) := by
  intro s
  refine ⟨pedStructure (expBitName s.myname i), pedStructure (expBaseName s.myname i),
    expInterStep s.myname md r l i, expBasePowRel s.myname base md l i, ?_, ?_, ?_, ?_, ?_, ?_, ?_, ?_⟩
  · exact getElem?_map_range _ hi
  · exact getElem?_map_range _ hi
  · exact getElem?_map_range _ hi
  · exact getElem?_map_range _ hi
  · rw [expInterStep_eq, if_congr (and_iff_right_of_imp fun h : i = l - 1 => by omega) rfl rfl]
    rfl
  · rfl
  · intro j hj; exact congrArg (Option.map PedStructure.name) (getElem?_map_range _ hj)
  · intro j hj; exact congrArg (Option.map PedStructure.name) (getElem?_map_range _ hj)

/-- the exponent-bits relation of an exponentiation proof: `exponent⁻¹ · ∏ bit_i^(2^i) = h^…`, i.e.
    `exponent = Σ 2^i·bit_i`. -/
theorem exp_bit_equation (base e md r : String) (l : Nat) :
    (expStructure base e md r l).expBitEq.lhs =
      ⟨e, -1⟩ :: (List.range l).map fun i => ⟨expBitName (expName base e md r) i, (2 : Int) ^ i⟩ := rfl

/-! ## Soundness of the wiring under the ideal reading -/

/-- **Multiplication proof:** `result ≡ m1·m2 (mod mod)`. -/
theorem mul_statement {v : String → Int} (hv : Ideal v) (m1 m2 md result : String) (l : Nat)
    (h : (mulStructure m1 m2 md result l).holds v) : v result ≡ v m1 * v m2 [ZMOD v md] :=
  ((mul_holds_iff hv ..).mp h).modEq

/-- **Exponentiation step:** `bit = 0 ∧ post = pre`, or `bit = 1 ∧ post ≡ mul·pre (mod mod)`. -/
theorem step_statement {v : String → Int} (hv : Ideal v) (bit pre post mul md : String) (l : Nat)
    (h : (stepStructure bit pre post mul md l).holds v) :
    (v bit = 0 ∧ v post = v pre) ∨ (v bit = 1 ∧ v post ≡ v mul * v pre [ZMOD v md]) :=
  ((step_holds_iff hv ..).mp h).imp id (And.imp_right MulStructure.reads.modEq)

/-- **Exponentiation proof** (at least two bits): `0 ≤ exponent < 2^l` and
    `result ≡ base^exponent (mod mod)`. -/
theorem exp_statement {v : String → Int} (hv : Ideal v) (base exponent md result : String) (l : Nat) (hl : 2 ≤ l)
    (h : (expStructure base exponent md result l).holds v) :
    0 ≤ v exponent ∧ v exponent < 2 ^ l ∧ v result ≡ v base ^ (v exponent).toNat [ZMOD v md] :=
  ((exp_holds_iff hv ..).mp h).sound hl

/-- **Prime proof:** Euler-criterion evidence for the value of `name`: `name = 2h+1`, some `a` with
    `a^h ≡ ±1 (mod name)`, some `aneg` with `aneg^h ≡ −1 (mod name)`. -/
theorem prime_statement {v : String → Int} (hv : Ideal v) (name : String) (l : Nat) (hl : 2 ≤ l)
    (h : (primeStructure name l).holds v) : EulerEvidence (v name) l :=
  ((prime_holds_iff hv ..).mp h).evidence hl

/-- **Bases-valid proof:** every supplied base is a square modulo `n`. -/
theorem isSquare_statement {v : String → Int} (hv : Ideal v) (n : Int) (squares : List Int)
    (h : (isSquareStructure n squares).holds v) :
    ∀ i (hi : i < squares.length), ∃ r : Int, r * r ≡ squares[i] [ZMOD n] :=
  ((isSquare_holds_iff hv ..).mp h).sound

/-- **The key statement.** Under the ideal reading, whatever satisfies the tree built by
    `NewValidKeyProofStructure(N, Bases)` (N of at least 3 bits) has `p = 2p'+1`, `q = 2q'+1`,
    `p·q = N`, Euler-criterion evidence for `p'` AND for `q'`, and every base a square modulo `N`. -/
theorem key_statement {v : String → Int} (hv : Ideal v) (n : Int) (bases : List Int) (hn : 3 ≤ bitLen n)
    (h : (validKeyStructure n bases).holds v) :
    v "p" = 2 * v "pprime" + 1 ∧ v "q" = 2 * v "qprime" + 1 ∧ v "p" * v "q" = n ∧
    EulerEvidence (v "pprime") ((bitLen n + 1) / 2) ∧ EulerEvidence (v "qprime") ((bitLen n + 1) / 2) ∧
    ∀ i (hi : i < bases.length), ∃ r : Int, r * r ≡ bases[i] [ZMOD n] := by
  obtain ⟨hP, hQ, hN, hPP, hQP, hB⟩ := (validKey_holds_iff hv n bases "qprime").mp h
  have hl : 2 ≤ primeBitlen n := by unfold primeBitlen; omega
  exact ⟨hP, hQ, hN, hPP.evidence hl, hQP.evidence hl, hB.sound⟩

/-- the honest assignment for `N = 7·7` (`p' = q' = 3`; that p ≠ q is not part of this statement —
    it is the disjoint-prime-product proof's), base `4 = 2²`. -/
def exampleValuation : String → Int := valOf (validKeyWitness 3 3 2 2 2 2 [4] [2])

/-- **Non-vacuity:** the reading of the tree for `N = 49` is satisfiable (by the values an honest
    prover commits to), so `key_statement` is not vacuous.  (Kernel evaluation of what the tree
    states, `validKey_holds_iff`, on these values.) -/
theorem key_statement_satisfiable :
    Ideal exampleValuation ∧ (validKeyStructure 49 [4]).holds exampleValuation ∧ 3 ≤ bitLen 49 := by
  have hv : Ideal exampleValuation := ⟨by decide +kernel, by decide +kernel⟩
  refine ⟨hv, (validKey_holds_iff hv 49 [4] "qprime").mpr ?_, by decide⟩
  rw [exampleValuation, valOf_eq_revBytes]
  decide +kernel

/-- a wrong structure: the second prime proof is built over "pprime",
    `qprimeIsPrime = newPrimeProofStructure("pprime", …)`. -/
def slipStructure (n : Int) (bases : List Int) : ValidKeyStructure :=
  { validKeyStructure n bases with qprimeIsPrime := primeStructure "pprime" (primeBitlen n) }

/-- the honest assignment for `p' = 3`, and `q' = 9` (not a prime), `N = 7·19`. -/
def slipValuation : String → Int :=
  valOf ([("g", 1), ("h", 0), ("p", 7), ("q", 19), ("pprime", 3), ("qprime", 9)] ++
    primeWitness "pprime" 3 2 2 (primeBitlen 133) ++ isSquareWitness 133 [4] [2])

/-- **A wrong wiring is visible in the statement.** With the second prime proof wired to "pprime" the
    tree is satisfied by an assignment in which `q' = 9`: nothing is stated about `q'`
    (for the true structure `key_statement` gives Euler-criterion evidence for `q'`, which `9` does
    not have).  The op `kp-structure` reports such a structure as a difference to the model. -/
theorem slip_loses_qprime :
    Ideal slipValuation ∧ (slipStructure 133 [4]).holds slipValuation ∧ slipValuation "qprime" = 9 ∧
    ¬ EulerEvidence (slipValuation "qprime") (primeBitlen 133) := by
  have hv : Ideal slipValuation := ⟨by decide +kernel, by decide +kernel⟩
  have h9 : slipValuation "qprime" = 9 := by decide +kernel
  refine ⟨hv, (validKey_holds_iff hv 133 [4] "pprime").mpr ?_, h9, h9 ▸ no_evidence_for_nine _⟩
  rw [slipValuation, valOf_eq_revBytes]
  decide +kernel

/-! ## Name hygiene -/

/-- **Secret names of a prime proof.** Every secret name for which the prime proof over `name`
    carries a response is `name_hider` (the hider of the commitment whose primality is proven) or
    begins with `name_primeproof_`. -/
theorem prime_secret_names (name : String) (l : Nat) :
    ∀ x ∈ (primeStructure name l).secrets,
      x = joinU [name, "hider"] ∨ HasPre (joinU [name, "primeproof"] ++ "_") x := by
  have hsub : ∀ t r, HasPre (joinU [name, "primeproof"] ++ "_") (joinU (joinU [name, "primeproof"] :: t :: r)) :=
    hasPre_joinU_sep _
  have inr : ∀ {s : List String}, (∀ x ∈ s, HasPre (joinU [name, "primeproof"] ++ "_") x) →
      ∀ x ∈ s, x = joinU [name, "hider"] ∨ HasPre (joinU [name, "primeproof"] ++ "_") x :=
    fun h x hx => Or.inr (h x hx)
  -- `halfPRep`, the second part, relates `name` to `halfp` and so carries the hider of `name`; every other part is
  -- a structure over commitments of the prime proof itself, or a relation with a hider of its own
  simp only [primeStructure, PrimeStructure.secrets, List.append_assoc]
  rw [List.forall_mem_append, List.forall_mem_append]
  refine ⟨inr (ped_secrets_pre (hsub _ _)), by simp [ReprStructure.secrets, hsub], inr ?_⟩
  simp only [List.forall_mem_append]
  exact ⟨ped_secrets_pre (hsub _ _), pedRange_secrets_pre (hsub _ _) _ _,
    ped_secrets_pre (hsub _ _), pedRange_secrets_pre (hsub _ _) _ _,
    ped_secrets_pre (hsub _ _), pedRange_secrets_pre (hsub _ _) _ _,
    ped_secrets_pre (hsub _ _), ped_secrets_pre (hsub _ _),
    by simp [ReprStructure.secrets, hsub], by simp [ReprStructure.secrets, hsub],
    by simp [ReprStructure.secrets, hsub], exp_secrets_pre (hsub _ _) _ _ _ _, exp_secrets_pre (hsub _ _) _ _ _ _⟩

/-- **The two prime proofs of the key statement share no secret name** (responses are looked
    up by name in merged tables, so a shared name would tie the two proofs together). -/
theorem prime_proofs_share_no_secret (n : Int) (bases : List Int) :
    let s := validKeyStructure n bases
    ∀ x ∈ s.pprimeIsPrime.secrets, x ∉ s.qprimeIsPrime.secrets := by
  have hpre : ∀ name l, ∀ x ∈ (primeStructure name l).secrets, HasPre name x := fun name l x hx =>
    (prime_secret_names name l x hx).elim (fun h => h ▸ (HasPre.refl name).joinU _)
      (fun h => (((HasPre.refl name).joinU _).append _).trans h)
  intro s x hx hx'
  obtain ⟨t, rfl⟩ := hpre _ _ x hx
  obtain ⟨t', h⟩ := hpre _ _ _ hx'
  simpa using congrArg String.toList h

/-- **Inside one exponentiation proof** the commitments it introduces (bits, base powers,
    start, intermediate results) have pairwise different names; in particular the steps use a
    different bit, base power and intermediate result per position. -/
theorem exp_inner_names_distinct (base e md r : String) (l : Nat) :
    (expStructure base e md r l).innerNames.Nodup := by
  set my := expName base e md r with hmy
  have hbits : ((List.range l).map fun i => expBitName my i).Nodup :=
    (List.nodup_range).map_on fun i _ j _ h => joinU3_inj h
  have hbases : ((List.range l).map fun i => expBaseName my i).Nodup :=
    (List.nodup_range).map_on fun i _ j _ h => joinU3_inj h
  have hinters : ((List.range (l - 1)).map fun i => expInterName my i).Nodup :=
    (List.nodup_range).map_on fun i _ j _ h => joinU3_inj h
  simp only [ExpStructure.innerNames, expStructure, ← hmy, List.map_map, Function.comp_def, pedStructure]
  rw [List.nodup_append, List.nodup_append, List.nodup_append]
  refine ⟨⟨⟨hbits, hbases, ?_⟩, List.nodup_singleton _, ?_⟩, hinters, ?_⟩
  -- names of different kinds differ within "bi", "ba", "st", "in"
  · intro a ha b hb
    simp only [List.mem_map, List.mem_range] at ha hb
    obtain ⟨i, -, rfl⟩ := ha; obtain ⟨j, -, rfl⟩ := hb
    exact joinU_ne_of_kind (by decide) (by decide) (by decide)
  · intro a ha b hb
    simp only [List.mem_singleton] at hb; subst hb
    simp only [List.mem_append, List.mem_map, List.mem_range] at ha
    rcases ha with ⟨i, -, rfl⟩ | ⟨i, -, rfl⟩
    · exact joinU_ne_of_kind (by decide) (by decide) (by decide)
    · exact joinU_ne_of_kind (by decide) (by decide) (by decide)
  · intro a ha b hb
    simp only [List.mem_append, List.mem_map, List.mem_range, List.mem_singleton] at ha hb
    obtain ⟨j, -, rfl⟩ := hb
    rcases ha with (⟨i, -, rfl⟩ | ⟨i, -, rfl⟩) | rfl
    · exact joinU_ne_of_kind (by decide) (by decide) (by decide)
    · exact joinU_ne_of_kind (by decide) (by decide) (by decide)
    · exact joinU_ne_of_kind (by decide) (by decide) (by decide)

/-! ## Counting -/

/-- **Segment lengths.** The number of hash-input entries each part of the structure
    contributes (numCommitments of the tree) equals the formula the Fiat–Shamir op `kp-challenge`
    is checked with. -/
theorem segment_lengths_agree (n : Int) (bases : List Int) :
    (validKeyStructure n bases).segmentLengths = expectedLengths (bitLen n) bases.length := by
  simp [validKeyStructure, ValidKeyStructure.segmentLengths, expectedLengths, prime_numCommitments,
    isSquare_numCommitments, ped_numCommitments, ReprStructure.numCommitments, primeBitlen]

/-- **numRangeProofs** of the tree: with `b = (bitlen N + 1)/2` and `k` bases,
    `2·(4 + 2·(3b + (b−1))) + 2k`. -/
theorem numRangeProofs_formula (n : Int) (bases : List Int) :
    (validKeyStructure n bases).numRangeProofs =
      2 * (4 + 2 * (3 * primeBitlen n + (primeBitlen n - 1))) + 2 * bases.length := by
  simp [validKeyStructure, ValidKeyStructure.numRangeProofs, primeStructure, PrimeStructure.numRangeProofs,
    exp_numRangeProofs, isSquareStructure, IsSquareStructure.numRangeProofs, sumBy, Function.comp_def,
    MulStructure.numRangeProofs]
  ring

example : (validKeyStructure 77 [4, 37]).numRangeProofs = 72 := by
  rw [numRangeProofs_formula]; decide

end Gabi.C17Tree
