/-
  C05 — Camenisch–Lysyanskaya signatures: what the issuer signs verifies, randomisation keeps
  validity, the exponent `e` must be a prime in its interval, and one signature fixes the block
  of messages (up to a relation among the bases).

  The algebra is `GabiProofs.GroupAlgebra` (arbitrary commutative group), transported to the
  executable model through `GabiProofs.Bridge` (`goExp` = `zpow` in `(ZMod n)ˣ`) and
  `GabiProofs.CLLemmas` (`representToBases`, `clVerifyWith`, `clRandomize`, `clSignWith`).
-/
import GabiModel.CL
import GabiProofs.CLLemmas
namespace Gabi.C05
open Gabi

/-- `CLSignature.Verify` rejects an exponent outside `[2^(le-1), 2^(le-1) + 2^(le'-1)]`, whatever
    the rest of the signature is (in particular even when the verification equation holds). -/
theorem e_out_of_interval_rejected (isPrime : Nat → Bool) (pk : PublicKey) (sig : CLSignature)
    (ms : List Int) (h : eInInterval pk.params sig.e = false) :
    clVerifyWith isPrime pk sig ms = .ok false := by
  unfold clVerifyWith
  rw [h]
  rfl

/-- `CLSignature.Verify` rejects an exponent inside the interval that the primality oracle
    (`ProbablyPrime(80)` in gabi) rejects, whatever the rest of the signature is. -/
theorem e_composite_rejected (isPrime : Nat → Bool) (pk : PublicKey) (sig : CLSignature)
    (ms : List Int) (hp : isPrime sig.e.toNat = false) (h : eInInterval pk.params sig.e = true) :
    clVerifyWith isPrime pk sig ms = .ok false := by
  unfold clVerifyWith
  rw [h, hp]
  rfl

/-- `CLSignature.Verify` accepts only exponents in the interval that pass the primality oracle. -/
theorem accepted_e (isPrime : Nat → Bool) (pk : PublicKey) (sig : CLSignature) (ms : List Int)
    (h : clVerifyWith isPrime pk sig ms = .ok true) :
    eInInterval pk.params sig.e = true ∧ isPrime sig.e.toNat = true :=
  ⟨(clVerifyWith_ok_true isPrime pk sig ms h).1, (clVerifyWith_ok_true isPrime pk sig ms h).2.1⟩

/-- **What the issuer signs verifies**: a signature that `signMessageBlockAndCommitment` (with
    `U = 1`, i.e. `SignMessageBlock`) returns for the block `ms` is accepted by `Verify` for `ms`.
    `pk.InGroup order` says: `1 < n`, `0 ≤ Z < n`, `1 < order`, and `b^order ≡ 1 (mod n)` for
    `b = S, Z, R_0, …` (for a real key the bases are quadratic residues and `order = p'q'`).
    `clSignWith … = some sig` contains the existence of `d = e⁻¹ mod order` (`common.ModInverse`)
    and that `RepresentToPublicKey` returned no error (no message is negative and longer than
    `Lm`), so nothing is assumed on `v` or on the sign and size of the messages. -/
theorem sign_verifies (isPrime : Nat → Bool) (pk : PublicKey) (order : Int) (ms : List Int)
    (v e : Int) (sig : CLSignature) (hk : pk.InGroup order) (hlen : ms.length ≤ pk.r.length)
    (hint : eInInterval pk.params e = true) (hprime : isPrime e.toNat = true)
    (h : clSignWith pk order 1 ms v e = some sig) :
    clVerifyWith isPrime pk sig ms = .ok true := by
  obtain ⟨n, hN, hn, -, -, ⟨hs, oS⟩, ⟨hz, oZ⟩, hr⟩ := hk.units
  -- the issuer's equation `A^e · (R · U) · S^v = Z` for the commitment `U = 1`
  obtain ⟨he, hv, hA, -, heq⟩ := clSignWith_unit pk order 1 ms v e (U := 1) hN hn hz oZ hs oS hr
    (by rw [Int.cast_one, Units.val_one]) (one_zpow order) hlen hk.order_gt h
  obtain ⟨b, hb, hiff⟩ := clVerifyWith_iff isPrime pk sig ms hN hn hk.z_nonneg hk.z_lt hz hs
    (fun b hb => (hr b hb).1) hA (by rw [(clSignWith_keyshareP h).1]; exact nofun) hlen
    (by rw [he]; exact hint) (by rw [he]; exact hprime)
  rw [hb, hiff.mpr ⟨clSignWith_some_guard h, ?_⟩]
  rw [(clSignWith_keyshareP h).1, he, hv, keyshareU]
  exact heq

/-- On a key as in `sign_verifies` the issuer's signing computation succeeds whenever `e` is
    invertible modulo `order` and no message of the block is negative and longer than `Lm` bits
    (`hneg`; non-negative messages satisfy it: `sign_succeeds_of_nonneg`).  Without `hneg` the
    statement is false: `RepresentToPublicKey` returns its error on such a block and nothing is
    signed (`sign_refuses_negative_oversized`, and the `#guard` below on the toy key: `[3, -256]`). -/
theorem sign_succeeds (pk : PublicKey) (order : Int) (ms : List Int) (v e : Int)
    (hk : pk.InGroup order) (hlen : ms.length ≤ pk.r.length)
    (hneg : ∀ m ∈ ms, ¬ (m < 0 ∧ bitLen m > pk.params.Lm)) (he : Int.gcd e order = 1) :
    ∃ sig, clSignWith pk order 1 ms v e = some sig := by
  obtain ⟨n, hN, hn, ho0, -, ⟨hs, -⟩, ⟨hz, -⟩, hr⟩ := hk.units
  exact clSignWith_isSome pk order 1 ms v e hN hn hz hs (fun b hb => (hr b hb).1)
    (by simp) hlen (any_negOversized_eq_false_iff.mpr hneg) ho0 he

/-- On a key as in `sign_verifies` the issuer's signing computation succeeds on every block of
    non-negative messages (attributes are non-negative), for `e` invertible modulo `order`. -/
theorem sign_succeeds_of_nonneg (pk : PublicKey) (order : Int) (ms : List Int) (v e : Int)
    (hk : pk.InGroup order) (hlen : ms.length ≤ pk.r.length)
    (hnn : ∀ m ∈ ms, 0 ≤ m) (he : Int.gcd e order = 1) :
    ∃ sig, clSignWith pk order 1 ms v e = some sig :=
  sign_succeeds pk order ms v e hk hlen (fun m hm hc => absurd (hnn m hm) (by omega)) he

/-- The issuer signs nothing on a block with a negative message longer than `Lm` bits
    (`RepresentToPublicKey` returns its error), whatever the key, `U`, `v`, `e` are. -/
theorem sign_refuses_negative_oversized (pk : PublicKey) (order u : Int) (ms : List Int)
    (v e : Int) (m : Int) (hm : m ∈ ms) (hneg : m < 0) (hlong : bitLen m > pk.params.Lm) :
    clSignWith pk order u ms v e = none :=
  clSignWith_of_negOversized
    (List.any_eq_true.mpr ⟨m, hm, negOversized_iff.mpr ⟨hneg, hlong⟩⟩)

/-- **Randomisation keeps validity**: if `Verify` accepts `sig` for `ms`, it accepts
    `sig.Randomize` for `ms`, for any integer randomiser `r`.  `S` has to be invertible modulo `n`
    (the randomised `v - e·r` is usually negative, so `S⁻¹` is needed); the three hypotheses on `Z`
    are not used (`clRandomize_verifies`).  `Randomize` copies `KeyshareP` (clsignature.go), so
    the statement covers signatures with a keyshare contribution too. -/
theorem randomize_verifies (isPrime : Nat → Bool) (pk : PublicKey) (sig : CLSignature)
    (ms : List Int) (r : Int)
    (hn : 1 < pk.n) (hz0 : 0 ≤ pk.z) (hz1 : pk.z < pk.n)
    (hz : Int.gcd pk.z pk.n = 1) (hs : Int.gcd pk.s pk.n = 1)
    (h : clVerifyWith isPrime pk sig ms = .ok true) :
    clVerifyWith isPrime pk (clRandomize pk sig r) ms = .ok true := by
  obtain ⟨n, hN, hn'⟩ := exists_nat_modulus hn
  rw [hN] at hs
  exact clRandomize_verifies isPrime pk sig ms r hN hn' ((isUnit_iff_gcd _).mpr hs) h

/-- Any number of randomisation steps keeps validity: the induction is over the steps of the
    model, each of which is `randomize_verifies`. -/
theorem randomize_verifies_iter (isPrime : Nat → Bool) (pk : PublicKey) (sig : CLSignature)
    (ms : List Int) (rs : List Int)
    (hn : 1 < pk.n) (hz0 : 0 ≤ pk.z) (hz1 : pk.z < pk.n)
    (hz : Int.gcd pk.z pk.n = 1) (hs : Int.gcd pk.s pk.n = 1)
    (h : clVerifyWith isPrime pk sig ms = .ok true) :
    clVerifyWith isPrime pk (rs.foldl (clRandomize pk) sig) ms = .ok true := by
  induction rs generalizing sig with
  | nil => exact h
  | cons r rs ih =>
    exact ih (clRandomize pk sig r)
      (randomize_verifies isPrime pk sig ms r hn hz0 hz1 hz hs h)

/-- `Randomize` keeps `e` and shifts `v` by `-e·r`. -/
theorem randomize_e_v (pk : PublicKey) (sig : CLSignature) (r : Int) :
    (clRandomize pk sig r).e = sig.e ∧ (clRandomize pk sig r).v = sig.v - sig.e * r := ⟨rfl, rfl⟩

/-- **One signature fixes the block.**  If `(A, e, v)` is accepted for the messages `ms`
    and for `ms'`, the two representations `∏ R_i^{m_i}` and `∏ R_i^{m'_i}` that the verifier
    computed are the same number modulo `n` (multiplied by the same `KeyshareP`, if present).
    Hence `ms ≠ ms'` exhibits the non-trivial relation `∏ R_i^{m_i - m'_i} ≡ 1`. -/
theorem verify_binds_block (isPrime : Nat → Bool) (pk : PublicKey) (sig : CLSignature)
    (ms ms' : List Int)
    (hn : 1 < pk.n) (hz : Int.gcd pk.z pk.n = 1) (hs : Int.gcd pk.s pk.n = 1)
    (h : clVerifyWith isPrime pk sig ms = .ok true)
    (h' : clVerifyWith isPrime pk sig ms' = .ok true) :
    ∃ r r', representToBases pk.r ms pk.n pk.params.Lm = .ok r ∧
      representToBases pk.r ms' pk.n pk.params.Lm = .ok r' ∧
      blockWithKeyshare r sig.keyshareP % pk.n = blockWithKeyshare r' sig.keyshareP % pk.n := by
  obtain ⟨n, hN, hn'⟩ := exists_nat_modulus hn
  rw [hN] at hz hs
  have hzu := (isUnit_iff_gcd _).mpr hz
  have hsu := (isUnit_iff_gcd _).mpr hs
  obtain ⟨r, hr, _, hub, heq⟩ := clVerifyWith_units isPrime pk sig ms hN hn' hzu hsu h
  obtain ⟨r', hr', _, hub', heq'⟩ := clVerifyWith_units isPrime pk sig ms' hN hn' hzu hsu h'
  refine ⟨r, r', hr, hr', ?_⟩
  have hB := Alg.cl_binds_block heq heq'
  rw [hN, ← ZMod.intCast_eq_intCast_iff', ← zunit_val hub, ← zunit_val hub', hB]

/-- One signature without keyshare factor accepted for two blocks: `RepresentToBases` returns the
    same integer for both. -/
theorem verify_binds_block' (isPrime : Nat → Bool) (pk : PublicKey) (sig : CLSignature)
    (ms ms' : List Int)
    (hn : 1 < pk.n) (hz : Int.gcd pk.z pk.n = 1) (hs : Int.gcd pk.s pk.n = 1)
    (hkp : sig.keyshareP = none)
    (h : clVerifyWith isPrime pk sig ms = .ok true)
    (h' : clVerifyWith isPrime pk sig ms' = .ok true) :
    representToBases pk.r ms pk.n pk.params.Lm = representToBases pk.r ms' pk.n pk.params.Lm := by
  obtain ⟨r, r', hr, hr', heq⟩ := verify_binds_block isPrime pk sig ms ms' hn hz hs h h'
  obtain ⟨n, hN, hn'⟩ := exists_nat_modulus hn
  rw [hkp] at heq
  simp only [blockWithKeyshare] at heq
  rw [hN] at hr hr' heq
  obtain ⟨a0, a1⟩ := representToBases_range hn' hr
  obtain ⟨b0, b1⟩ := representToBases_range hn' hr'
  rw [Int.emod_eq_of_lt a0 a1, Int.emod_eq_of_lt b0 b1] at heq
  rw [hN, hr, hr', heq]

/-- **An accepted block has no negative message longer than `Lm` bits.**  The hash that
    replaces an oversized message is over its magnitude only, so `-x` would stand for `x`;
    `RepresentToPublicKey` refuses such a block and `Verify` returns `false`. -/
theorem verified_block_no_negative_oversized (isPrime : Nat → Bool) (pk : PublicKey)
    (sig : CLSignature) (ms : List Int) (h : clVerifyWith isPrime pk sig ms = .ok true) :
    ∀ m ∈ ms, ¬ (m < 0 ∧ bitLen m > pk.params.Lm) :=
  any_negOversized_eq_false_iff.mp (clVerifyWith_ok_true_guard isPrime pk sig ms h)

/-- "Checked against a different message block never verifies", the case that the algebra does
    not cover: for `x > 0` longer than `Lm` bits, a block containing `-x` is never accepted,
    whatever the signature, the key and the rest of the block are (in particular not with a
    signature on the block that has `x` there, although both blocks have the same representation). -/
theorem negated_oversized_never_verifies (isPrime : Nat → Bool) (pk : PublicKey)
    (sig : CLSignature) (ms : List Int) (x : Int) (hx : 0 < x) (hlong : bitLen x > pk.params.Lm)
    (hmem : -x ∈ ms) : clVerifyWith isPrime pk sig ms ≠ .ok true := by
  intro h
  refine verified_block_no_negative_oversized isPrime pk sig ms h (-x) hmem ⟨by omega, ?_⟩
  rwa [bitLen, Int.natAbs_neg]

/-- For `x > 0` longer than `Lm` bits and a block containing `-x`: when `Verify` does not panic
    (`clVerifyWith … = .ok b`: e.g. invertible bases, at most as many messages as bases) its
    answer is `false`. -/
theorem negated_oversized_rejected (isPrime : Nat → Bool) (pk : PublicKey)
    (sig : CLSignature) (ms : List Int) (x : Int) (hx : 0 < x) (hlong : bitLen x > pk.params.Lm)
    (hmem : -x ∈ ms) {b : Bool} (hb : clVerifyWith isPrime pk sig ms = .ok b) : b = false := by
  cases b with
  | false => rfl
  | true => exact absurd hb (negated_oversized_never_verifies isPrime pk sig ms x hx hlong hmem)

/-! ### non-vacuity (toy key `Gabi.toyKey`: `n = 77`, bases in `QR_77`, `order = 15`) -/

/-- the hypotheses of `sign_verifies` are satisfiable: on the toy key a signature on `[3, 5]`
    with `e = 11`, `v = 6` exists and (by the theorem) verifies. -/
example : ∃ sig, clSignWith toyKey 15 1 [3, 5] 6 11 = some sig ∧
    clVerifyWith (fun k => decide (k = 11)) toyKey sig [3, 5] = .ok true := by
  obtain ⟨sig, h⟩ := sign_succeeds toyKey 15 [3, 5] 6 11 toyKey_inGroup (by decide) (by decide)
    (by decide)
  exact ⟨sig, h, sign_verifies _ toyKey 15 [3, 5] 6 11 sig toyKey_inGroup (by decide) (by decide)
    (by decide) h⟩

/-- the hypotheses of `randomize_verifies` and `verify_binds_block` are satisfiable, with the same
    signature on the toy key. -/
example : ∃ sig, clVerifyWith (fun k => decide (k = 11)) toyKey sig [3, 5] = .ok true ∧
    sig.keyshareP = none ∧ 1 < toyKey.n ∧ 0 ≤ toyKey.z ∧ toyKey.z < toyKey.n ∧
    Int.gcd toyKey.z toyKey.n = 1 ∧ Int.gcd toyKey.s toyKey.n = 1 := by
  obtain ⟨sig, h⟩ := sign_succeeds toyKey 15 [3, 5] 6 11 toyKey_inGroup (by decide) (by decide)
    (by decide)
  have hv := sign_verifies (fun k => decide (k = 11)) toyKey 15 [3, 5] 6 11 sig toyKey_inGroup
    (by decide) (by decide) (by decide) h
  exact ⟨sig, hv, (clSignWith_keyshareP h).1, by decide, by decide, by decide, by decide, by decide⟩

/-- the hypotheses of `verified_block_no_negative_oversized` are satisfiable (first example above);
    those of `negated_oversized_never_verifies` / `sign_refuses_negative_oversized` too:
    `Lm = 8`, `x = 256` has 9 bits.  On the toy key the issuer signs `[3, 256]`, that signature
    verifies over `[3, 256]` and is refused over `[3, -256]`, although both blocks have the same
    representation (`attrExp` hashes the magnitude); the issuer does not sign `[3, -256]`. -/
example : (0 : Int) < 256 ∧ bitLen 256 > toyKey.params.Lm ∧ (-256 : Int) ∈ [3, -256] := by decide

#guard (clSignWith toyKey 15 1 [3, 256] 6 11).isSome
#guard clSignWith toyKey 15 1 [3, -256] 6 11 == none
#guard representToBases toyKey.r [3, 256] toyKey.n toyKey.params.Lm ==
  representToBases toyKey.r [3, -256] toyKey.n toyKey.params.Lm
#guard match clSignWith toyKey 15 1 [3, 256] 6 11 with
  | some sig => clVerifyWith (fun k => decide (k = 11)) toyKey sig [3, 256] == .ok true &&
      clVerifyWith (fun k => decide (k = 11)) toyKey sig [3, -256] == .ok false
  | none => false
/- the guard comes before any base is indexed: more messages than bases, one of them negative and
   oversized — `false` instead of the index panic. -/
#guard match clSignWith toyKey 15 1 [3, 256] 6 11 with
  | some sig =>
      clVerifyWith (fun k => decide (k = 11)) toyKey sig [3, 5, 7, -256] == .ok false &&
      clVerifyWith (fun k => decide (k = 11)) toyKey sig [3, 5, 7, 256] ==
        .error (.indexOutOfRange "bases[i]")
  | none => false

/-- the interval / primality rejections are reachable. -/
example : eInInterval toyParamsCL 13 = false ∧ eInInterval toyParamsCL 9 = true := by decide

end Gabi.C05

#print axioms Gabi.C05.e_out_of_interval_rejected
#print axioms Gabi.C05.e_composite_rejected
#print axioms Gabi.C05.accepted_e
#print axioms Gabi.C05.sign_verifies
#print axioms Gabi.C05.sign_succeeds
#print axioms Gabi.C05.sign_succeeds_of_nonneg
#print axioms Gabi.C05.sign_refuses_negative_oversized
#print axioms Gabi.C05.randomize_verifies
#print axioms Gabi.C05.randomize_verifies_iter
#print axioms Gabi.C05.verify_binds_block
#print axioms Gabi.C05.verify_binds_block'
#print axioms Gabi.C05.verified_block_no_negative_oversized
#print axioms Gabi.C05.negated_oversized_never_verifies
#print axioms Gabi.C05.negated_oversized_rejected
