/-
  C01 — An accepted disclosure proof is internally consistent (decision-logic part).
  Property theorems about `ProofD.verifyWith` of the executable model GabiModel.Proofs (compared
  output-for-output with `ProofD.Verify` of proofs.go by `./check C01`): whenever the verdict is
  "accepted", the proof is well-formed for the key (disclosed / hidden indices partition, all
  inside the key's bases, secret key hidden), every response lies in the range the protocol
  allows, the challenge is the hash of context, reconstructed commitments and nonce, and every
  range proof has been structure-checked against the hidden response of its own index.
  The statements hold for every key, every oracle for the accumulator signature and every
  choice `i1`, `i2` of the two `revocationAttrIndex` calls. Helper lemmas: GabiProofs.VerifyLogic.
  The second half restates the algebra behind the verification equation (honest proofs
  reconstruct, special soundness: GabiProofs.GroupAlgebra) and the parameter arithmetic that
  makes the response ranges exclude shifts by the group order (GabiProofs.ParamsC01).
-/
import GabiModel.Proofs
import GabiModel.Prover
import GabiProofs.VerifyLogic
import GabiProofs.ParamsC01
import GabiProofs.GroupAlgebra
namespace Gabi.C01
open Gabi

section
variable {o : SigOracle} {kid : String} {pk : PublicKey} {p : ProofD} {ctx nonce : Int}
  {issig : Bool} {i1 i2 : Int}

/-- An accepted proof passes `wellFormed`; spelled out: no index is reported both as disclosed
    and as hidden, every disclosed and every hidden index refers to an existing base of the key
    (`0 ≤ k < len R`), every listed value is present, and the secret key (index 0) is hidden. -/
theorem accept_partition (h : p.verifyWith o kid pk ctx nonce issig i1 i2 = .ok true) :
    p.wellFormed pk = true ∧
    (∀ kv ∈ p.aDisclosed, ¬ p.aResponses.has kv.1) ∧
    (∀ kv ∈ p.aDisclosed, kv.2.isSome ∧ 0 ≤ kv.1 ∧ kv.1 < pk.r.length) ∧
    (∀ kv ∈ p.aResponses, kv.2.isSome ∧ 0 ≤ kv.1 ∧ kv.1 < pk.r.length) ∧
    (p.aResponses.get 0).isSome := by
  have hw := ProofD.verifyWith_wellFormed h
  obtain ⟨_, h0, hA, hD, _⟩ := (ProofD.wellFormed_iff pk p).mp hw
  refine ⟨hw, ?_, ?_, hA, h0⟩
  · intro kv hkv; simp [(hD kv hkv).2.2.2]
  · intro kv hkv; exact ⟨(hD kv hkv).1, (hD kv hkv).2.1, (hD kv hkv).2.2.1⟩

/-- An accepted proof never reports a negative value that was hashed by magnitude: a disclosed
    value longer than `Lm` bits enters `reconstructZ` as the SHA-256 of the bytes of its absolute
    value (`attrExp`), so `-x` would verify wherever an oversized signed `x` does; `wellFormed`
    rejects such a value (for every entry of the disclosed map, in any order, before anything is
    reconstructed), hence no accepted proof contains one. No side condition. -/
theorem accept_disclosed_not_negative_oversized
    (h : p.verifyWith o kid pk ctx nonce issig i1 i2 = .ok true) :
    ∀ i a, (i, some a) ∈ p.aDisclosed → ¬ (a < 0 ∧ bitLen a > pk.params.Lm) := by
  obtain ⟨_, _, _, _, _, hN⟩ := (ProofD.wellFormed_iff pk p).mp (ProofD.verifyWith_wellFormed h)
  intro i a hia
  exact hN (i, some a) hia a rfl

/-- In an accepted proof every hidden-value response lies in `[0, 2^(LmCommit+1))` and the
    exponent response in `[0, 2^(LeCommit+1))` (`correctResponseSizes`; in particular none is
    missing or negative). -/
theorem accept_ranges (h : p.verifyWith o kid pk ctx nonce issig i1 i2 = .ok true) :
    (∀ kv ∈ p.aResponses, ∃ r, kv.2 = some r ∧ 0 ≤ r ∧ r < 2 ^ (pk.params.LmCommit + 1)) ∧
    (∃ e, p.eResponse = some e ∧ 0 ≤ e ∧ e < 2 ^ (pk.params.LeCommit + 1)) := by
  obtain ⟨hA, e, he, he0, he1⟩ := ProofD.verifyWith_responseSizes h
  refine ⟨?_, e, he, he0, Int.lt_of_le_sub_one he1⟩
  intro kv hkv
  obtain ⟨r, hr, h0, h1⟩ := hA kv hkv
  exact ⟨r, hr, h0, Int.lt_of_le_sub_one h1⟩

/-- The challenge of an accepted proof is the Fiat–Shamir hash of the context, the commitments
    the verifier reconstructs from the proof (`challengeContribution`, for the first choice
    `i1`) and the nonce. -/
theorem accept_challenge (h : p.verifyWith o kid pk ctx nonce issig i1 i2 = .ok true) :
    ∃ contrib p', (p.challengeContribution o kid pk i1).run = .ok (some (contrib, p')) ∧
      p.c = some ((createChallenge ctx nonce contrib issig : Nat) : Int) :=
  ProofD.verifyWith_challenge h

/-- Every range proof of an accepted proof is checked, `lookup` form: for the list of proofs the
    map yields for `index`, every non-nil proof sits on a hidden index, its structure can be
    extracted for that index, and the structure check succeeded with `MResponse` set to the
    hidden response `AResponses[index]`. No hypothesis on duplicates. -/
theorem accept_rangeproofs_lookup {rps : List (Int × List (Option RangeProof))}
    (h : p.verifyWith o kid pk ctx nonce issig i1 i2 = .ok true) (hrps : p.rangeProofs = some rps)
    {index : Int} {proofs : List (Option RangeProof)} (hl : rps.lookup index = some proofs)
    {rp : RangeProof} (hrp : some rp ∈ proofs) :
    p.aResponses.has index = true ∧ ∃ s, rp.extractStructure index pk = some s ∧
      s.verifyProofStructure pk { rp with mResponse := p.aResponses.get index } = true := by
  obtain ⟨contrib, p', hc, _⟩ := ProofD.verifyWith_ok_true h
  obtain ⟨F⟩ := ProofD.challengeContribution_ok_some hc
  obtain ⟨_, _, hA, _, hR, _⟩ := (ProofD.wellFormed_iff pk p).mp F.wellFormed
  rw [hrps] at hR
  have hhas := (hR _ (lookup_mem hl)).1
  obtain ⟨v, hv⟩ := IntMap.exists_mem_of_has hhas
  have h0 : 0 ≤ index := (hA _ hv).2.1
  have hp1 := F.nonrev.frame
  -- the part contributed by `index`, and in it the step of `rp`
  obtain ⟨structs, parts, hstructs, hF, -⟩ := ProofD.rangeContributions_shape F.range (hp1.1.trans hrps)
  obtain ⟨part, -, hpart⟩ :=
    forall₂_mem_left hF (F.afterNonrev.mem_rangeIndices h0 (by rw [hp1.2]; exact hhas))
  obtain ⟨ss, mresp, css, hm, hex', hsteps, -⟩ := RangeIndexRel.of_lookup hstructs hl hpart
  obtain ⟨s, hs, rp', hrp', hex⟩ := forall₂_mem_zip hex' hrp
  cases hrp'
  obtain ⟨cs, -, rp'', hrp'', hv, -⟩ := forall₂_mem_left hsteps hs
  cases hrp''
  rw [hp1.2] at hm
  exact ⟨hhas, s, hex, by rw [hm]; exact hv⟩

/-- Every non-nil range proof stored under any key of the range-proof map of an accepted proof sits
    on a hidden index and passed the structure check with `MResponse := AResponses[index]`. The
    hypothesis says that `rps` really is a map (no duplicate keys, as produced by the decoder); it
    is needed because `lookup` on an association list only sees the first entry of a key. No such
    hypothesis is needed for `aResponses`. -/
theorem accept_rangeproofs_checked {rps : List (Int × List (Option RangeProof))}
    (h : p.verifyWith o kid pk ctx nonce issig i1 i2 = .ok true) (hrps : p.rangeProofs = some rps)
    (hnd : (rps.map (·.1)).Nodup) :
    ∀ kv ∈ rps, ∀ rp, some rp ∈ kv.2 →
      p.aResponses.has kv.1 = true ∧ ∃ s, rp.extractStructure kv.1 pk = some s ∧
        s.verifyProofStructure pk { rp with mResponse := p.aResponses.get kv.1 } = true := by
  intro kv hkv rp hrp
  exact accept_rangeproofs_lookup h hrps (lookup_of_mem_nodup hnd (show (kv.1, kv.2) ∈ rps from hkv)) hrp

/-- In an accepted proof every key of the range-proof map is a hidden index and no list of the
    map has a nil entry (both are conditions of `wellFormed`). -/
theorem accept_rangeproofs_nonnil {rps : List (Int × List (Option RangeProof))}
    (h : p.verifyWith o kid pk ctx nonce issig i1 i2 = .ok true) (hrps : p.rangeProofs = some rps) :
    ∀ kv ∈ rps, p.aResponses.has kv.1 = true ∧ ∀ rp ∈ kv.2, rp.isSome := by
  obtain ⟨_, _, _, _, hR, _⟩ := (ProofD.wellFormed_iff pk p).mp (ProofD.verifyWith_wellFormed h)
  rw [hrps] at hR
  exact hR

/-- For every non-nil range proof that the map of an accepted proof yields for `index` (`lookup`
    form, as in `accept_rangeproofs_lookup`): every commitment `C_i` is present and a unit modulo
    `n` (`0 < C_i < n`, `gcd(C_i, n) = 1`), all responses `d_i`, `v_i`, `v5` are present and
    non-negative, and so is the hidden response `AResponses[index]` the proof is tied to. -/
theorem accept_rangeproof_units {rps : List (Int × List (Option RangeProof))}
    (h : p.verifyWith o kid pk ctx nonce issig i1 i2 = .ok true) (hrps : p.rangeProofs = some rps)
    {index : Int} {proofs : List (Option RangeProof)} (hl : rps.lookup index = some proofs)
    {rp : RangeProof} (hrp : some rp ∈ proofs) :
    (∀ c ∈ rp.cs, ∃ x, c = some x ∧ 0 < x ∧ x < pk.n ∧ Int.gcd x pk.n = 1) ∧
    (∀ d ∈ rp.ds, ∃ x, d = some x ∧ 0 ≤ x) ∧ (∀ v ∈ rp.vs, ∃ x, v = some x ∧ 0 ≤ x) ∧
    (∃ x, rp.v5 = some x ∧ 0 ≤ x) ∧ (∃ m, p.aResponses.get index = some m ∧ 0 ≤ m) := by
  obtain ⟨_, s, _, hv⟩ := accept_rangeproofs_lookup h hrps hl hrp
  exact RangeStructure.verifyProofStructure_units hv

/-- The non-revocation proof of an accepted disclosure proof has bases `C_r`, `C_u`
    that are present, positive and coprime to `n` (units modulo `n`; they need not be reduced
    below `n` — a refreshed prepared commitment may carry an unreduced `C_u`). -/
theorem accept_nonrev_units {nr : NonRevProof}
    (h : p.verifyWith o kid pk ctx nonce issig i1 i2 = .ok true) (hnr : p.nonrev = some nr) :
    ∃ cr cu, nr.cr = some cr ∧ nr.cu = some cu ∧
      0 < cr ∧ Int.gcd cr pk.n = 1 ∧ 0 < cu ∧ Int.gcd cu pk.n = 1 := by
  obtain ⟨contrib, p', hc, _⟩ := ProofD.verifyWith_ok_true h
  obtain ⟨F⟩ := ProofD.challengeContribution_ok_some hc
  rcases F.nonrev with ⟨hnone, _, _⟩ | ⟨nr0, resp, nr', hnr0, _, _, hse, _, _⟩
  · rw [hnr] at hnone; cases hnone
  · cases hnr.symm.trans hnr0
    obtain ⟨S⟩ := (Misc.setExpected_eq_some_iff ..).mp hse
    have hu := S.basesAreUnits
    rw [S.result_eq] at hu
    obtain ⟨cr, cu, h1, h2, ⟨a1, a3⟩, ⟨b1, b3⟩⟩ := ((Misc.basesAreUnits_iff pk _).mp hu).1
    exact ⟨cr, cu, h1, h2, a1, a3, b1, b3⟩
end

/-! ### non-vacuity: a concrete accepted proof

  Toy key `n = 253`, a valid signature on the attributes `[3, 5, 7]`, attribute 1 disclosed.
  The proof is produced by the prover model and accepted by `verifyWith` (checked by evaluation:
  SHA-256 and modular exponentiation do not reduce in the kernel). -/
namespace Demo

def params : SysParams := SysParams.ofBase toyBase
def sig : CLSignature := { a := 4, e := 2 ^ (params.Le - 1) + 5, v := 11 }
/-- `Z := A^e · S^v · ∏ R_i^{m_i}`, so that `sig` is a valid signature on `[3, 5, 7]`. -/
def pk : PublicKey :=
  { n := 253, s := 4, g := none, h := none, r := [9, 16, 25], counter := 0,
    z := (powMod 4 sig.e.toNat 253 * powMod 4 11 253 * powMod 9 3 253 * powMod 16 5 253 *
          powMod 25 7 253 % 253 : Nat),
    params := params, hasEcdsa := false, issuer := "demo" }
def rnd : DisclosureRandomness :=
  { r := 17, eCommit := 1234567, vCommit := 7654321, attr := [(0, 1111), (2, 2222)] }
def proof : GoM ProofD := createDisclosureProof pk sig [3, 5, 7] [1] rnd 42 43 false
def accepted : GoM Bool := do
  let p ← proof
  p.verifyWith (fun _ _ => none) "" pk 42 43 false (-1) (-1)

#guard accepted == .ok true
-- the same proof with an (empty, non-nil) range-proof map is accepted as well
#guard (do let p ← proof
           ({ p with rangeProofs := some [] }).verifyWith (fun _ _ => none) "" pk 42 43 false (-1) (-1))
        == (.ok true : GoM Bool)
-- `accept_disclosed_not_negative_oversized`: with the disclosed value replaced by a negative
-- value longer than `Lm` = 256 bits the proof is not well-formed (and not accepted); the
-- magnitude alone does not make it ill-formed
#guard (do let p ← proof
           pure (({ p with aDisclosed := [(1, some (-(2 ^ 300)))] }).wellFormed pk,
                 ({ p with aDisclosed := [(1, some (2 ^ 300))] }).wellFormed pk))
        == (.ok (false, true) : GoM (Bool × Bool))
#guard (do let p ← proof
           ({ p with aDisclosed := [(1, some (-(2 ^ 300)))] }).verifyWith (fun _ _ => none) "" pk 42 43 false (-1) (-1))
        == (.ok false : GoM Bool)

end Demo

/-! ### algebra and parameter arithmetic (proved in GabiProofs.GroupAlgebra, GabiProofs.ParamsC01) -/

section Algebra
open Gabi.Alg
variable {G : Type*} [CommGroup G] {ι : Type*}

/-- **honest proofs reconstruct**: for a randomised signature `A'^e · ∏_D R_i^{a_i} · ∏_H R_j^{m_j} · S^{v'} = Z`
    the verifier's reconstruction `(Z/(A'^{E0}∏_D R_i^{a_i}))^{-c} A'^{ê} S^{v̂} ∏_H R_j^{ŝ_j}` from the
    honest responses equals the prover's commitment `A'^{ẽ} S^{ṽ} ∏_H R_j^{r_j}` — in every
    commutative group (so in particular in QR_n), for all exponents. -/
theorem honest_reconstructs {A' S Z : G} (R : ι → G) (D H : List ι) (a m rr : ι → ℤ)
    {e v' eC vC c E0 : ℤ}
    (hsig : A' ^ e * rep R a D * rep R m H * S ^ v' = Z) :
    (Z / (A' ^ E0 * rep R a D)) ^ (-c) * A' ^ (eC + c * (e - E0)) * S ^ (vC + c * v') *
        rep R (fun j => rr j + c * m j) H
      = A' ^ eC * S ^ vC * rep R rr H :=
  proofD_complete R D H a m rr hsig

/-- **special soundness**: two accepting transcripts with the same first message give
    `K^(c-c') = A'^Δe · S^Δv · ∏_H R_j^{Δs_j}` where `K = Z/(A'^{E0} ∏_D R_i^{a_i})` contains the
    *reported* disclosed values: the extractor's equation from which (CRYPTO-HYP: strong RSA,
    CL unforgeability) the disclosed values are the signed ones. -/
theorem special_soundness {A' S K T : G} (R : ι → G) (H : List ι) (s s' : ι → ℤ)
    {c c' eR eR' vR vR' : ℤ}
    (h1 : K ^ (-c) * A' ^ eR * S ^ vR * rep R s H = T)
    (h2 : K ^ (-c') * A' ^ eR' * S ^ vR' * rep R s' H = T) :
    K ^ (c - c') = A' ^ (eR - eR') * S ^ (vR - vR') * rep R (fun j => s j - s' j) H :=
  proofD_special_soundness R H s s' h1 h2
end Algebra

/-- **a trapdoor holder gains nothing by shifting a hidden response**: for every default
    parameter set (`ParamsSound`, proved from the regenerated tables) and group order
    `ord ≥ 2^(Ln-4)` (two Ln/2-bit safe primes: `order_lower_bound`), among `s + k·ord` at most
    `k = 0` passes the range check of `correctResponseSizes`. False for the toy parameters of the
    test-suite (`order_shift_toy_fails`). -/
theorem order_shift_excluded {P : SysParams} (hP : ParamsSound P) {ord s k : Int}
    (hord : 2 ^ (P.Ln - 4) ≤ ord) (hs0 : 0 ≤ s) (hs : s < 2 ^ (P.LmCommit + 1)) (hk : k ≠ 0) :
    ¬ (0 ≤ s + k * ord ∧ s + k * ord < 2 ^ (P.LmCommit + 1)) :=
  Gabi.order_shift_excluded hP hord hs0 hs hk

/-- **Nor by shifting the exponent response**: for `ParamsSound` parameters and group order
    `ord ≥ 2^(Ln-4)`, among `e + k·ord` only `k = 0` lies in `[0, 2^(LeCommit+1))`, the range
    `correctResponseSizes` allows for `eResponse`. -/
theorem order_shift_excluded_e {P : SysParams} (hP : ParamsSound P) {ord s k : Int}
    (hord : 2 ^ (P.Ln - 4) ≤ ord) (hs0 : 0 ≤ s) (hs : s < 2 ^ (P.LeCommit + 1)) (hk : k ≠ 0) :
    ¬ (0 ≤ s + k * ord ∧ s + k * ord < 2 ^ (P.LeCommit + 1)) :=
  Gabi.order_shift_excluded_e hP hord hs0 hs hk

/-- **A trapdoor holder gains nothing by shifting a disclosed value**: for `ParamsSound`
    parameters and group order `ord ≥ 2^(Ln-4)`, a value `a'` different from a disclosed `a` of at
    most `Lm` bits but congruent to it modulo `ord` is longer than `Lm` bits, so the verifier
    hashes it (`attrExp`) and uses a different exponent. -/
theorem disclosed_shift_excluded {P : SysParams} (hP : ParamsSound P) {ord a a' : Int}
    (hord : 2 ^ (P.Ln - 4) ≤ ord) (ha0 : 0 ≤ a) (ha : bitLen a ≤ P.Lm)
    (hc : a % ord = a' % ord) (hne : a ≠ a') : bitLen a' > P.Lm :=
  Gabi.disclosed_shift_excluded hP hord ha0 ha hc hne

/-- The default parameter sets of gabi (`IsDefaultParams`, from the regenerated tables) satisfy
    `ParamsSound`, the hypothesis of the three shift theorems. -/
theorem default_params_sound {P : SysParams} (h : IsDefaultParams P) : ParamsSound P :=
  Gabi.default_params_sound h

end Gabi.C01

#print axioms Gabi.C01.accept_partition
#print axioms Gabi.C01.accept_disclosed_not_negative_oversized
#print axioms Gabi.C01.accept_ranges
#print axioms Gabi.C01.accept_challenge
#print axioms Gabi.C01.accept_rangeproofs_lookup
#print axioms Gabi.C01.accept_rangeproofs_checked
#print axioms Gabi.C01.accept_rangeproofs_nonnil
#print axioms Gabi.C01.accept_rangeproof_units
#print axioms Gabi.C01.accept_nonrev_units
