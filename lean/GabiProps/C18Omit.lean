/-
  C18 (part) — "a re-read proof … verifies exactly as the original did".
  The fields of a disclosure proof that are not serialised (Go tags `json:"-"`: `Nu` and
  `Challenge` of `revocation.Proof`, `MResponse` of `rangeproof.Proof`; and the response "alpha",
  which `CreateProof` deletes) do not influence verification, and the model's decoder
  (`GabiModel.Decode`, which the correspondence run compares with encoding/json + gabi's
  unmarshalers in the ops `verifyD`, `verifylist` and `verifyU`) inverts a canonical encoder.
  Helper lemmas: GabiProofs.OmittedFields (stripping), GabiProofs.ProofCodec (encoder, decoder),
  GabiProofs.ProofCodecClosure (inversion of the decoder).
-/
import GabiProofs.ProofCodecClosure
namespace Gabi.C18
open Gabi Gabi.Wire Lean

/-! ## fields that are not serialised do not matter -/

/-- `SetExpected` overwrites `nu`, `challenge` and "alpha" before anything reads them: it returns
    the very same proof (or the same error) whether or not these fields were cleared before. -/
theorem setExpected_ignores_omitted (o : SigOracle) (kid : String) (pk : PublicKey) (nr : NonRevProof)
    (c resp : Int) : nr.strip.setExpected o kid pk c resp = nr.setExpected o kid pk c resp :=
  NonRevProof.setExpected_strip o kid pk nr c resp

/-- A disclosure proof whose omitted fields hold arbitrary junk gets the verdict of the proof with
    these fields cleared — for every signature oracle, key, session and pair of
    `revocationAttrIndex` picks; "verdict" includes a panic, should there be one. No hypothesis
    on the proof is needed (in particular none on duplicate response names). -/
theorem omitted_fields_restored (o : SigOracle) (kid : String) (pk : PublicKey) (p : ProofD)
    (ctx nonce : Int) (issig : Bool) (i1 i2 : Int) :
    p.strip.verifyWith o kid pk ctx nonce issig i1 i2 = p.verifyWith o kid pk ctx nonce issig i1 i2 :=
  ProofD.omitted_fields_restored o kid pk p ctx nonce issig i1 i2

/-- Clearing the omitted fields does not change the picks `revocationAttrIndex` can make. -/
theorem revChoices_strip (p : ProofD) : p.strip.revChoices = p.revChoices := ProofD.revChoices_strip p

/-- `ProofList.Verify` gives the same verdict on a proof list and on the list with the omitted
    fields of every member cleared. -/
theorem proofList_verify_strip (o : SigOracle) (keys : List (String × PublicKey)) (pl : List Proof)
    (ctx nonce : Int) (issig : Bool) (kss : List String) (choices : List (Int × Int)) :
    proofListVerifyWith o keys (pl.map Proof.strip) ctx nonce issig kss choices =
      proofListVerifyWith o keys pl ctx nonce issig kss choices :=
  Gabi.proofList_verify_strip o keys pl ctx nonce issig kss choices

/-- The model's convention that maps have no duplicate keys holds of decoded proofs: the response
    map of a decoded non-revocation proof has distinct names whenever the JSON object is a
    well-formed tree map, which every parsed object is. -/
theorem decoded_responses_nodup (direct : Bool) (t : Std.TreeMap.Raw String Json compare) (ht : t.WF)
    (l : List (String × Option Int)) (h : Decode.strMap (.obj t) direct = .ok l) :
    (l.map (·.1)).Nodup := by
  rcases strMap_ok_inv h with ⟨⟨⟩, _⟩ | ⟨_, ⟨⟩, hl⟩
  rw [List.Nodup, List.pairwise_map]
  refine forall₂_pairwise hl (Std.TreeMap.Raw.distinct_keys_toList ht) ?_
  intro a _ b _ a' b' ha hb hab heq
  exact hab (Std.LawfulEqCmp.compare_eq_iff_eq.mpr (by rw [← ha.1, ← hb.1, heq]))

/-! ## leaves of the message trees -/

/-- big integers travel as `{"$i": hex}`: the hexadecimal text (with sign) parses back. -/
theorem hex_int_roundtrip (z : Int) : parseHexInt? (hexOfInt z) = some z := parseHexInt_hexOfInt z

/-- byte strings travel as `{"$b": hex}`: the hexadecimal text parses back to the bytes. -/
theorem hex_bytes_roundtrip (bs : List UInt8) : parseHexBytes? (hexOfBytes bs) = some bs :=
  parseHexBytes_hexOfBytes bs

/-- a `*big.Int` position (`null` for nil, else the leaf `{"$i": hex}`) decodes to the integer
    that was encoded. A negative number only passes with `direct`, i.e. when the tree stands for an
    in-memory object that never was JSON text: `big.Int.UnmarshalJSON` refuses negative numbers. -/
theorem big_roundtrip (direct : Bool) (x : Option Int) (h : ∀ z, x = some z → direct = true ∨ 0 ≤ z) :
    Decode.big (Enc.big x) direct = .ok x := decode_big direct x h

/-! ## the decoder inverts the canonical encoder -/

/-- `Decode.proofD (p.toTree) = p.reread` for every proof the wire can carry (`WireOk`:
    non-negative integers unless `direct`, distinct 64-bit map keys, 64-bit counters; nothing is
    assumed about the omitted fields). `reread` clears the omitted fields and lists every map in
    the order of its key texts — the order in which a JSON object yields its members. -/
theorem decode_encode (direct : Bool) (p : ProofD) (hw : p.WireOk direct) :
    Decode.proofD p.toTree direct = .ok p.reread := decode_encode_proofD direct p hw

/-- Decoding the canonical tree of a proof the wire can carry whose maps are already listed in
    key-text order returns the proof with its omitted fields cleared (`p.strip`). -/
theorem decode_encode_sorted (direct : Bool) (p : ProofD) (hw : p.WireOk direct) (hs : p.MapsSorted) :
    Decode.proofD p.toTree direct = .ok p.strip := by
  rw [decode_encode direct p hw, ProofD.reread_eq_strip p hs]

/-- What comes back from the wire (`p.reread`) is the proof with its omitted fields cleared, up to
    a permutation of each map. -/
theorem reread_is_strip_up_to_order (direct : Bool) (p : ProofD) (hw : p.WireOk direct) :
    p.reread.c = p.c ∧ p.reread.a = p.a ∧ p.reread.eResponse = p.eResponse ∧
    p.reread.vResponse = p.vResponse ∧
    p.reread.aResponses.Perm p.aResponses ∧ p.reread.aDisclosed.Perm p.aDisclosed ∧
    (∀ nr, p.nonrev = some nr → ∃ nr', p.reread.nonrev = some nr' ∧ nr'.cr = nr.cr ∧ nr'.cu = nr.cu ∧
      nr'.nu = none ∧ nr'.challenge = none ∧ nr'.sacc = nr.sacc ∧
      nr'.responses.Perm nr.strip.responses) ∧
    (p.nonrev = none → p.reread.nonrev = none) ∧
    (∀ m, p.rangeProofs = some m → ∃ m', p.reread.rangeProofs = some m' ∧ m'.Perm (stripRPMap m)) ∧
    (p.rangeProofs = none → p.reread.rangeProofs = none) :=
  ⟨rfl, rfl, rfl, rfl, sortByKey_perm (keyedDistinct_toString hw.aResponses.nodup),
    sortByKey_perm (keyedDistinct_toString hw.aDisclosed.nodup),
    fun nr hnr => ⟨nr.reread, congrArg (Option.map NonRevProof.reread) hnr, rfl, rfl, rfl, rfl, rfl,
      sortByKey_perm (keyedDistinct_id (hw.nonrev nr hnr).responses.nodup)⟩,
    congrArg (Option.map NonRevProof.reread),
    fun m hm => ⟨rereadRPMap m, congrArg (Option.map rereadRPMap) hm,
      (sortByKey_perm (keyedDistinct_toString (hw.rangeProofs m hm).nodup)).map _⟩,
    congrArg (Option.map rereadRPMap)⟩

/-- An issuance commitment proof (`ProofU`: four integers and one map, nothing omitted) that the
    wire can carry and whose map is in key-text order decodes from its canonical tree to itself. -/
theorem decode_encode_proofU (direct : Bool) (p : ProofU) (hw : p.WireOk direct)
    (hs : KeyedSorted toString p.mUserResponses) :
    Decode.proofU p.toTree direct = .ok p := by
  rw [Gabi.decode_encode_proofU direct p hw, ProofU.reread_eq_self p hs]

/-- A list of proofs the wire can carry, their maps in key-text order, decodes from its canonical
    tree to the list of its stripped members:
    `ProofList.UnmarshalJSON` recognises every member as the kind it was (`A` resp. `U` present). -/
theorem decode_encode_proofList (direct : Bool) (pl : List Proof) (hw : ∀ pr ∈ pl, pr.WireOk direct)
    (hs : ∀ pr ∈ pl, pr.MapsSorted) :
    Decode.proofList (proofListToTree pl) direct = .ok (pl.map Proof.strip) := by
  rw [Gabi.decode_encode_proofList direct pl hw]
  congr 1
  exact List.map_congr_left (fun pr hpr => Proof.reread_eq_strip pr (hs pr hpr))

/-! ## a re-read proof verifies as the original did -/

/-- Encoding a proof the wire can carry, its maps listed in key-text order, and decoding it again
    yields a proof with the same `revocationAttrIndex` picks and the same verdict as the original —
    whatever `SetExpected` / `ChallengeContribution` of an earlier verification (or anybody else)
    had left in the omitted fields. (`C18.reread_verifies_same_any_order` drops the order
    hypothesis.) -/
theorem reread_verifies_same (direct : Bool) (p : ProofD) (hw : p.WireOk direct) (hs : p.MapsSorted) :
    ∃ q, Decode.proofD p.toTree direct = .ok q ∧ q.revChoices = p.revChoices ∧
      ∀ (o : SigOracle) (kid : String) (pk : PublicKey) (ctx nonce : Int) (issig : Bool) (i1 i2 : Int),
        q.verifyWith o kid pk ctx nonce issig i1 i2 = p.verifyWith o kid pk ctx nonce issig i1 i2 :=
  ⟨p.strip, decode_encode_sorted direct p hw hs, revChoices_strip p,
    fun o kid pk ctx nonce issig i1 i2 => omitted_fields_restored o kid pk p ctx nonce issig i1 i2⟩

/-- A list of proofs the wire can carry, their maps listed in key-text order, gets the
    `ProofList.Verify` verdict of the original after encoding and decoding. -/
theorem reread_list_verifies_same (direct : Bool) (pl : List Proof) (hw : ∀ pr ∈ pl, pr.WireOk direct)
    (hs : ∀ pr ∈ pl, pr.MapsSorted) :
    ∃ ql, Decode.proofList (proofListToTree pl) direct = .ok ql ∧
      ∀ (o : SigOracle) (keys : List (String × PublicKey)) (ctx nonce : Int) (issig : Bool)
        (kss : List String) (choices : List (Int × Int)),
        proofListVerifyWith o keys ql ctx nonce issig kss choices =
          proofListVerifyWith o keys pl ctx nonce issig kss choices :=
  ⟨pl.map Proof.strip, decode_encode_proofList direct pl hw hs,
    fun o keys ctx nonce issig kss choices => proofList_verify_strip o keys pl ctx nonce issig kss choices⟩

/-! ## non-vacuity -/

/-- a proof with a non-revocation proof and a range proof, all omitted fields filled with junk. -/
def exD : ProofD :=
  { c := some 5, a := some 7, eResponse := some 1, vResponse := some 2,
    aResponses := [(0, some 3), (1, some 4)], aDisclosed := [(2, some 9)],
    nonrev := some { cr := some 2, cu := some 3, nu := some 99, challenge := some 98,
                     responses := [("alpha", some 77), ("beta", some 1), ("epsilon", some 2)],
                     sacc := some { data := some [1, 2], pkCounter := 0 } },
    rangeProofs := some [(1, [some { cs := [some 1], ds := [none], vs := [], v5 := some 3,
                                     mResponse := some 1234, ld := 8, sign := 1, a := 1, k := some 0 }])] }

example : exD.WireOk false :=
  { c := by decide
    a := by decide
    eResponse := by decide
    vResponse := by decide
    aResponses := ⟨by decide, by decide, by decide⟩
    aDisclosed := ⟨by decide, by decide, by decide⟩
    nonrev := by
      rintro nr ⟨⟩
      exact ⟨by decide, by decide, ⟨by decide, by decide⟩, by rintro s ⟨⟩; decide⟩
    rangeProofs := by
      rintro m ⟨⟩
      refine ⟨by decide, by decide, ?_⟩
      simp only [List.mem_singleton, forall_eq]
      rintro r ⟨⟩
      exact ⟨by decide, by decide, by decide, by decide, by decide, by decide, by decide, by decide⟩ }

example : exD.MapsSorted := by
  constructor
  · unfold KeyedSorted; decide
  · unfold KeyedSorted; decide
  · intro nr hnr
    simp only [exD, Option.some.injEq] at hnr
    subst hnr
    unfold KeyedSorted; decide
  · intro m hm
    simp only [exD, Option.some.injEq] at hm
    subst hm
    unfold KeyedSorted; decide

/-- the omitted fields of `exD` are really different from the stripped ones. -/
example : exD.strip ≠ exD := by decide

end Gabi.C18

#print axioms Gabi.C18.setExpected_ignores_omitted
#print axioms Gabi.C18.omitted_fields_restored
#print axioms Gabi.C18.revChoices_strip
#print axioms Gabi.C18.proofList_verify_strip
#print axioms Gabi.C18.decoded_responses_nodup
#print axioms Gabi.C18.hex_int_roundtrip
#print axioms Gabi.C18.hex_bytes_roundtrip
#print axioms Gabi.C18.big_roundtrip
#print axioms Gabi.C18.decode_encode
#print axioms Gabi.C18.decode_encode_sorted
#print axioms Gabi.C18.reread_is_strip_up_to_order
#print axioms Gabi.C18.decode_encode_proofU
#print axioms Gabi.C18.decode_encode_proofList
#print axioms Gabi.C18.reread_verifies_same
#print axioms Gabi.C18.reread_list_verifies_same
