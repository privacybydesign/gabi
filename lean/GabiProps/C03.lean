/-
  C03 — Linked secrets in a proof list.
  "Verification of a proof list with a keyshare-server labelling accepts the list only if all
  proofs carrying the same label prove knowledge of the same secret-key value (with no labelling:
  all proofs in the list). Lists that combine credentials or issuance commitments holding
  different secrets under one label are rejected even though each member verifies on its own,
  also when the colluding holders pool all their secrets."

  Property theorems about `proofListVerifyWith` (prooflist.go:ProofList.Verify), `ProofU` and
  `ProofD` of GabiModel.Proofs; helper lemmas live in GabiProofs.ListLogic.

  `choices` is the model's parameter for the picks of `revocationAttrIndex` (one pair per proof);
  the theorems need `pl.length ≤ choices.length` (every proof has its pair) — with fewer pairs
  the model only looks at a prefix of the list, see `C02.choices_nil_accepts`.
-/
import GabiModel.Proofs
import GabiProofs.ListLogic
import Mathlib.Tactic.NormNum
import Mathlib.Algebra.Group.Basic
namespace Gabi.C03
open Gabi

/-! ### the decision logic: one label, one secret-key response -/

/-- **Same label ⇒ same response.** In an accepted list any two proofs with the same
    keyshare-server label (`SameLabel kss i j`: no labelling at all, or `kss[i] = kss[j]`) report
    the same secret-key response, and that response is present (non-nil) in both.
    `Proof.secretKeyResponse` is `AResponses[0]` of a disclosure proof and `SResponse` of an
    issuance commitment proof. -/
theorem same_label_same_response {o : SigOracle} {keys : List (String × PublicKey)}
    {pl : List Proof} {ctx nonce : Int} {issig : Bool} {kss : List String}
    {choices : List (Int × Int)}
    (h : proofListVerifyWith o keys pl ctx nonce issig kss choices = .ok true)
    (hc : pl.length ≤ choices.length) {i j : Nat} (hij : i < j) (hj : j < pl.length)
    (hlab : SameLabel kss i j) :
    ∃ v, (pl[i]'(by omega)).secretKeyResponse = some v ∧ (pl[j]'hj).secretKeyResponse = some v := by
  have hlab' : labelOf kss i = labelOf kss j := by
    rcases hlab with rfl | hlab
    · rfl
    · rw [labelOf, labelOf, hlab]
  obtain ⟨⟨-, hk, -⟩, -, hL⟩ := accepted_items h
  rw [plItems_map_resp hk hc] at hL
  -- the second loop leaves any two equally labelled responses equal and non-nil
  have hlen : (labelled kss 0 (pl.map Proof.secretKeyResponse)).length = pl.length := by
    simp only [labelled, List.length_map, List.length_zipIdx]
  have hp := List.pairwise_iff_getElem.mp hL.sound.2 i j (by omega) (by omega) hij
  simpa only [labelled, List.getElem_map, List.getElem_zipIdx, Nat.zero_add, hlab',
    forall_const] using hp

/-- In an accepted list two proofs with the same keyshare-server label report equal secret-key
    responses, and the response is present. -/
theorem same_label_same_response_eq {o : SigOracle} {keys : List (String × PublicKey)}
    {pl : List Proof} {ctx nonce : Int} {issig : Bool} {kss : List String}
    {choices : List (Int × Int)}
    (h : proofListVerifyWith o keys pl ctx nonce issig kss choices = .ok true)
    (hc : pl.length ≤ choices.length) {i j : Nat} (hij : i < j) (hj : j < pl.length)
    (hlab : SameLabel kss i j) :
    (pl[i]'(by omega)).secretKeyResponse = (pl[j]'hj).secretKeyResponse ∧
      ((pl[i]'(by omega)).secretKeyResponse).isSome = true := by
  obtain ⟨v, h1, h2⟩ := same_label_same_response h hc hij hj hlab
  rw [h1, h2]; exact ⟨rfl, rfl⟩

/-- with no labelling every pair of proofs is linked. -/
theorem no_labelling_all_linked {o : SigOracle} {keys : List (String × PublicKey)}
    {pl : List Proof} {ctx nonce : Int} {issig : Bool} {choices : List (Int × Int)}
    (h : proofListVerifyWith o keys pl ctx nonce issig [] choices = .ok true)
    (hc : pl.length ≤ choices.length) {i j : Nat} (hij : i < j) (hj : j < pl.length) :
    ∃ v, (pl[i]'(by omega)).secretKeyResponse = some v ∧ (pl[j]'hj).secretKeyResponse = some v :=
  same_label_same_response h hc hij hj (Or.inl rfl)

/-- **Different responses under one label ⇒ rejected.** Whatever else is in the list and whatever
    the individual proofs look like (each may verify on its own): if two proofs with the same
    label report different secret-key responses, the list is not accepted. The result is
    `false` or a (modelled) panic, never `true`. -/
theorem different_response_rejected {o : SigOracle} {keys : List (String × PublicKey)}
    {pl : List Proof} {ctx nonce : Int} {issig : Bool} {kss : List String}
    {choices : List (Int × Int)}
    (hc : pl.length ≤ choices.length) {i j : Nat} (hij : i < j) (hj : j < pl.length)
    (hlab : SameLabel kss i j)
    (hne : (pl[i]'(by omega)).secretKeyResponse ≠ (pl[j]'hj).secretKeyResponse) :
    proofListVerifyWith o keys pl ctx nonce issig kss choices ≠ .ok true := by
  intro h
  exact hne (same_label_same_response_eq h hc hij hj hlab).1

/-- If one of two proofs with the same label has no secret-key response (nil), the list is not
    accepted. -/
theorem missing_response_rejected {o : SigOracle} {keys : List (String × PublicKey)}
    {pl : List Proof} {ctx nonce : Int} {issig : Bool} {kss : List String}
    {choices : List (Int × Int)}
    (hc : pl.length ≤ choices.length) {i j : Nat} (hij : i < j) (hj : j < pl.length)
    (hlab : SameLabel kss i j)
    (hnone : (pl[i]'(by omega)).secretKeyResponse = none ∨ (pl[j]'hj).secretKeyResponse = none) :
    proofListVerifyWith o keys pl ctx nonce issig kss choices ≠ .ok true := by
  intro h
  obtain ⟨v, h1, h2⟩ := same_label_same_response h hc hij hj hlab
  rcases hnone with hn | hn
  · rw [hn] at h1; cases h1
  · rw [hn] at h2; cases h2

/-! ### the reported response is the whole exponent of the secret-key base `R₀` -/

/-- An accepted issuance commitment proof has no second response for base index 0: every entry
    of `MUserResponses` has key ≥ 1 (so `SResponse` cannot be complemented by an
    `MUserResponses[0]`), and an accepted disclosure proof hides index 0 and does not disclose
    it. -/
theorem proofU_no_second_secret_response {o : SigOracle} {keys : List (String × PublicKey)}
    {pl : List Proof} {ctx nonce : Int} {issig : Bool} {kss : List String}
    {choices : List (Int × Int)}
    (h : proofListVerifyWith o keys pl ctx nonce issig kss choices = .ok true)
    (hc : pl.length ≤ choices.length) :
    (∀ p, Proof.u p ∈ pl → (∀ kv ∈ p.mUserResponses, 1 ≤ kv.1) ∧ p.mUserResponses.has 0 = false) ∧
    (∀ p, Proof.d p ∈ pl → (∃ s, p.aResponses.get 0 = some s) ∧ p.aDisclosed.has 0 = false ∧
        (∀ kv ∈ p.aDisclosed, 1 ≤ kv.1)) := by
  constructor
  · intro p hp
    obtain ⟨-, key, -, hw⟩ := accepted_member h hc hp
    have hk := ProofU.wellFormed_keys (show p.wellFormed key.2 = true from hw)
    exact ⟨hk, IntMap.has_zero_of_pos hk⟩
  · intro p hp
    obtain ⟨-, key, -, hw⟩ := accepted_member h hc hp
    obtain ⟨h1, -, h3, h4⟩ := ProofD.wellFormed_facts (show p.wellFormed key.2 = true from hw)
    exact ⟨h1, h4, h3⟩

/-- **Issuance commitment: effective = reported.** For a well-formed `ProofU` the reconstructed
    commitment is `U^{-c} · S^{v'} · R₀^{s} · ∏ R_i^{m_i} (mod n)` where `s` is exactly the
    reported `SResponse` and every other factor uses a base `R_i` with `i ≥ 1`: no other factor
    contributes to the exponent of `R₀`. (`IsFactor pk (i, m) t` says `t = R_i^m mod n`.) -/
theorem effective_equals_reported_U {pk : PublicKey} {p : ProofU} {v : Int}
    (hw : p.wellFormed pk = true) (h : p.reconstructUcommit pk = .ok (some v)) :
    ∃ u c vp s r0 uc sv r0s ts,
      p.u = some u ∧ p.c = some c ∧ p.vPrimeResponse = some vp ∧
      (Proof.u p).secretKeyResponse = some s ∧ pk.r[0]? = some r0 ∧
      modPow u (-c) pk.n = some uc ∧ modPow pk.s vp pk.n = some sv ∧
      modPow r0 s pk.n = some r0s ∧
      List.Forall₂ (IsFactor pk) p.mUserResponses ts ∧ (∀ kv ∈ p.mUserResponses, 1 ≤ kv.1) ∧
      v % pk.n = (uc * sv * r0s * ts.prod) % pk.n := by
  obtain ⟨F⟩ := ProofU.reconstructUcommit_closed h
  exact ⟨F.u, F.c, F.vp, F.s, F.r0, F.uc, F.sv, F.r0s, F.factors, F.u_eq, F.c_eq,
    F.vPrimeResponse_eq, F.sResponse_eq, F.r0_eq, F.uc_eq, F.sv_eq, F.r0s_eq, F.factors_spec,
    ProofU.wellFormed_keys hw, F.v_eq⟩

/-- **Disclosure proof: effective = reported.** For a well-formed `ProofD` whose response map has
    no duplicate keys (a Go map cannot have any; the model's association list could) the
    reconstructed `Z` is
    `(Z·(A^{2^{le-1}}·∏_{disclosed} R_i^{a_i})^{-1})^{-c} · A^{e} · (∏₁ · R₀^{s} · ∏₂) · S^{v} mod n`
    where `s` is exactly the reported `AResponses[0]`, the other hidden factors `∏₁, ∏₂` use bases
    `R_i` with `i ≥ 1`, and so do the disclosed factors: `R₀` appears with exponent `s` only. -/
theorem effective_equals_reported_D {pk : PublicKey} {p : ProofD} {z : Int}
    (hw : p.wellFormed pk = true) (hnd : (p.aResponses.map (·.1)).Nodup)
    (h : p.reconstructZ pk = .ok (some z)) :
    ∃ a c er vr num0 ds inv knownC ae sv s r0 r0s l1 l2 ts1 ts2,
      p.a = some a ∧ p.c = some c ∧ p.eResponse = some er ∧ p.vResponse = some vr ∧
      goExp a (2 ^ (pk.params.Le - 1)) pk.n = some num0 ∧
      List.Forall₂ (IsDisclosedFactor pk) p.aDisclosed ds ∧ (∀ kv ∈ p.aDisclosed, 1 ≤ kv.1) ∧
      goModInverse (num0 * ds.prod) pk.n = some inv ∧
      modPow (pk.z * inv) (-c) pk.n = some knownC ∧ modPow a er pk.n = some ae ∧
      modPow pk.s vr pk.n = some sv ∧
      (Proof.d p).secretKeyResponse = some s ∧ pk.r[0]? = some r0 ∧
      modPow r0 s pk.n = some r0s ∧
      p.aResponses = l1 ++ (0, some s) :: l2 ∧ (∀ kv ∈ l1 ++ l2, 1 ≤ kv.1) ∧
      List.Forall₂ (IsFactor pk) l1 ts1 ∧ List.Forall₂ (IsFactor pk) l2 ts2 ∧
      z = knownC * ae * (ts1.prod * r0s * ts2.prod) * sv % pk.n := by
  obtain ⟨F⟩ := ProofD.reconstructZ_closed h
  obtain ⟨⟨s, hs⟩, hA, hD, -⟩ := ProofD.wellFormed_facts hw
  -- the entry of index 0 splits the hidden entries, and their factors with them
  obtain ⟨l1, l2, hl, hne⟩ := lookup_split _ _ _ hnd (IntMap.get_some_lookup hs)
  have hts := F.hidden_factors
  rw [hl] at hts
  obtain ⟨ts1, r2, hts12, hf1, hf2⟩ := forall₂_append_left _ _ _ hts
  cases hf2 with
  | @cons _ r0s _ ts2 hr0 hf2 =>
    obtain ⟨b, r, -, hb, hr, hpow⟩ := hr0
    simp only at hb hr
    have hsr : s = r := Option.some.inj hr
    subst hsr
    have hge : ∀ kv ∈ l1 ++ l2, 1 ≤ kv.1 := by
      intro kv hkv
      have h0 : 0 ≤ kv.1 := hA kv (by
        rw [hl]
        rcases List.mem_append.1 hkv with hm | hm
        · exact List.mem_append_left _ hm
        · exact List.mem_append_right _ (List.mem_cons_of_mem _ hm))
      have := hne kv hkv
      omega
    refine ⟨F.a, F.c, F.er, F.vr, F.aPow, F.disclosed, F.inv, F.knownC, F.ae, F.sv, s, b, r0s, l1, l2,
      ts1, ts2, F.a_eq, F.c_eq, F.eResponse_eq, F.vResponse_eq, F.aPow_eq, F.disclosed_factors, hD,
      F.inv_eq, F.knownC_eq, F.ae_eq, F.sv_eq, hs, hb, hpow, hl, hge, hf1, hf2, F.z_eq.trans ?_⟩
    rw [hts12, List.prod_append, List.prod_cons, mul_assoc ts1.prod]

/-! ### what the linked response proves: the same secret-key value in every member -/

/-- **Linked extraction** (the algebra of the knowledge extractor, in any commutative group).
    Member `k` (`k = 1, 2`) of a list verifies the equation `T_k = K_k^{-c} · R_k^{s} · W_k`, where
    `R_k` is the secret-key base `R₀` of its key, `s` the reported secret-key response (the whole
    exponent of `R₀` by `effective_equals_reported_*`) and `W_k` the remaining factors. Two
    accepting transcripts of the same prover with the same commitments `T_k`, challenges `c`, `c'`
    and linked responses `s`, `s'` (the same in both members by `same_label_same_response`) give
    for *both* members `K_k^{c-c'} = R_k^{s-s'} · (W_k / W_k')`: the extracted exponent of the
    secret-key base is the same integer `s - s'` relative to `c - c'`. -/
theorem linked_extraction {G : Type} [CommGroup G] (K₁ K₂ R₁ R₂ W₁ W₁' W₂ W₂' T₁ T₂ : G)
    (c c' s s' : ℤ)
    (h₁ : T₁ = K₁ ^ (-c) * R₁ ^ s * W₁) (h₁' : T₁ = K₁ ^ (-c') * R₁ ^ s' * W₁')
    (h₂ : T₂ = K₂ ^ (-c) * R₂ ^ s * W₂) (h₂' : T₂ = K₂ ^ (-c') * R₂ ^ s' * W₂') :
    K₁ ^ (c - c') = R₁ ^ (s - s') * (W₁ / W₁') ∧ K₂ ^ (c - c') = R₂ ^ (s - s') * (W₂ / W₂') := by
  -- special soundness of one member: solve both equations for `R^· * W` and divide
  have key : ∀ (K R W W' T : G), T = K ^ (-c) * R ^ s * W → T = K ^ (-c') * R ^ s' * W' →
      K ^ (c - c') = R ^ (s - s') * (W / W') := by
    intro K R W W' T e e'
    have hX : R ^ s * W = K ^ c * T := by
      rw [e, mul_assoc, ← mul_assoc, ← zpow_add, add_neg_cancel, zpow_zero, one_mul]
    have hX' : R ^ s' * W' = K ^ c' * T := by
      rw [e', mul_assoc, ← mul_assoc, ← zpow_add, add_neg_cancel, zpow_zero, one_mul]
    rw [zpow_sub, zpow_sub, ← div_eq_mul_inv, ← div_eq_mul_inv, div_mul_div_comm, hX, hX',
      mul_div_mul_right_eq_div]
  exact ⟨key K₁ R₁ W₁ W₁' T₁ h₁ h₁', key K₂ R₂ W₂ W₂' T₂ h₂ h₂'⟩

/-- Whenever the division in `linked_extraction` is exact (`s - s' = (c - c') · m`), both members
    prove knowledge of the *same* secret-key value `m = (s - s')/(c - c')`:
    `K_k^{c-c'} = (R_k^{m})^{c-c'} · (W_k / W_k')` for `k = 1, 2`. -/
theorem linked_extraction_same_secret {G : Type} [CommGroup G]
    (K₁ K₂ R₁ R₂ W₁ W₁' W₂ W₂' T₁ T₂ : G) (c c' s s' m : ℤ)
    (h₁ : T₁ = K₁ ^ (-c) * R₁ ^ s * W₁) (h₁' : T₁ = K₁ ^ (-c') * R₁ ^ s' * W₁')
    (h₂ : T₂ = K₂ ^ (-c) * R₂ ^ s * W₂) (h₂' : T₂ = K₂ ^ (-c') * R₂ ^ s' * W₂')
    (hm : s - s' = (c - c') * m) :
    K₁ ^ (c - c') = (R₁ ^ m) ^ (c - c') * (W₁ / W₁') ∧
      K₂ ^ (c - c') = (R₂ ^ m) ^ (c - c') * (W₂ / W₂') := by
  obtain ⟨e1, e2⟩ := linked_extraction K₁ K₂ R₁ R₂ W₁ W₁' W₂ W₂' T₁ T₂ c c' s s' h₁ h₁' h₂ h₂'
  rw [← zpow_mul, ← zpow_mul, mul_comm m, ← hm]
  exact ⟨e1, e2⟩

/-- the extracted value is determined by the transcripts alone: it is the same for every member,
    whichever equation it is read from. -/
theorem extracted_secret_unique (c c' s s' m₁ m₂ : ℤ) (hc : c ≠ c')
    (h1 : s - s' = (c - c') * m₁) (h2 : s - s' = (c - c') * m₂) : m₁ = m₂ := by
  have : (c - c') * m₁ = (c - c') * m₂ := by rw [← h1, ← h2]
  exact mul_left_cancel₀ (sub_ne_zero.2 hc) this

/-! ### non-vacuity -/

/-- the hypotheses of `same_label_same_response` are satisfiable: the two-proof list `Gabi.Ex`
    (end of GabiProofs.ListLogic) is accepted with no labelling and with the labelling `["a","a"]`;
    both members report the secret-key response `0`. -/
example : ∃ v, (Ex.pl[0]'(Nat.zero_lt_two)).secretKeyResponse = some v ∧
    (Ex.pl[1]'(Nat.one_lt_two)).secretKeyResponse = some v :=
  same_label_same_response (Ex.accepted ["a", "a"] (Or.inr rfl)) (Nat.le_refl 2)
    Nat.zero_lt_one Nat.one_lt_two (Or.inr rfl)

example : ∃ v, (Ex.pl[0]'(Nat.zero_lt_two)).secretKeyResponse = some v ∧
    (Ex.pl[1]'(Nat.one_lt_two)).secretKeyResponse = some v :=
  no_labelling_all_linked (Ex.accepted [] (Or.inl rfl)) (Nat.le_refl 2) Nat.zero_lt_one Nat.one_lt_two

/-- the hypotheses of `different_response_rejected` are satisfiable: replacing the second
    member's `SResponse` by 1 gives a list that is rejected under one label — for every key list,
    session, pick list and whatever the rest of the second proof looks like. -/
example (o : SigOracle) (keys : List (String × PublicKey)) (ctx nonce : Int) (issig : Bool)
    (choices : List (Int × Int)) (hc : 2 ≤ choices.length) (p2 : ProofU) :
    proofListVerifyWith o keys [.u (Ex.proofU Ex.C 0), .u { p2 with sResponse := some 1 }] ctx nonce
      issig ["a", "a"] choices ≠ .ok true :=
  different_response_rejected (pl := [.u (Ex.proofU Ex.C 0), .u { p2 with sResponse := some 1 }])
    hc Nat.zero_lt_one Nat.one_lt_two (Or.inr rfl) (by simp [Proof.secretKeyResponse, Ex.proofU])

/-- with *different* labels the same two responses are not compared: the linking is per label
    (`SameLabel` fails for `["a","b"]`). -/
example : ¬ SameLabel ["a", "b"] 0 1 := by
  rintro (h | h)
  · cases h
  · simp at h

/-- the hypotheses of `effective_equals_reported_U` hold for the example proofs. -/
example : (Ex.proofU Ex.C 55).wellFormed Ex.pk = true ∧
    ∃ v, (Ex.proofU Ex.C 55).reconstructUcommit Ex.pk = .ok (some v) := by
  obtain ⟨hw, -, v, -, hr, -⟩ := ProofU.challengeContribution_ok (Ex.contrib Ex.C 55 Ex.modPow_s55)
  exact ⟨hw, v, hr⟩

/-- hypotheses of `linked_extraction` are satisfiable (in `Multiplicative ℤ`, with trivial `W`, `W'`). -/
example : ∃ (K R W W' T : Multiplicative ℤ) (c c' s s' : ℤ), c ≠ c' ∧
    T = K ^ (-c) * R ^ s * W ∧ T = K ^ (-c') * R ^ s' * W' :=
  ⟨Multiplicative.ofAdd 3, Multiplicative.ofAdd 1, 1, 1, Multiplicative.ofAdd 0, 1, 2, 3, 6,
    by decide, by decide, by decide⟩

/-- **Why `effective_equals_reported_D` needs `Nodup` (model representation).** The model keeps
    `map[int]*big.Int` as an association list; `ProofD.wellFormed` does not exclude a repeated
    key, `AResponses[0]` reads the first entry, but `reconstructZ` multiplies all entries: with
    `[(0, 1), (0, 1)]` the reported response is 1 while `R₀ = 16` enters with exponent 2.
    A Go map cannot hold a key twice, so this cannot happen in Go, nor in a decoded value of the
    model: `Decode.intMap` keeps one entry per key (`dedupKeys_nodup` in
    GabiProofs.ProofCodecClosure). Only a `ProofD` value written down by hand can repeat a key. -/
example : IntMap.get [(0, some 1), (0, some 1)] 0 = some 1 ∧
    ProofD.reconstructZ.go Ex.pk [(0, some 1), (0, some 1)] 1 = .ok (some (16 * 16)) := by
  have h16 : modPow 16 1 253 = some 16 := by
    unfold modPow; rw [goExp_nonneg _ _ _ (by norm_num) (by norm_num)]; norm_num
  refine ⟨rfl, ?_⟩
  unfold ProofD.reconstructZ.go
  simp only [Ex.pk, idx, deref]
  simp [h16]
  unfold ProofD.reconstructZ.go
  simp only [idx, deref]
  simp [h16]
  rfl

end Gabi.C03

#print axioms Gabi.C03.same_label_same_response
#print axioms Gabi.C03.same_label_same_response_eq
#print axioms Gabi.C03.no_labelling_all_linked
#print axioms Gabi.C03.different_response_rejected
#print axioms Gabi.C03.missing_response_rejected
#print axioms Gabi.C03.proofU_no_second_secret_response
#print axioms Gabi.C03.effective_equals_reported_U
#print axioms Gabi.C03.effective_equals_reported_D
#print axioms Gabi.C03.linked_extraction
#print axioms Gabi.C03.linked_extraction_same_secret
#print axioms Gabi.C03.extracted_secret_unique
