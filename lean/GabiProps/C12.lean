/-
  C12 — A verified disclosure proof carrying range proofs establishes only true facts.

  Property theorems about the range-proof verifier of the executable model (GabiModel.Proofs:
  `RangeProof`, `rangeNewWithParams`, `extractStructure`, `verifyProofStructure`,
  `commitmentsFromProof`, `provesStatement`, `provenStatement`, `ProofD.rangeContributions`;
  compared output-for-output with rangeproof/proof.go and proofs.go by `./check C12`).
  Helper lemmas: GabiProofs.RangeLemmas, GabiProofs.VerifyLogic.

  Without cryptography: every carried range proof is checked, sits on a hidden index of the same
  credential and is verified with the hidden response of that index and the proof's own
  challenge, and every statement `provesStatement` / `provenStatement` reports follows from the
  established fact `sign·(a·m − k) ≥ 0`. With it: witnesses of the verified relations give
  `Σdᵢ² = sign·(a·m − k)`, or an explicit non-trivial relation between the attribute base and `S`
  (CRYPTO-HYP: strong RSA). The extraction needs every prover-supplied `Cᵢ` to be invertible
  modulo `n` (`UnitCs`; with `Cᵢ = 0` any statement verifies, `forged_commitments_zero`) and the
  statement to be part of the Fiat–Shamir challenge (`statement_in_challenge`).
-/
import GabiModel.Proofs
import GabiModel.Prover
import GabiProofs.RangeLemmas
import GabiProofs.VerifyLogic
import GabiProofs.DerLemmas
import GabiProps.C01
import GabiProps.C08
namespace Gabi.C12
open Gabi

/-! ## which range proofs are checked, and with which response and challenge -/

section
variable {o : SigOracle} {kid : String} {pk : PublicKey} {p : ProofD} {ctx nonce : Int}
  {issig : Bool} {i1 i2 : Int}

/-- **every carried range proof has been checked** (strengthening of
    `Gabi.C01.accept_rangeproofs_checked`): in an accepted disclosure proof every range proof
    sits on a hidden index of that same proof, its structure extracts for that index and passes
    the structure check with `MResponse :=` the hidden response of that index; moreover its
    descriptor is well-formed: the bound is present and of at most `Lm+64` bits, `l_d ≤ Lm`,
    there are 3 or 4 squares, three squares only with factor 4, the sign is `±1` and the factor
    fits `int64` – so the structure is the one `rangeNewWithParams` builds with the exact
    exponent `−a·sign` (see `power_exact`). `hnd`: the decoded map has no duplicate keys. -/
theorem every_carried_proof_checked {rps : List (Int × List (Option RangeProof))}
    (h : p.verifyWith o kid pk ctx nonce issig i1 i2 = .ok true) (hrps : p.rangeProofs = some rps)
    (hnd : (rps.map (·.1)).Nodup) :
    ∀ kv ∈ rps, ∀ rp, some rp ∈ kv.2 →
      p.aResponses.has kv.1 = true ∧ ∃ s k, rp.extractStructure kv.1 pk = some s ∧
        s.verifyProofStructure pk { rp with mResponse := p.aResponses.get kv.1 } = true ∧
        rp.k = some k ∧ bitLen k ≤ pk.params.Lm + 64 ∧ rp.ld ≤ pk.params.Lm ∧
        (rp.cs.length = 3 ∨ rp.cs.length = 4) ∧ (rp.cs.length = 3 → rp.a = 4) ∧
        (rp.sign = 1 ∨ rp.sign = -1) ∧ rp.a ≤ 2 ^ 63 - 1 ∧
        rangeNewWithParams kv.1 rp.sign rp.a k rp.cs.length rp.ld = some s := by
  intro kv hkv rp hrp
  obtain ⟨hhas, s, hex, hv⟩ := Gabi.C01.accept_rangeproofs_checked h hrps hnd kv hkv rp hrp
  obtain ⟨k, hk, hld, hlen, hbl, h3, hnew⟩ := RangeProof.extractStructure_some hex
  obtain ⟨_, hs, ha, _⟩ := rangeNewWithParams_some hnew
  exact ⟨hhas, s, k, hex, hv, hk, hbl, hld, hlen, h3, hs, ha, hnew⟩

/-- **the range proof is tied to the attribute of the same credential**: the challenge of an
    accepted proof is the hash of the context, `[A', Z]` (the reconstructed commitment of the
    credential proof, built from the hidden responses `AResponses`), the non-revocation
    contributions, the range contributions `rc` and the nonce; and for every entry
    `index ↦ proofs` of the range-proof map, `rc` contains, as one contiguous block, the
    commitments reconstructed from those proofs with `MResponse := AResponses[index]` – the very
    response that enters `Z` for base `R_index` – and with the same challenge `c`. Hence the
    value extracted for `m` from the range proof and the attribute extracted from the
    credential proof come from the same response under the same challenge. -/
theorem mresponse_tied {rps : List (Int × List (Option RangeProof))}
    (h : p.verifyWith o kid pk ctx nonce issig i1 i2 = .ok true) (hrps : p.rangeProofs = some rps)
    {index : Int} {proofs : List (Option RangeProof)} (hl : rps.lookup index = some proofs) :
    ∃ a z c l1 rc, p.a = some a ∧ p.c = some c ∧
      c = ((createChallenge ctx nonce ([a, z] ++ l1 ++ rc) issig : Nat) : Int) ∧
      ∃ ss mresp css pre post, p.aResponses.get index = some mresp ∧
        List.Forall₂ (fun rp s => ∃ rp', rp = some rp' ∧ rp'.extractStructure index pk = some s) proofs ss ∧
        List.Forall₂ (fun (x : RangeStructure × Option RangeProof) cs => ∃ rp, x.2 = some rp ∧
          x.1.verifyProofStructure pk { rp with mResponse := some mresp } = true ∧
          x.1.commitmentsFromProof pk { rp with mResponse := some mresp } c = .ok cs) (ss.zip proofs) css ∧
        rc = pre ++ css.flatten ++ post := by
  obtain ⟨a, z, c, l1, rc, structs, parts, ha, hc, hch, hst, hF, hflat⟩ := ProofD.accept_range_shape h hrps
  refine ⟨a, z, c, l1, rc, ha, hc, hch, ?_⟩
  -- the index is hidden, hence visited
  obtain ⟨hhas, _, h0, _⟩ :=
    ProofD.wellFormed_rangeEntry (ProofD.verifyWith_wellFormed h) hrps (lookup_mem hl)
  obtain ⟨part, hmem, hrel⟩ := forall₂_mem_left hF (p.mem_rangeIndices h0 hhas)
  obtain ⟨pre, post, hparts⟩ := List.append_of_mem hmem
  obtain ⟨ss, mresp, css, hm, hex, hsteps, hpart⟩ := RangeIndexRel.of_lookup hst hl hrel
  refine ⟨ss, mresp, css, pre.flatten, post.flatten, hm, hex, hsteps, ?_⟩
  rw [hflat, hparts, ← hpart]
  simp

/-- **order of the contributions** (mirrors the prover's loop `for index := 0; index <
    len(attributes)`): the range contributions of an accepted proof are the concatenation over
    `index = 0, 1, …, max hidden index` (increasing) of the per-index parts, each part being the
    concatenation, in list order, of the per-proof commitment lists (empty for an index without
    entry). -/
theorem contribution_order {rps : List (Int × List (Option RangeProof))}
    (h : p.verifyWith o kid pk ctx nonce issig i1 i2 = .ok true) (hrps : p.rangeProofs = some rps) :
    ∃ a z c l1 rc structs parts, p.a = some a ∧ p.c = some c ∧
      c = ((createChallenge ctx nonce ([a, z] ++ l1 ++ rc) issig : Nat) : Int) ∧
      (extractAll pk rps).run = .ok (some structs) ∧
      List.Forall₂ (RangeIndexRel pk p c structs rps) p.rangeIndices parts ∧
      rc = parts.flatten ∧ p.rangeIndices.Pairwise (· < ·) := by
  obtain ⟨a, z, c, l1, rc, structs, parts, h1, h2, h3, h4, h5, h6⟩ := ProofD.accept_range_shape h hrps
  exact ⟨a, z, c, l1, rc, structs, parts, h1, h2, h3, h4, h5, h6, p.rangeIndices_sorted⟩

end

/-- **a range proof attached to a non-hidden index causes rejection**: if some key of the
    range-proof map is not a key of `AResponses` (a disclosed or non-existent attribute), the
    proof is not well-formed and `Verify` returns false – for every key, oracle and choice. -/
theorem rangeproof_needs_hidden_index (o : SigOracle) (kid : String) (pk : PublicKey) (p : ProofD)
    (ctx nonce : Int) (issig : Bool) (i1 i2 : Int) {rps : List (Int × List (Option RangeProof))}
    (hrps : p.rangeProofs = some rps) {kv : Int × List (Option RangeProof)} (hkv : kv ∈ rps)
    (hh : p.aResponses.has kv.1 = false) :
    p.wellFormed pk = false ∧ p.verifyWith o kid pk ctx nonce issig i1 i2 = .ok false := by
  have hw : ¬ p.wellFormed pk = true := fun hw =>
    Bool.eq_false_iff.mp hh (ProofD.wellFormed_rangeEntry hw hrps hkv).1
  exact ⟨Bool.eq_false_iff.mpr hw, Gabi.C08.malformedD_rejected o kid pk p ctx nonce issig i1 i2 hw⟩

/-- **a range proof on a disclosed index causes rejection**: a key of the range-proof map that is
    also a key of `ADisclosed` makes the proof ill-formed, and `Verify` returns false. -/
theorem rangeproof_on_disclosed_rejected (o : SigOracle) (kid : String) (pk : PublicKey) (p : ProofD)
    (ctx nonce : Int) (issig : Bool) (i1 i2 : Int) {rps : List (Int × List (Option RangeProof))}
    (hrps : p.rangeProofs = some rps) {kv : Int × List (Option RangeProof)} (hkv : kv ∈ rps)
    (hd : p.aDisclosed.has kv.1 = true) :
    p.verifyWith o kid pk ctx nonce issig i1 i2 = .ok false :=
  Gabi.C08.malformedD_rejected o kid pk p ctx nonce issig i1 i2 fun hw =>
    Bool.eq_false_iff.mp (ProofD.wellFormed_rangeEntry hw hrps hkv).2.1 hd

/-- **a range proof on an index outside the key's bases** (negative or `≥ len R`) makes `Verify`
    return false. -/
theorem rangeproof_outside_rejected (o : SigOracle) (kid : String) (pk : PublicKey) (p : ProofD)
    (ctx nonce : Int) (issig : Bool) (i1 i2 : Int) {rps : List (Int × List (Option RangeProof))}
    (hrps : p.rangeProofs = some rps) {kv : Int × List (Option RangeProof)} (hkv : kv ∈ rps)
    (ho : kv.1 < 0 ∨ (pk.r.length : Int) ≤ kv.1) :
    p.verifyWith o kid pk ctx nonce issig i1 i2 = .ok false :=
  Gabi.C08.malformedD_rejected o kid pk p ctx nonce issig i1 i2 fun hw => by
    have := ProofD.wellFormed_rangeEntry hw hrps hkv
    omega

/-- **a nil entry in a list of range proofs** makes the proof ill-formed (the `proof == nil` test
    of the well-formedness check in proofs.go), and `Verify` returns false. -/
theorem nil_rangeproof_rejected (o : SigOracle) (kid : String) (pk : PublicKey) (p : ProofD)
    (ctx nonce : Int) (issig : Bool) (i1 i2 : Int) {rps : List (Int × List (Option RangeProof))}
    (hrps : p.rangeProofs = some rps) {kv : Int × List (Option RangeProof)} (hkv : kv ∈ rps)
    (hn : none ∈ kv.2) :
    p.verifyWith o kid pk ctx nonce issig i1 i2 = .ok false :=
  Gabi.C08.malformedD_rejected o kid pk p ctx nonce issig i1 i2 fun hw =>
    (ProofD.wellFormed_rangeEntry hw hrps hkv).2.2.2.2 hn

/-- **moving a range proof to another attribute or credential** changes what is hashed: the
    structure extracted for `index` names the base `R_index`, and the proof is evaluated with
    `MResponse := AResponses[index]` of the disclosure proof that carries it (`mresponse_tied`).
    Here: the structures extracted for two different non-negative indices differ. -/
theorem structure_depends_on_index {rp : RangeProof} {pk : PublicKey} {i j : Nat} {s t : RangeStructure}
    (hi : rp.extractStructure (i : Int) pk = some s) (hj : rp.extractStructure (j : Int) pk = some t)
    (hne : i ≠ j) : s ≠ t := by
  obtain ⟨k, hk, _, _, _, _, hnew⟩ := RangeProof.extractStructure_some hi
  obtain ⟨k', hk', _, _, _, _, hnew'⟩ := RangeProof.extractStructure_some hj
  obtain ⟨_, _, _, rfl⟩ := rangeNewWithParams_some hnew
  obtain ⟨_, _, _, rfl⟩ := rangeNewWithParams_some hnew'
  exact fun he => hne (Int.ofNat_inj.mp (congrArg RangeStructure.index he))

/-! ## descriptor arithmetic: what the library reports follows from the established fact -/

/-- **the exponent is the intended one**: for a factor `a ≤ MaxInt64` and `sign = ±1` the Go
    expression `-int64(a)*int64(sign)` (with wrap-around) equals the integer `−a·sign`. -/
theorem power_exact (a : Nat) (sign : Int) (ha : a ≤ 2 ^ 63 - 1) (hs : sign = 1 ∨ sign = -1) :
    wrap64 (-(wrap64 (a : Int)) * wrap64 sign) = -(a : Int) * sign :=
  Gabi.power_exact a sign ha hs

/-- **factors above `MaxInt64` are refused**: `newWithParams` returns an error. -/
theorem factor_guard (index sign : Int) (a : Nat) (k : Int) (nSplit ld : Nat) (ha : 2 ^ 63 ≤ a) :
    rangeNewWithParams index sign a k nSplit ld = none := by
  simp only [rangeNewWithParams, if_pos (show a > 2 ^ 63 - 1 by omega), ite_self]

/-- **the guard of `factor_guard` is necessary**: without it the factor `2^64−1` with sign `−1`
    would use the exponent `−1`, the exponent of the statement `1·m ≥ k`; a proof of `m ≥ k` would
    then be reported as a proof of `(2^64−1)·m ≤ k`. -/
theorem power_wraps_unguarded :
    wrap64 (-(wrap64 (((2 ^ 64 - 1 : Nat)) : Int)) * wrap64 (-1)) = -1 ∧
    wrap64 (-(wrap64 ((1 : Nat) : Int)) * wrap64 1) = -1 := by
  constructor <;> decide

/-- **every statement the library says a proof proves or implies is a consequence of the
    established fact**: if `sign_p·(a_p·m − k) ≥ 0` holds for the attribute value `m` (any
    integer) and `ProvesStatement(sign, factor, bound)` returns true, then
    `sign·(factor·m − bound) ≥ 0`. Covers the three-square rescaling (`a_p = 4·factor`,
    `k ≥ 4·bound − 2` resp. `≤`, using integrality) and the overflow guard on `4·factor`. -/
theorem proves_sound {p : RangeProof} {m k : Int} {sign : Int} {factor : Nat} {bound : Int}
    (hk : p.k = some k) (hfact : p.sign * ((p.a : Int) * m - k) ≥ 0)
    (h : p.provesStatement sign factor bound = true) :
    sign * ((factor : Int) * m - bound) ≥ 0 :=
  RangeProof.proves_sound hk hfact h

/-- non-vacuity: a four-square descriptor `m ≥ 10` and `m = 12`; it implies `m ≥ 9`. -/
example : ∃ p : RangeProof, p.k = some 10 ∧ p.sign * ((p.a : Int) * 12 - 10) ≥ 0 ∧
    p.provesStatement 1 1 9 = true :=
  ⟨{ cs := [none, none, none, none], ds := [], vs := [], v5 := none, ld := 8, sign := 1, a := 1,
     k := some 10 }, by decide⟩

/-- **the statement the library reports is a consequence of the established fact** (three
    squares: for the only factor the verifier accepts, `a_p = 4`; the reported bound is
    `⌊(k+2)/4⌋`, Lean's `/` on `Int` with positive divisor being the floor like Go's `Rsh`). -/
theorem proven_statement_sound {p : RangeProof} {m k : Int} {sgn : Int} {f : Nat} {b : Int}
    (hk : p.k = some k) (hsign : p.sign = 1 ∨ p.sign = -1) (h3 : p.cs.length = 3 → p.a = 4)
    (hfact : p.sign * ((p.a : Int) * m - k) ≥ 0)
    (h : p.provenStatement = some (sgn, f, b)) :
    sgn * ((f : Int) * m - b) ≥ 0 :=
  RangeProof.proven_statement_sound hk hsign h3 hfact h

/-- `Int` division by 4 in the model is the floor: `4·q ≤ x < 4·q + 4`, also for negative `x`. -/
theorem div4_floor (x : Int) : 4 * (x / 4) ≤ x ∧ x < 4 * (x / 4) + 4 := by omega

/-- for the bound an honest three-square prover sends (`k = 4·bound − 2`) the reported bound is
    `bound` again. -/
theorem proven_statement_roundtrip (bound : Int) : (bound * 4 - 2 + 2) / 4 = bound := by omega

/-- non-vacuity of `proven_statement_sound` (three squares, `4m ≥ 38`, i.e. `m ≥ 10`, `m = 10`). -/
example : ∃ p : RangeProof, p.k = some 38 ∧ p.cs.length = 3 ∧ p.a = 4 ∧
    p.provenStatement = some (1, 1, 10) ∧ p.sign * ((p.a : Int) * 10 - 38) ≥ 0 :=
  ⟨{ cs := [none, none, none], ds := [], vs := [], v5 := none, ld := 8, sign := 1, a := 4,
     k := some 38 }, by decide⟩

/-- **the descriptor of an accepted range proof meets the hypotheses of `proves_sound` and
    `proven_statement_sound`** (sign `±1`, three squares only with factor 4): for an accepted
    disclosure proof the reported and implied statements of every carried range proof hold for
    every integer `m` for which that proof's established fact holds. -/
theorem accepted_reports_only_consequences {o : SigOracle} {kid : String} {pk : PublicKey} {p : ProofD}
    {ctx nonce : Int} {issig : Bool} {i1 i2 : Int} {rps : List (Int × List (Option RangeProof))}
    (h : p.verifyWith o kid pk ctx nonce issig i1 i2 = .ok true) (hrps : p.rangeProofs = some rps)
    (hnd : (rps.map (·.1)).Nodup) {kv : Int × List (Option RangeProof)} (hkv : kv ∈ rps)
    {rp : RangeProof} (hrp : some rp ∈ kv.2) :
    ∃ k, rp.k = some k ∧ ∀ m : Int, rp.sign * ((rp.a : Int) * m - k) ≥ 0 →
      (∀ sign factor bound, rp.provesStatement sign factor bound = true →
        sign * ((factor : Int) * m - bound) ≥ 0) ∧
      (∀ sgn f b, rp.provenStatement = some (sgn, f, b) → sgn * ((f : Int) * m - b) ≥ 0) := by
  obtain ⟨_, s, k, _, _, hk, _, _, _, h3, hs, _, _⟩ :=
    every_carried_proof_checked h hrps hnd kv hkv rp hrp
  refine ⟨k, hk, fun m hfact => ⟨?_, ?_⟩⟩
  · intro sign factor bound hp
    exact RangeProof.proves_sound hk hfact hp
  · intro sgn f b hp
    exact RangeProof.proven_statement_sound hk hs h3 hfact hp

/-! ## extractor algebra -/

section Algebra
open Gabi.Alg Gabi.QrAlg
variable {G : Type*} [CommGroup G]

/-- **completeness of every `QrStructure` proof** (abstract group): honest responses
    `randomiser + c·secret` for secrets satisfying `∏lhs = ∏ base^(power·secret)` reconstruct the
    prover's commitment. -/
theorem qr_complete (s : QrStructure) (B : String → G) (c : ℤ) (secret rand resp : String → ℤ)
    (hrel : Holds s B secret)
    (hresp : ∀ r ∈ s.rhs, resp r.secret = rand r.secret + c * secret r.secret) :
    fromProof s B c resp = fromSecrets s B rand :=
  QrAlg.qr_complete s B c secret rand resp hrel hresp

/-- **special soundness of every `QrStructure` proof**: two accepting transcripts with the same
    commitment give `(∏lhs)^(c−c') = ∏ base^(power·(resp−resp'))`. -/
theorem qr_special_soundness (s : QrStructure) (B : String → G) (c c' : ℤ) (resp resp' : String → ℤ)
    (h : fromProof s B c resp = fromProof s B c' resp') :
    lhsProd s B ^ (c - c') = rhsProd s B (fun n => resp n - resp' n) :=
  QrAlg.qr_special_soundness s B c c' resp resp' h

/-- **the extractor's equation**: witnesses of `Cᵢ = R^{dᵢ}S^{vᵢ}` (`i < n`) and of
    `R^e = S^{−v5} · R^{pw·m} · ∏Cᵢ^{dᵢ}` (the relation `mCorrect` encodes, `e = −sign·k`,
    `pw = −a·sign`) give a relation between `R` and `S` alone. -/
theorem relation_exponents {R S : G} (C : ℕ → G) (d v : ℕ → ℤ) (n : ℕ) (e pw m v5 : ℤ)
    (hC : ∀ i < n, C i = R ^ d i * S ^ v i)
    (hrel : R ^ e = S ^ (-v5) * R ^ (pw * m) * rep C d (List.range n)) :
    R ^ (e - pw * m - ((List.range n).map fun i => d i ^ 2).sum) =
      S ^ (((List.range n).map fun i => d i * v i).sum - v5) := by
  rw [rep_commitments C d v _ (fun i hi => hC i (List.mem_range.mp hi))] at hrel
  exact (range_relation_iff ..).mp hrel

/-- **relation ⇒ inequality**: if `R` and `S` have no non-trivial relation `R^x = S^y` with
    `|x| ≤ bnd` (CRYPTO-HYP: such a relation known to the prover breaks strong RSA; `bnd` is
    the size of the extracted exponents) then extracted witnesses satisfy
    `Σdᵢ² = sign·(a·m − k)`; in particular `sign·(a·m − k) ≥ 0`: **a false inequality has no
    witnesses**. -/
theorem relation_implies_inequality {R S : G} (C : ℕ → G) (d v : ℕ → ℤ) (n : ℕ)
    {sign : ℤ} (hs : sign = 1 ∨ sign = -1) (a k m v5 : ℤ) (bnd : ℤ)
    (hindep : ∀ x y : ℤ, |x| ≤ bnd → R ^ x = S ^ y → x = 0)
    (hsize : |sign * (a * m - k) - ((List.range n).map fun i => d i ^ 2).sum| ≤ bnd)
    (hC : ∀ i < n, C i = R ^ d i * S ^ v i)
    (hrel : R ^ (if sign = 1 then -k else k) =
      S ^ (-v5) * R ^ ((-a * sign) * m) * rep C d (List.range n)) :
    ((List.range n).map fun i => d i ^ 2).sum = sign * (a * m - k) ∧ 0 ≤ sign * (a * m - k) :=
  QrAlg.relation_implies_inequality C d v n hs a k m v5 bnd hindep hsize hC hrel

/-- **relation ⇒ inequality** when `R` and `S` have no non-trivial relation at all (no bound on
    the exponents): extracted witnesses satisfy `Σdᵢ² = sign·(a·m − k) ≥ 0`. -/
theorem relation_implies_inequality' {R S : G} (C : ℕ → G) (d v : ℕ → ℤ) (n : ℕ)
    {sign : ℤ} (hs : sign = 1 ∨ sign = -1) (a k m v5 : ℤ)
    (hindep : ∀ x y : ℤ, R ^ x = S ^ y → x = 0 ∧ y = 0)
    (hC : ∀ i < n, C i = R ^ d i * S ^ v i)
    (hrel : R ^ (if sign = 1 then -k else k) =
      S ^ (-v5) * R ^ ((-a * sign) * m) * rep C d (List.range n)) :
    ((List.range n).map fun i => d i ^ 2).sum = sign * (a * m - k) ∧ 0 ≤ sign * (a * m - k) :=
  relation_implies_inequality C d v n hs a k m v5 _ (fun x y _ hxy => (hindep x y hxy).1)
    (le_refl _) hC hrel

/-- **relation ⇒ inequality, without an independence hypothesis**: extracted witnesses satisfy
    `Σdᵢ² = sign·(a·m − k) ≥ 0`, or they exhibit an explicit relation `R^x = S^y` with `x ≠ 0`. -/
theorem relation_implies_inequality_or_relation {R S : G} (C : ℕ → G) (d v : ℕ → ℤ) (n : ℕ)
    {sign : ℤ} (hs : sign = 1 ∨ sign = -1) (a k m v5 : ℤ)
    (hC : ∀ i < n, C i = R ^ d i * S ^ v i)
    (hrel : R ^ (if sign = 1 then -k else k) =
      S ^ (-v5) * R ^ ((-a * sign) * m) * rep C d (List.range n)) :
    (((List.range n).map fun i => d i ^ 2).sum = sign * (a * m - k) ∧ 0 ≤ sign * (a * m - k)) ∨
    (∃ x y : ℤ, x ≠ 0 ∧ R ^ x = S ^ y ∧
      x = sign * (a * m - k) - ((List.range n).map fun i => d i ^ 2).sum ∧
      y = ((List.range n).map fun i => d i * v i).sum - v5) :=
  QrAlg.relation_implies_inequality_or_relation C d v n hs a k m v5 hC hrel

/-- non-vacuity of the independence hypothesis: in `ℤ × ℤ` (written multiplicatively) the two
    generators have no non-trivial relation. -/
example : ∀ x y : ℤ, (Multiplicative.ofAdd ((1, 0) : ℤ × ℤ)) ^ x = (Multiplicative.ofAdd ((0, 1) : ℤ × ℤ)) ^ y →
    x = 0 ∧ y = 0 := by
  intro x y h
  have h' := congrArg Multiplicative.toAdd h
  simp only [toAdd_zpow, toAdd_ofAdd, Prod.smul_mk, smul_eq_mul, mul_one, mul_zero, Prod.mk.injEq] at h'
  exact ⟨h'.1, h'.2.symm⟩

/-- **the structure the verifier builds encodes exactly that relation**: for the structure
    returned by `rangeNewWithParams`, secrets satisfying `mCorrect` and all `cRep` relations (in
    any commutative group, for any interpretation `B` of the base names) satisfy
    `Σdᵢ² = sign·(a·m − k) ≥ 0`, or exhibit a non-trivial relation between `R_index` and `S`. -/
theorem range_structure_sound (B : String → G) (val : String → ℤ)
    {index sign : Int} {a : Nat} {k : Int} {n ld : Nat} {s : RangeStructure}
    (h : rangeNewWithParams index sign a k n ld = some s)
    (hm : Holds s.mCorrect B val) (hc : ∀ q ∈ s.cRep, Holds q B val) :
    (((List.range n).map fun i => val ("d" ++ toString i) ^ 2).sum = sign * ((a : ℤ) * val "m" - k) ∧
      0 ≤ sign * ((a : ℤ) * val "m" - k)) ∨
    (∃ x y : ℤ, x ≠ 0 ∧ B ("R" ++ toString index) ^ x = B "S" ^ y) := by
  obtain ⟨_, hs, _, _⟩ := rangeNewWithParams_some h
  rw [holds_mCorrect_iff B val h] at hm
  rw [holds_cRep_iff B val h] at hc
  rcases QrAlg.relation_implies_inequality_or_relation (fun i : ℕ => B ("C" ++ toString i))
    (fun i => val ("d" ++ toString i)) (fun i => val ("v" ++ toString i)) n hs a k (val "m")
    (val "v5") hc hm with h1 | ⟨x, y, hx, hxy, _, _⟩
  · exact Or.inl h1
  · exact Or.inr ⟨x, y, hx, hxy⟩

end Algebra

/-- **extraction on the model's integers**: two transcripts on which the model's
    `commitmentFromProof` reconstructs the same commitments for `mCorrect` and every `cRep`
    (as rewinding provides for one accepted Fiat–Shamir proof), all bases invertible modulo `N`
    (`BasesOk`; for the key's bases a property of the key, for the `Cᵢ` the predicate `UnitCs`,
    see `basesOk_of_unitCs`), response differences divisible by `c − c'` with quotients `w`
    (CRYPTO-HYP, strong RSA) and no `(c−c')`-torsion (CRYPTO-HYP `htors`), give
    `sign·(a·w(m) − k) = Σ w(dᵢ)² ≥ 0` for the extracted attribute `w(m)`, or a non-trivial
    relation between `R_index` and `S`. -/
theorem model_extract {index sign : Int} {a : Nat} {k : Int} {nS ld : Nat} {s : RangeStructure}
    (h : rangeNewWithParams index sign a k nS ld = some s) {N : ℕ} (hN : 1 < N) (c c' : Int)
    (bases results results' : String → Option Int) (w : String → ℤ)
    (hb : ∀ q ∈ s.mCorrect :: s.cRep, QrBridge.BasesOk N q bases)
    (hres : ∀ q ∈ s.mCorrect :: s.cRep, ∀ r ∈ q.rhs, (results r.secret).isSome)
    (hres' : ∀ q ∈ s.mCorrect :: s.cRep, ∀ r ∈ q.rhs, (results' r.secret).isSome)
    (heq : ∀ q ∈ s.mCorrect :: s.cRep,
      q.commitmentFromProof N c bases results = q.commitmentFromProof N c' bases results')
    (hdiv : ∀ name, QrBridge.intVals results name - QrBridge.intVals results' name = (c - c') * w name)
    (htors : ∀ q ∈ s.mCorrect :: s.cRep,
      (QrAlg.lhsProd q (QrBridge.unitBases N bases) / QrAlg.rhsProd q (QrBridge.unitBases N bases) w) ^ (c - c') = 1 →
        QrAlg.lhsProd q (QrBridge.unitBases N bases) = QrAlg.rhsProd q (QrBridge.unitBases N bases) w) :
    (((List.range nS).map fun i => w ("d" ++ toString i) ^ 2).sum = sign * ((a : ℤ) * w "m" - k) ∧
      0 ≤ sign * ((a : ℤ) * w "m" - k)) ∨
    (∃ x y : ℤ, x ≠ 0 ∧ QrBridge.unitBases N bases ("R" ++ toString index) ^ x =
      QrBridge.unitBases N bases "S" ^ y) := by
  have hholds : ∀ q ∈ s.mCorrect :: s.cRep, QrAlg.Holds q (QrBridge.unitBases N bases) w :=
    fun q hq => htors q hq (QrAlg.qr_extract q _ c c' _ _ w
      (QrBridge.fromProof_eq_of_commitment_eq hN q c c' bases results results' (hb q hq)
        (hres q hq) (hres' q hq) (heq q hq))
      fun r _ => hdiv r.secret)
  exact range_structure_sound _ w h (hholds _ (List.mem_cons_self ..))
    fun q hq => hholds q (List.mem_cons_of_mem _ hq)

/-- the bridge hypothesis for the bases the range verifier uses: `S` and `R_i` invertible
    (a property of the key) and every `Cᵢ` invertible (`UnitCs`, which `verifyProofStructure`
    checks). -/
theorem basesOk_of_unitCs {rp : RangeProof} {i : Nat} {pk : PublicKey} {s : RangeStructure} {N : ℕ}
    (h : rp.extractStructure (i : Int) pk = some s) (hN : pk.n = (N : Int))
    (hS : Int.gcd pk.s pk.n = 1) {b : Int} (hb : pk.r[i]? = some b) (hR : Int.gcd b pk.n = 1)
    (hC : UnitCs pk rp) :
    ∀ q ∈ s.mCorrect :: s.cRep, QrBridge.BasesOk N q (rangeBases pk rp) := by
  obtain ⟨k, _, _, _, _, _, hnew⟩ := RangeProof.extractStructure_some h
  have unit : ∀ x : Int, Int.gcd x pk.n = 1 → IsUnit (x : ZMod N) := fun x hx => by
    rw [isUnit_iff_gcd, ← hN]
    exact hx
  refine rangeNewWithParams_bases
    (P := fun name => ∃ x, rangeBases pk rp name = some x ∧ IsUnit (x : ZMod N)) hnew
    ⟨pk.s, rangeBases_S pk rp, unit _ hS⟩ ⟨b, rangeBases_R pk rp i hb, unit _ hR⟩ fun j hj => ?_
  obtain ⟨x, hx, _, _, hg⟩ := hC _ (List.getElem_mem hj)
  exact ⟨x, by rw [rangeBases_C, List.getElem?_eq_getElem hj, hx]; rfl, unit _ hg⟩

/-- non-vacuity of the hypotheses of `basesOk_of_unitCs` (toy key of `Gabi.C01.Demo`, `n = 253`,
    `S = 4`, `R₂ = 25`, commitments `4, 9, 16, 25`). -/
def unitDemoRP : RangeProof :=
  { cs := [some 4, some 9, some 16, some 25], ds := [some 1, some 1, some 1, some 1],
    vs := [some 1, some 1, some 1, some 1], v5 := some 1, ld := 8, sign := 1, a := 1, k := some 5 }

example : (unitDemoRP.extractStructure ((2 : Nat) : Int) Gabi.C01.Demo.pk).isSome = true ∧
    Int.gcd Gabi.C01.Demo.pk.s Gabi.C01.Demo.pk.n = 1 ∧ Gabi.C01.Demo.pk.r[2]? = some 25 ∧
    Int.gcd 25 Gabi.C01.Demo.pk.n = 1 ∧ Gabi.C01.Demo.pk.n = ((253 : ℕ) : Int) := by decide

example : UnitCs Gabi.C01.Demo.pk unitDemoRP := by
  intro c hc
  simp only [unitDemoRP, List.mem_cons, List.not_mem_nil, or_false] at hc
  rcases hc with rfl | rfl | rfl | rfl
  · exact ⟨4, rfl, by decide, by decide, by decide⟩
  · exact ⟨9, rfl, by decide, by decide, by decide⟩
  · exact ⟨16, rfl, by decide, by decide, by decide⟩
  · exact ⟨25, rfl, by decide, by decide, by decide⟩

/-! ## non-invertible commitments void a check that does not ask for `UnitCs`

  `verifyProofStructureOld` (GabiProofs.RangeLemmas) is the structure check of /repo before commit
  7f01777: it bounds the bit length of `Cᵢ` but does not require `Cᵢ` to be invertible.
  Against that Go code a `ProofD` whose range proof has `Cs = [0,0,0,0]`,
  `ds = vs = [1,1,1,1]`, `v5 = 1` and an arbitrary false bound verifies after a JSON round trip
  and `ProvesStatement` reports the false statement. -/

/-- **counterexample to "a false inequality cannot be proven"**: if all `Cᵢ` are `0` and all `d`
    responses positive, every commitment the verifier reconstructs is `0` – whatever the
    descriptor `(sign, a, k)`, the attribute response and the challenge – so the relations checked
    by the hash comparison hold for any statement, and any prover who can show the credential can
    attach such a "proof" of any statement. (The list begins with the statement, here
    `0,…,0, k, a, sign, l_d`, see `statement_in_challenge`; the reconstructed part after it is
    constant.) -/
theorem forged_commitments_zero {rp : RangeProof} {index : Int} {pk : PublicKey}
    {s : RangeStructure} (h : rp.extractStructure index pk = some s)
    (hv : s.verifyProofStructureOld pk rp = true) (hn : 1 < pk.n) {c : Int} (hc : 0 < c)
    (hcs : ∀ i < rp.cs.length, rp.cs[i]? = some (some 0))
    (hds : ∀ i < rp.cs.length, ∃ d, rp.ds[i]? = some (some d) ∧ 0 < d) :
    s.commitmentsFromProof pk rp c =
      .ok (List.replicate rp.cs.length 0 ++ [s.k, (s.a : Int), s.sign, (s.ld : Int)] ++
        List.replicate (rp.cs.length + 1) 0) := by
  obtain ⟨k, hk, _, hlen, _, _, hnew⟩ := RangeProof.extractStructure_some h
  have hsec := rangeNewWithParams_secretsOk hnew
  have hcl := hsec.2.1
  obtain ⟨hv5, hmr, hdv⟩ := RangeStructure.verifyProofStructureOld_true hv
  rw [hcl] at hdv
  obtain ⟨hresM, hresC⟩ := hsec.results_isSome hv5 hmr hdv
  obtain ⟨_, _, _, hs⟩ := rangeNewWithParams_some hnew
  have hpos : 0 < rp.cs.length := by omega
  have hbase : ∀ i < rp.cs.length, rangeBases pk rp ("C" ++ toString i) = some 0 := fun i hi => by
    rw [rangeBases_C, hcs i hi]
    rfl
  -- `mCorrect`: the factor `C₀^{d₀}` is `0`
  obtain ⟨d0, hd0, hd0pos⟩ := hds 0 hpos
  have hM : s.mCorrect.commitmentFromProof pk.n c (rangeBases pk rp) (rangeResults rp) = .ok 0 := by
    refine Misc.commitmentZero _ _ c _ _ (by omega) hresM ⟨"C" ++ toString 0, "d" ++ toString 0, 1⟩
      ?_ (hbase 0 hpos) d0 ((rangeResults_d rp 0).trans (by rw [hd0]; rfl))
      (by rw [Int.one_mul]; exact hd0pos)
    rw [hs]
    exact List.mem_append_right _ (List.mem_map.mpr ⟨0, List.mem_range.mpr hpos, rfl⟩)
  -- `cRep[i]`: the left-hand side `Cᵢ` is `0`
  have hC : ∀ q ∈ s.cRep, q.commitmentFromProof pk.n c (rangeBases pk rp) (rangeResults rp) = .ok 0 := by
    intro q hq
    have hq' := hq
    rw [hs] at hq'
    obtain ⟨i, hi, rfl⟩ := List.mem_map.mp hq'
    rw [Misc.commitmentFromProof_eq, Misc.cfpC0_zero_lhs _ _ _ _ _ hn
      (hbase i (List.mem_range.mp hi)) hc.ne']
    exact Misc.cfp_go_zero _ _ _ _ _ (hresC _ hq)
  have hD : ∀ x ∈ rp.cs, deref "Cs[i]" x = (.ok 0 : GoM Int) := by
    intro x hx
    obtain ⟨i, hi, rfl⟩ := List.getElem_of_mem hx
    rw [(List.getElem_eq_iff hi).mpr (hcs i hi)]
    rfl
  unfold RangeStructure.commitmentsFromProof
  rw [hM, GoM.ok_bind, List.mapM_eq_pure_map _ (fun _ => 0) _ hC, pure_bind,
    List.mapM_eq_pure_map _ (fun _ => 0) _ hD, pure_bind]
  simp only [GoM.pure_eq_ok, Except.ok.injEq]
  rw [List.replicate_succ, List.map_const', List.map_const', hcl]

/-! ### concrete forged proof on the toy key of `Gabi.C01.Demo`

  Attribute 2 has the value 7; the forged range proof claims `1·m ≥ 1000`. The forger runs the
  honest prover without range proofs, appends five zeros to the commitments before hashing, and
  attaches the all-zero range proof. -/
namespace Demo
open Gabi.C01.Demo

def forgedRP : RangeProof :=
  { cs := [some 0, some 0, some 0, some 0], ds := [some 1, some 1, some 1, some 1],
    vs := [some 1, some 1, some 1, some 1], v5 := some 1, ld := 8, sign := 1, a := 1, k := some 1000 }

def forged : GoM ProofD := do
  let sigR := clRandomize pk sig rnd.r
  let undisclosed ← getUndisclosedAttributes [1] 3
  let commit ← disclosureCommit pk sigR rnd undisclosed
  let c := createChallenge 42 43 (commit ++ [0, 0, 0, 0, 0]) false
  let p ← disclosureCreateProof pk [3, 5, 7] [1] undisclosed sigR rnd c
  pure { p with rangeProofs := some [(2, [some forgedRP])] }

/-- verdict of the model's verifier on the forged proof. -/
def forgedVerdict : GoM Bool := do
  let p ← forged
  p.verifyWith (fun _ _ => none) "" pk 42 43 false (-1) (-1)

/-- the hypotheses of `forged_commitments_zero` hold for the forged range proof. -/
def forgedHyps : Bool :=
  match forgedRP.extractStructure 2 pk with
  | some s => s.verifyProofStructureOld pk { forgedRP with mResponse := some 5 }
  | none => false

-- the statement is false for the signed value 7, the library reports it as proven
#guard decide (¬ ((1 : Int) * (1 * 7 - 1000) ≥ 0))
#guard forgedRP.provesStatement 1 1 1000
#guard forgedRP.provenStatement == some (1, 1, 1000)
#guard forgedHyps
-- `verifyProofStructure` (invertible `Cᵢ` required: Go commit 7f01777, mirrored in the model)
-- rejects the forged proof
#guard forgedVerdict == .ok false

end Demo

/-! ## the statement enters the challenge (Go commit d9916c2)

  `CommitmentsFromProof` / `CommitmentsFromSecrets` start their list with
  `statement(Cs) = C_0, …, C_{n-1}, k, a, sign, l_d`, followed by the reconstructed commitments of
  `mCorrect` and `cRep[i]`. Were the `Cᵢ` and the descriptor not hashed (as before that commit),
  they could be chosen after the challenge was known. -/

/-- **the statement is hashed**: whenever `commitmentsFromProof` returns a list `l`, every `Cᵢ` of
    the proof is present (`p.cs = cs.map some`) and `l` is exactly these `Cᵢ`, then the four
    descriptor values `k`, `a`, `sign`, `l_d` of the structure (the one the verifier extracted
    from the proof's descriptor), then `|cRep| + 1` reconstructed commitments. No hypothesis
    besides the successful return. -/
theorem statement_in_challenge {s : RangeStructure} {pk : PublicKey} {p : RangeProof} {c : Int}
    {l : List Int} (h : s.commitmentsFromProof pk p c = .ok l) :
    ∃ cs rest : List Int, p.cs = cs.map some ∧ rest.length = s.cRep.length + 1 ∧
      l = cs ++ [s.k, (s.a : Int), s.sign, (s.ld : Int)] ++ rest := by
  simp only [RangeStructure.commitmentsFromProof, GoM.bind_ok_iff, GoM.pure_eq_ok,
    Except.ok.injEq] at h
  obtain ⟨m, _, rs, hrs, st, hst, rfl⟩ := h
  exact ⟨st, m :: rs, mapM_deref_inv _ _ _ hst,
    by rw [List.length_cons, (Except.mapM_ok_forall₂ _ _ _ hrs).length_eq], rfl⟩

/-- **different statements give different contributions**: two range proofs with equally many
    `Cᵢ` whose commitment lists differ, or whose structures differ in `k`, `a`, `sign` or `l_d`,
    never yield the same contribution list – whatever the keys, the challenges and the
    responses. (Equal length is needed: the list is a plain concatenation, and proofs with 3 and
    with 4 squares are told apart only by their position in it.) -/
theorem different_descriptor_different_contributions {s t : RangeStructure} {pk pk' : PublicKey}
    {p q : RangeProof} {c c' : Int} {l l' : List Int}
    (hs : s.commitmentsFromProof pk p c = .ok l) (ht : t.commitmentsFromProof pk' q c' = .ok l')
    (hlen : p.cs.length = q.cs.length)
    (hne : p.cs ≠ q.cs ∨ s.k ≠ t.k ∨ s.a ≠ t.a ∨ s.sign ≠ t.sign ∨ s.ld ≠ t.ld) : l ≠ l' := by
  obtain ⟨cs, rest, hcs, _, rfl⟩ := statement_in_challenge hs
  obtain ⟨cs', rest', hcs', _, rfl⟩ := statement_in_challenge ht
  simpa only [List.nil_append, List.append_nil] using
    statement_block_ne (pre := []) (post := []) (post' := []) hcs hcs' hlen hne

/-- **different statements give different challenges, up to a SHA-256 collision**: place the
    contribution lists of two range proofs after the same earlier contributions `pre` (same
    context, nonce and flag; anything may follow). If the resulting challenges coincide although
    the statements differ, the two hash inputs are an explicit SHA-256 collision. `hl`, `hl'`: the hash inputs are shorter than
    `256^126` bytes (as in `createChallenge_binds`). -/
theorem different_descriptor_different_challenge {s t : RangeStructure} {pk pk' : PublicKey}
    {p q : RangeProof} {c c' : Int} {l l' : List Int}
    (hs : s.commitmentsFromProof pk p c = .ok l) (ht : t.commitmentsFromProof pk' q c' = .ok l')
    (hlen : p.cs.length = q.cs.length)
    (hne : p.cs ≠ q.cs ∨ s.k ≠ t.k ∨ s.a ≠ t.a ∨ s.sign ≠ t.sign ∨ s.ld ≠ t.ld)
    (ctx nonce : Int) (issig : Bool) (pre post post' : List Int)
    (hl : (hashCommitInput (ctx :: (pre ++ l ++ post) ++ [nonce]) issig).length < 256 ^ 126)
    (hl' : (hashCommitInput (ctx :: (pre ++ l' ++ post') ++ [nonce]) issig).length < 256 ^ 126)
    (h : createChallenge ctx nonce (pre ++ l ++ post) issig =
      createChallenge ctx nonce (pre ++ l' ++ post') issig) :
    hashCommitInput (ctx :: (pre ++ l ++ post) ++ [nonce]) issig ≠
        hashCommitInput (ctx :: (pre ++ l' ++ post') ++ [nonce]) issig ∧
      Sha256.hash (hashCommitInput (ctx :: (pre ++ l ++ post) ++ [nonce]) issig) =
        Sha256.hash (hashCommitInput (ctx :: (pre ++ l' ++ post') ++ [nonce]) issig) := by
  rcases createChallenge_binds hl hl' h with ⟨_, he, _, _⟩ | hcol
  · obtain ⟨cs, rest, hcs, _, rfl⟩ := statement_in_challenge hs
    obtain ⟨cs', rest', hcs', _, rfl⟩ := statement_in_challenge ht
    exact absurd he (statement_block_ne hcs hcs' hlen hne)
  · exact hcol

/-! non-vacuity: on the toy key of `Gabi.C01.Demo` the range proof `unitDemoRP` (`m ≥ 5`) and the
    same proof with the bound replaced by `6` both reconstruct; the lists start with
    `4, 9, 16, 25, k, 1, 1, 8` and differ in `k` only at that position. -/
def unitDemoRP' : RangeProof := { unitDemoRP with k := some 6 }

def demoContribs (rp : RangeProof) : GoM (List Int) :=
  match rp.extractStructure 2 Gabi.C01.Demo.pk with
  | some s => s.commitmentsFromProof Gabi.C01.Demo.pk { rp with mResponse := some 5 } 3
  | none => pure []

#guard (demoContribs unitDemoRP).toOption.map (·.take 8) == some [4, 9, 16, 25, 5, 1, 1, 8]
#guard (demoContribs unitDemoRP').toOption.map (·.take 8) == some [4, 9, 16, 25, 6, 1, 1, 8]
#guard (demoContribs unitDemoRP).toOption.map (·.length) == some 13

end Gabi.C12

#print axioms Gabi.C12.every_carried_proof_checked
#print axioms Gabi.C12.mresponse_tied
#print axioms Gabi.C12.contribution_order
#print axioms Gabi.C12.rangeproof_needs_hidden_index
#print axioms Gabi.C12.rangeproof_on_disclosed_rejected
#print axioms Gabi.C12.rangeproof_outside_rejected
#print axioms Gabi.C12.nil_rangeproof_rejected
#print axioms Gabi.C12.structure_depends_on_index
#print axioms Gabi.C12.power_exact
#print axioms Gabi.C12.factor_guard
#print axioms Gabi.C12.power_wraps_unguarded
#print axioms Gabi.C12.proves_sound
#print axioms Gabi.C12.proven_statement_sound
#print axioms Gabi.C12.accepted_reports_only_consequences
#print axioms Gabi.C12.qr_complete
#print axioms Gabi.C12.qr_special_soundness
#print axioms Gabi.C12.relation_exponents
#print axioms Gabi.C12.relation_implies_inequality
#print axioms Gabi.C12.relation_implies_inequality'
#print axioms Gabi.C12.relation_implies_inequality_or_relation
#print axioms Gabi.C12.range_structure_sound
#print axioms Gabi.C12.model_extract
#print axioms Gabi.C12.basesOk_of_unitCs
#print axioms Gabi.C12.forged_commitments_zero
#print axioms Gabi.C12.statement_in_challenge
#print axioms Gabi.C12.different_descriptor_different_contributions
#print axioms Gabi.C12.different_descriptor_different_challenge
