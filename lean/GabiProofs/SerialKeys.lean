/-
  GabiProofs.SerialKeys — key documents: the element decoders on printed text, the keys that can
  be written and read back, and rejection lemmas (C18).

  Rejection goes through what an accepted document guarantees (`parsePub_ok`, `parsePriv_ok`):
  the fold over the items succeeded and set every mandatory field. A document is refused as soon
  as one of these fails.
-/
import GabiProofs.Serial
namespace Gabi.Serial
open Gabi

/-! ## element codecs -/

theorem xmlUint_natToDec (n : Nat) (h : n < 2 ^ 64) : xmlUint 64 (natToDec n) = some n := by
  rw [xmlUint, if_neg (mt List.isEmpty_iff.mp (natToDec_ne_nil n)), trimSpace_natToDec, parseUint?,
    decToNat_natToDec]
  exact if_pos h

theorem xmlInt_intToDec (z : Int) (h : -(2 : Int) ^ 63 ≤ z ∧ z < (2 : Int) ^ 63) :
    xmlInt 64 (intToDec z) = some z := by
  rw [xmlInt, if_neg (mt List.isEmpty_iff.mp (intToDec_ne_nil z)), trimSpace_intToDec, parseInt?,
    parseDecInt_intToDec]
  exact if_pos h

theorem bigElem_marshalXML (name : String) (z : Int) (h : 0 ≤ z) :
    bigElem name (marshalXML z) = .ok z := by
  rw [bigElem, unmarshalXML_marshalXML, if_neg (Int.not_lt.mpr h)]

theorem attrInt_intToDec (name : String) (z : Int) (h : -(2 : Int) ^ 63 ≤ z ∧ z < (2 : Int) ^ 63) :
    attrInt name (some (intToDec z)) = .ok z := by
  rw [attrInt, xmlInt_intToDec z h]

theorem baseEntries_length (i : Nat) (r : List Int) : (baseEntries i r).length = r.length := by
  induction r generalizing i with
  | nil => rfl
  | cons b rest ih => rw [baseEntries, List.length_cons, ih, List.length_cons]

theorem parseBaseEntries_baseEntries (i : Nat) (r : List Int) (h : ∀ b ∈ r, 0 ≤ b) :
    parseBaseEntries (baseEntries i r) = .ok r := by
  induction r generalizing i with
  | nil => rfl
  | cons b rest ih =>
    rw [baseEntries, parseBaseEntries, bigElem_marshalXML _ b (h b List.mem_cons_self),
      ih (i + 1) fun x hx => h x (List.mem_cons_of_mem _ hx)]

theorem parseBases_print (r : List Int) (h : ∀ b ∈ r, 0 ≤ b) (hl : (r.length : Int) < 2 ^ 63) :
    parseBases (some (natToDec r.length)) (baseEntries 0 r) = .ok r := by
  rw [parseBases, natToDec_eq_intToDec, attrInt_intToDec _ _ ⟨by omega, hl⟩]
  simp only [baseEntries_length, ne_eq, not_true_eq_false, if_false]
  exact parseBaseEntries_baseEntries 0 r h

/-! ## representable keys -/

/-- what a key must satisfy to be representable: the ranges of the Go field types (`Counter uint`,
    `ExpiryDate int64`, `Bases.Num int`, `EpochLength int`, on a 64-bit platform) and non-negative
    big integers (`big.Int.UnmarshalXML` refuses negative ones); `supported` and `ecdsa` are the two
    checks `parsePub` makes after decoding. -/
structure PubKeyData.Valid (env : Env) (k : PubKeyData) : Prop where
  counter : k.counter < 2 ^ 64
  expiry : -(2 : Int) ^ 63 ≤ k.expiry ∧ k.expiry < (2 : Int) ^ 63
  n : 0 ≤ k.n
  z : 0 ≤ k.z
  s : 0 ≤ k.s
  g : ∀ v, k.g = some v → 0 ≤ v
  h : ∀ v, k.h = some v → 0 ≤ v
  r : ∀ b ∈ k.r, 0 ≤ b
  rlen : (k.r.length : Int) < 2 ^ 63
  epoch : -(2 : Int) ^ 63 ≤ k.epoch ∧ k.epoch < (2 : Int) ^ 63
  supported : env.supported (bitLen k.n) = true
  ecdsa : k.g.isSome → k.h.isSome → k.ecdsa ≠ [] → env.ecdsaOk k.ecdsa = true

structure PrivKeyData.Valid (env : Env) (demo : Bool) (k : PrivKeyData) : Prop where
  counter : k.counter < 2 ^ 64
  expiry : -(2 : Int) ^ 63 ≤ k.expiry ∧ k.expiry < (2 : Int) ^ 63
  p : 0 ≤ k.p
  q : 0 ≤ k.q
  pPrime : 0 ≤ k.pPrime
  qPrime : 0 ≤ k.qPrime
  validate : demo = false → validatePriv k = .ok ()
  ecdsa : k.ecdsa ≠ [] → env.ecdsaOk k.ecdsa = true

/-! ## what an accepted document guarantees -/

/-- `Post x P`: if `x` succeeds, its result satisfies `P`. -/
def Post {ε α : Type} (x : Except ε α) (P : α → Prop) : Prop := ∀ a, x = .ok a → P a

theorem Post.ok {ε α : Type} {P : α → Prop} {a : α} (h : P a) : Post (.ok a : Except ε α) P :=
  fun _ e => Except.ok.inj e ▸ h

theorem Post.map {ε α β : Type} {P : β → Prop} {x : Except ε α} {f : α → β} (h : ∀ v, P (f v)) :
    Post (x.map f) P := by
  intro b e
  cases x with
  | error _ => cases e
  | ok v => exact Except.ok.inj e ▸ h v

theorem Post.ite {ε α : Type} {P : α → Prop} {c : Prop} [Decidable c] {x y : Except ε α}
    (hx : c → Post x P) (hy : ¬c → Post y P) : Post (if c then x else y) P := by
  by_cases hc : c
  · rw [if_pos hc]
    exact hx hc
  · rw [if_neg hc]
    exact hy hc

/-- A decoding step leaves `n`, `Z` and `S` as they are, except on an element of that name. -/
theorem pubStep_frame (acc : PubAcc) (it : Item) : Post (pubStep acc it) fun acc' =>
    (acc'.n = acc.n ∨ ∃ t, it = .elem "n" t) ∧ (acc'.z = acc.z ∨ ∃ t, it = .elem "Z" t) ∧
    (acc'.s = acc.s ∨ ∃ t, it = .elem "S" t) := by
  unfold pubStep
  cases it with
  | elem name t =>
    -- down the chain of names, one `Post.ite` for each (`split` is slow on this term)
    simp only
    refine .ite (fun _ => .map fun _ => ⟨.inl rfl, .inl rfl, .inl rfl⟩) fun _ => ?_
    refine .ite (fun _ => .map fun _ => ⟨.inl rfl, .inl rfl, .inl rfl⟩) fun _ => ?_
    refine .ite (fun hc => .map fun _ => ⟨.inr ⟨t, hc ▸ rfl⟩, .inl rfl, .inl rfl⟩) fun _ => ?_
    refine .ite (fun hc => .map fun _ => ⟨.inl rfl, .inr ⟨t, hc ▸ rfl⟩, .inl rfl⟩) fun _ => ?_
    refine .ite (fun hc => .map fun _ => ⟨.inl rfl, .inl rfl, .inr ⟨t, hc ▸ rfl⟩⟩) fun _ => ?_
    refine .ite (fun _ => .map fun _ => ⟨.inl rfl, .inl rfl, .inl rfl⟩) fun _ => ?_
    refine .ite (fun _ => .map fun _ => ⟨.inl rfl, .inl rfl, .inl rfl⟩) fun _ => ?_
    exact .ite (fun _ => .ok ⟨.inl rfl, .inl rfl, .inl rfl⟩) fun _ => .ok ⟨.inl rfl, .inl rfl, .inl rfl⟩
  | bases num entries => exact .map fun _ => ⟨.inl rfl, .inl rfl, .inl rfl⟩
  | features l => exact .map fun _ => ⟨.inl rfl, .inl rfl, .inl rfl⟩

theorem privStep_frame (acc : PrivAcc) (it : Item) : Post (privStep acc it) fun acc' =>
    (acc'.p = acc.p ∨ ∃ t, it = .elem "p" t) ∧ (acc'.q = acc.q ∨ ∃ t, it = .elem "q" t) ∧
    (acc'.pPrime = acc.pPrime ∨ ∃ t, it = .elem "pPrime" t) ∧
    (acc'.qPrime = acc.qPrime ∨ ∃ t, it = .elem "qPrime" t) := by
  unfold privStep
  cases it with
  | elem name t =>
    simp only
    refine .ite (fun _ => .map fun _ => ⟨.inl rfl, .inl rfl, .inl rfl, .inl rfl⟩) fun _ => ?_
    refine .ite (fun _ => .map fun _ => ⟨.inl rfl, .inl rfl, .inl rfl, .inl rfl⟩) fun _ => ?_
    refine .ite (fun hc => .map fun _ => ⟨.inr ⟨t, hc ▸ rfl⟩, .inl rfl, .inl rfl, .inl rfl⟩) fun _ => ?_
    refine .ite (fun hc => .map fun _ => ⟨.inl rfl, .inr ⟨t, hc ▸ rfl⟩, .inl rfl, .inl rfl⟩) fun _ => ?_
    refine .ite (fun hc => .map fun _ => ⟨.inl rfl, .inl rfl, .inr ⟨t, hc ▸ rfl⟩, .inl rfl⟩) fun _ => ?_
    refine .ite (fun hc => .map fun _ => ⟨.inl rfl, .inl rfl, .inl rfl, .inr ⟨t, hc ▸ rfl⟩⟩) fun _ => ?_
    exact .ite (fun _ => .ok ⟨.inl rfl, .inl rfl, .inl rfl, .inl rfl⟩)
      fun _ => .ok ⟨.inl rfl, .inl rfl, .inl rfl, .inl rfl⟩
  | bases num entries => exact .ok ⟨.inl rfl, .inl rfl, .inl rfl, .inl rfl⟩
  | features l => exact .ok ⟨.inl rfl, .inl rfl, .inl rfl, .inl rfl⟩

/-- A part `sel` of the state that only elements called `name` can change is the same after the
    fold as before, if no such element is met. -/
theorem foldItems_keeps {α β : Type} {step : α → Item → Except ParseErr α} {sel : α → β} {name : String}
    (hstep : ∀ acc it acc', step acc it = .ok acc' → sel acc' = sel acc ∨ ∃ t, it = .elem name t)
    {items : List Item} (hno : ∀ t, Item.elem name t ∉ items) {acc acc' : α}
    (h : foldItems step acc items = .ok acc') : sel acc' = sel acc := by
  induction items generalizing acc with
  | nil => exact congrArg sel (Except.ok.inj h).symm
  | cons it rest ih =>
    unfold foldItems at h
    cases hs : step acc it with
    | error e => rw [hs] at h; cases h
    | ok a =>
      rw [hs] at h
      rw [ih (fun t ht => hno t (List.mem_cons_of_mem _ ht)) h]
      rcases hstep acc it a hs with hsel | ⟨t, rfl⟩
      · exact hsel
      · exact absurd List.mem_cons_self (hno t)

/-- An accepted public key document: the items were all decoded, `n`, `Z` and `S` were among
    them, and the modulus length is a supported one. -/
theorem parsePub_ok {env : Env} {doc : KeyDoc} {k : PubKeyData} (h : parsePub env doc = .ok k) :
    ∃ acc, foldItems pubStep {} doc.items = .ok acc ∧ acc.n = some k.n ∧ acc.z = some k.z ∧
      acc.s = some k.s ∧ env.supported (bitLen k.n) = true := by
  unfold parsePub at h
  -- `split_ifs` closes the refusing branch by itself (`.error _ = .ok k`)
  split_ifs at h
  split at h
  · cases h
  · next acc hf =>
    split at h
    · cases h
    · cases h
    · cases h
    · next n z s hn hz hs =>
      split_ifs at h with h1
      cases h
      exact ⟨acc, hf, hn, hz, hs, by simpa using h1⟩

/-- An accepted private key document: the items were all decoded, the four primes were among
    them, and outside demo mode the key passed `Validate`. -/
theorem parsePriv_ok {env : Env} {demo : Bool} {doc : KeyDoc} {k : PrivKeyData}
    (h : parsePriv env demo doc = .ok k) :
    ∃ acc, foldItems privStep {} doc.items = .ok acc ∧ acc.p = some k.p ∧ acc.q = some k.q ∧
      acc.pPrime = some k.pPrime ∧ acc.qPrime = some k.qPrime ∧
      (demo = false → validatePriv k = .ok ()) := by
  unfold parsePriv at h
  by_cases hroot : doc.ns ≠ idemixNs ∨ doc.root ≠ "IssuerPrivateKey"
  · rw [if_pos hroot] at h
    cases h
  · rw [if_neg hroot] at h
    cases hf : foldItems privStep {} doc.items with
    | error e => rw [hf] at h; cases h
    | ok acc =>
      rw [hf] at h
      simp only at h
      refine ⟨acc, rfl, ?_⟩
      match hp : acc.p, hq : acc.q, hpp : acc.pPrime, hqp : acc.qPrime with
      | none, _, _, _ => rw [hp] at h; cases h
      | some _, none, _, _ => rw [hp, hq] at h; cases h
      | some _, some _, none, _ => rw [hp, hq, hpp] at h; cases h
      | some _, some _, some _, none => rw [hp, hq, hpp, hqp] at h; cases h
      | some p, some q, some pp, some qp =>
        rw [hp, hq, hpp, hqp] at h
        simp only at h
        generalize hv : (if demo = true then (Except.ok () : Except ParseErr Unit) else _) = v at h
        cases v with
        | error e => cases h
        | ok u =>
          simp only at h
          -- `split_ifs` closes the refusing branch by itself; the one that returns the key is left
          split_ifs at h
          cases h
          -- the last component rewrites `hv` (`rwa`) rather than restating it: to compare two
          -- statements of it the kernel would unfold `validatePriv`
          exact ⟨rfl, rfl, rfl, rfl, fun hd => by rwa [hd, if_neg Bool.false_ne_true] at hv⟩

theorem validatePriv_ok (k : PrivKeyData) (h : validatePriv k = .ok ()) :
    (k.p - 1) / 2 = k.pPrime ∧ (k.q - 1) / 2 = k.qPrime ∧ safePrime k.p = true ∧ safePrime k.q = true := by
  unfold validatePriv at h
  split_ifs at h with h1 h2 h3 h4
  exact ⟨not_not.mp h1, not_not.mp h2, h3, h4⟩

/-! ## reading back a printed key

Each printed item is read by its own decoder and sets its own field; the fold over the printed
items is these steps one after the other. -/

theorem foldItems_append {α : Type} (step : α → Item → Except ParseErr α) (acc : α) (l1 l2 : List Item) :
    foldItems step acc (l1 ++ l2) =
      match foldItems step acc l1 with
      | .error e => .error e
      | .ok a => foldItems step a l2 := by
  induction l1 generalizing acc with
  | nil => rfl
  | cons it rest ih =>
    simp only [List.cons_append, foldItems]
    cases step acc it with
    | error e => rfl
    | ok a => exact ih a

theorem foldItems_cons_of {α : Type} {step : α → Item → Except ParseErr α} {acc a : α} {it : Item}
    {rest : List Item} {r : Except ParseErr α} (h : step acc it = .ok a)
    (hr : foldItems step a rest = r) : foldItems step acc (it :: rest) = r := by
  rw [foldItems, h]
  exact hr

theorem foldItems_append_of {α : Type} {step : α → Item → Except ParseErr α} {acc a : α}
    {l1 l2 : List Item} {r : Except ParseErr α} (h : foldItems step acc l1 = .ok a)
    (hr : foldItems step a l2 = r) : foldItems step acc (l1 ++ l2) = r := by
  rw [foldItems_append, h]
  exact hr

theorem pubStep_counter (acc : PubAcc) {c : Nat} (h : c < 2 ^ 64) :
    pubStep acc (.elem "Counter" (natToDec c)) = .ok { acc with counter := c } := by
  simp only [pubStep, if_true, setCounter, xmlUint_natToDec c h, Except.map]

theorem pubStep_expiry (acc : PubAcc) {e : Int} (h : -(2 : Int) ^ 63 ≤ e ∧ e < (2 : Int) ^ 63) :
    pubStep acc (.elem "ExpiryDate" (intToDec e)) = .ok { acc with expiry := e } := by
  simp only [pubStep, String.reduceEq, if_false, if_true, setExpiry, xmlInt_intToDec e h, Except.map]

theorem pubStep_n (acc : PubAcc) {v : Int} (h : 0 ≤ v) :
    pubStep acc (.elem "n" (marshalXML v)) = .ok { acc with n := some v } := by
  simp only [pubStep, String.reduceEq, if_false, if_true, bigElem_marshalXML _ v h, Except.map]

theorem pubStep_Z (acc : PubAcc) {v : Int} (h : 0 ≤ v) :
    pubStep acc (.elem "Z" (marshalXML v)) = .ok { acc with z := some v } := by
  simp only [pubStep, String.reduceEq, if_false, if_true, bigElem_marshalXML _ v h, Except.map]

theorem pubStep_S (acc : PubAcc) {v : Int} (h : 0 ≤ v) :
    pubStep acc (.elem "S" (marshalXML v)) = .ok { acc with s := some v } := by
  simp only [pubStep, String.reduceEq, if_false, if_true, bigElem_marshalXML _ v h, Except.map]

/-- An absent `G` prints no item, and the field stays `none` as in the state before. -/
theorem foldItems_optElem_G {acc : PubAcc} {g : Option Int} (hg : ∀ v, g = some v → 0 ≤ v)
    (h0 : acc.g = none) : foldItems pubStep acc (optElem "G" g) = .ok { acc with g := g } := by
  cases g with
  | none => exact congrArg Except.ok (by rw [← h0])
  | some v =>
    simp only [optElem, foldItems, pubStep, String.reduceEq, if_false, if_true,
      bigElem_marshalXML _ v (hg v rfl), Except.map]

theorem foldItems_optElem_H {acc : PubAcc} {o : Option Int} (ho : ∀ v, o = some v → 0 ≤ v)
    (h0 : acc.h = none) : foldItems pubStep acc (optElem "H" o) = .ok { acc with h := o } := by
  cases o with
  | none => exact congrArg Except.ok (by rw [← h0])
  | some v =>
    simp only [optElem, foldItems, pubStep, String.reduceEq, if_false, if_true,
      bigElem_marshalXML _ v (ho v rfl), Except.map]

theorem pubStep_bases (acc : PubAcc) {r : List Int} (h : ∀ b ∈ r, 0 ≤ b) (hl : (r.length : Int) < 2 ^ 63) :
    pubStep acc (.bases (some (natToDec r.length)) (baseEntries 0 r)) = .ok { acc with r := r } := by
  rw [pubStep, parseBases_print r h hl, Except.map]

theorem pubStep_features (acc : PubAcc) {e : Int} (h : -(2 : Int) ^ 63 ≤ e ∧ e < (2 : Int) ^ 63) :
    pubStep acc (.features (some (intToDec e))) = .ok { acc with epoch := e } := by
  rw [pubStep, attrInt_intToDec _ e h, Except.map]

theorem foldItems_pub_ecdsa {acc : PubAcc} (e : Text) (h0 : acc.ecdsa = []) :
    foldItems pubStep acc (if e = [] then [] else [.elem "ECDSA" e]) = .ok { acc with ecdsa := e } := by
  by_cases he : e = []
  · rw [if_pos he, he, ← h0]
    rfl
  · rw [if_neg he]
    simp only [foldItems, pubStep, String.reduceEq, if_false, if_true]

theorem foldItems_printPub {env : Env} {k : PubKeyData} (hv : k.Valid env) :
    foldItems pubStep {} (printPub k).items =
      .ok { counter := k.counter, expiry := k.expiry, n := some k.n, z := some k.z, s := some k.s,
            g := k.g, h := k.h, r := k.r, epoch := k.epoch, ecdsa := k.ecdsa } := by
  simp only [printPub, List.append_assoc, List.cons_append, List.nil_append]
  refine foldItems_cons_of (pubStep_counter _ hv.counter) ?_
  refine foldItems_cons_of (pubStep_expiry _ hv.expiry) ?_
  refine foldItems_cons_of (pubStep_n _ hv.n) ?_
  refine foldItems_cons_of (pubStep_Z _ hv.z) ?_
  refine foldItems_cons_of (pubStep_S _ hv.s) ?_
  refine foldItems_append_of (foldItems_optElem_G hv.g rfl) ?_
  refine foldItems_append_of (foldItems_optElem_H hv.h rfl) ?_
  refine foldItems_cons_of (pubStep_bases _ hv.r hv.rlen) ?_
  refine foldItems_cons_of (pubStep_features _ hv.epoch) ?_
  exact foldItems_pub_ecdsa k.ecdsa rfl

theorem privStep_counter (acc : PrivAcc) {c : Nat} (h : c < 2 ^ 64) :
    privStep acc (.elem "Counter" (natToDec c)) = .ok { acc with counter := c } := by
  simp only [privStep, if_true, setCounter, xmlUint_natToDec c h, Except.map]

theorem privStep_expiry (acc : PrivAcc) {e : Int} (h : -(2 : Int) ^ 63 ≤ e ∧ e < (2 : Int) ^ 63) :
    privStep acc (.elem "ExpiryDate" (intToDec e)) = .ok { acc with expiry := e } := by
  simp only [privStep, String.reduceEq, if_false, if_true, setExpiry, xmlInt_intToDec e h, Except.map]

theorem privStep_p (acc : PrivAcc) {v : Int} (h : 0 ≤ v) :
    privStep acc (.elem "p" (marshalXML v)) = .ok { acc with p := some v } := by
  simp only [privStep, String.reduceEq, if_false, if_true, bigElem_marshalXML _ v h, Except.map]

theorem privStep_q (acc : PrivAcc) {v : Int} (h : 0 ≤ v) :
    privStep acc (.elem "q" (marshalXML v)) = .ok { acc with q := some v } := by
  simp only [privStep, String.reduceEq, if_false, if_true, bigElem_marshalXML _ v h, Except.map]

theorem privStep_pPrime (acc : PrivAcc) {v : Int} (h : 0 ≤ v) :
    privStep acc (.elem "pPrime" (marshalXML v)) = .ok { acc with pPrime := some v } := by
  simp only [privStep, String.reduceEq, if_false, if_true, bigElem_marshalXML _ v h, Except.map]

theorem privStep_qPrime (acc : PrivAcc) {v : Int} (h : 0 ≤ v) :
    privStep acc (.elem "qPrime" (marshalXML v)) = .ok { acc with qPrime := some v } := by
  simp only [privStep, String.reduceEq, if_false, if_true, bigElem_marshalXML _ v h, Except.map]

theorem foldItems_priv_ecdsa {acc : PrivAcc} (e : Text) (h0 : acc.ecdsa = []) :
    foldItems privStep acc (if e = [] then [] else [.elem "ECDSA" e]) = .ok { acc with ecdsa := e } := by
  by_cases he : e = []
  · rw [if_pos he, he, ← h0]
    rfl
  · rw [if_neg he]
    simp only [foldItems, privStep, String.reduceEq, if_false, if_true]

theorem foldItems_printPriv {env : Env} {demo : Bool} {k : PrivKeyData} (hv : k.Valid env demo) :
    foldItems privStep {} (printPriv k).items =
      .ok { counter := k.counter, expiry := k.expiry, p := some k.p, q := some k.q,
            pPrime := some k.pPrime, qPrime := some k.qPrime, ecdsa := k.ecdsa } := by
  simp only [printPriv, List.cons_append, List.nil_append]
  refine foldItems_cons_of (privStep_counter _ hv.counter) ?_
  refine foldItems_cons_of (privStep_expiry _ hv.expiry) ?_
  refine foldItems_cons_of (privStep_p _ hv.p) ?_
  refine foldItems_cons_of (privStep_q _ hv.q) ?_
  refine foldItems_cons_of (privStep_pPrime _ hv.pPrime) ?_
  refine foldItems_cons_of (privStep_qPrime _ hv.qPrime) ?_
  exact foldItems_priv_ecdsa k.ecdsa rfl

/-! ## rejection -/

def IsError {ε α : Type} (x : Except ε α) : Prop := ∃ e, x = .error e

theorem isError_of_ne_ok {ε α : Type} {x : Except ε α} (h : ∀ a, x ≠ .ok a) : IsError x := by
  cases x with
  | error e => exact ⟨e, rfl⟩
  | ok a => exact absurd rfl (h a)

theorem except_map_error {ε α β : Type} {f : α → β} {x : Except ε α} (h : IsError x) :
    IsError (x.map f) := by
  obtain ⟨e, rfl⟩ := h
  exact ⟨e, rfl⟩

theorem foldItems_ne_ok_of_mem {α : Type} {step : α → Item → Except ParseErr α} {items : List Item}
    {it : Item} (hmem : it ∈ items) (hbad : ∀ acc, IsError (step acc it)) {acc acc' : α} :
    foldItems step acc items ≠ .ok acc' := by
  induction items generalizing acc with
  | nil => exact absurd hmem List.not_mem_nil
  | cons x rest ih =>
    unfold foldItems
    rcases List.mem_cons.mp hmem with rfl | h
    · obtain ⟨e, he⟩ := hbad acc
      rw [he]
      nofun
    · cases step acc x with
      | error e => nofun
      | ok a => exact ih h

/-- a document with an item on which every step fails is refused. -/
theorem parsePub_error_of_mem (env : Env) {doc : KeyDoc} {it : Item} (hmem : it ∈ doc.items)
    (hbad : ∀ acc, IsError (pubStep acc it)) : IsError (parsePub env doc) :=
  isError_of_ne_ok fun _ hk =>
    let ⟨_, hf, _⟩ := parsePub_ok hk
    foldItems_ne_ok_of_mem hmem hbad hf

theorem parsePriv_error_of_mem (env : Env) (demo : Bool) {doc : KeyDoc} {it : Item}
    (hmem : it ∈ doc.items) (hbad : ∀ acc, IsError (privStep acc it)) :
    IsError (parsePriv env demo doc) :=
  isError_of_ne_ok fun _ hk =>
    let ⟨_, hf, _⟩ := parsePriv_ok hk
    foldItems_ne_ok_of_mem hmem hbad hf

/-- a text that `big.Int.UnmarshalXML` refuses: not a base 10 integer, or negative. -/
def BadNumber (t : Text) : Prop := parseDecInt? t = none ∨ ∃ z, parseDecInt? t = some z ∧ z < 0

theorem bigElem_bad (name : String) (t : Text) (h : BadNumber t) : IsError (bigElem name t) := by
  unfold bigElem unmarshalXML
  rcases h with h | ⟨z, h, hz⟩
  · rw [h]
    exact ⟨_, rfl⟩
  · simp only [h, hz, if_true]
    exact ⟨_, rfl⟩

def pubBigNames : List String := ["n", "Z", "S", "G", "H"]
def privBigNames : List String := ["p", "q", "pPrime", "qPrime"]

theorem pubStep_bad_number (acc : PubAcc) (name : String) (t : Text) (hn : name ∈ pubBigNames)
    (h : BadNumber t) : IsError (pubStep acc (.elem name t)) := by
  have hb := bigElem_bad name t h
  simp only [pubBigNames, List.mem_cons, List.not_mem_nil, or_false] at hn
  rcases hn with rfl | rfl | rfl | rfl | rfl <;>
    (simp only [pubStep, String.reduceEq, if_false, if_true]; exact except_map_error hb)

theorem privStep_bad_number (acc : PrivAcc) (name : String) (t : Text) (hn : name ∈ privBigNames)
    (h : BadNumber t) : IsError (privStep acc (.elem name t)) := by
  have hb := bigElem_bad name t h
  simp only [privBigNames, List.mem_cons, List.not_mem_nil, or_false] at hn
  rcases hn with rfl | rfl | rfl | rfl <;>
    (simp only [privStep, String.reduceEq, if_false, if_true]; exact except_map_error hb)

theorem parseBaseEntries_bad (entries : List (String × Text)) (name : String) (t : Text)
    (hmem : (name, t) ∈ entries) (h : BadNumber t) : IsError (parseBaseEntries entries) := by
  induction entries with
  | nil => exact absurd hmem List.not_mem_nil
  | cons x rest ih =>
    unfold parseBaseEntries
    rcases List.mem_cons.mp hmem with rfl | hx
    · obtain ⟨e, he⟩ := bigElem_bad "Bases" t h
      rw [he]
      exact ⟨e, rfl⟩
    · cases bigElem "Bases" x.2 with
      | error e => exact ⟨e, rfl⟩
      | ok z =>
        obtain ⟨e, he⟩ := ih hx
        simp only [he]
        exact ⟨e, rfl⟩

/-- a base list that must be refused: unreadable count, count ≠ number of entries, or an entry
    that is not a non-negative base 10 integer. -/
def BadBases (num : Option Text) (entries : List (String × Text)) : Prop :=
  IsError (attrInt "Bases" num) ∨ (∃ k, attrInt "Bases" num = .ok k ∧ k ≠ (entries.length : Int)) ∨
    ∃ name t, (name, t) ∈ entries ∧ BadNumber t

theorem parseBases_bad (num : Option Text) (entries : List (String × Text)) (h : BadBases num entries) :
    IsError (parseBases num entries) := by
  unfold parseBases
  rcases h with ⟨e, he⟩ | ⟨k, hk, hne⟩ | ⟨name, t, hmem, hbad⟩
  · rw [he]
    exact ⟨e, rfl⟩
  · rw [hk]
    simp only [hne, ne_eq, not_false_eq_true, if_true]
    exact ⟨_, rfl⟩
  · cases attrInt "Bases" num with
    | error e => exact ⟨e, rfl⟩
    | ok k =>
      simp only
      split_ifs
      · exact ⟨_, rfl⟩
      · exact parseBaseEntries_bad entries name t hmem hbad

end Gabi.Serial
