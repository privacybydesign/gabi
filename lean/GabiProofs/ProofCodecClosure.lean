/-
  GabiProofs.ProofCodecClosure — the converse of GabiProofs.ProofCodec: what the decoder
  (`GabiModel.Decode`) returns meets the hypotheses (`WireOk`, `MapsSorted`, `strip = self`) under
  which the decoder inverts the canonical encoder, so that the round trip can be iterated (`rewire`).
  Re-reading only permutes the maps of the stripped proof, which keeps the verdict (by
  GabiProofs.ProofPerm). At the end: trees and proofs that show what each hypothesis is needed for.
-/
import GabiProofs.ProofCodec
import GabiProofs.ProofPerm
import Mathlib.Logic.Function.Iterate

namespace Gabi
open Lean Gabi.Wire

/-! ## well-formed trees -/

/-- every object node of the tree is a well-formed tree map (true of every parsed tree and of
    every tree built with `Json.mkObj`). -/
inductive AllWF : Json → Prop
  | null : AllWF .null
  | bool (b : Bool) : AllWF (.bool b)
  | num (n : JsonNumber) : AllWF (.num n)
  | str (s : String) : AllWF (.str s)
  | arr (a : Array Json) : (∀ x ∈ a.toList, AllWF x) → AllWF (.arr a)
  | obj (t : Std.TreeMap.Raw String Json compare) : t.WF → (∀ kv ∈ t.toList, AllWF kv.2) → AllWF (.obj t)

theorem AllWF.obj_wf {t : Std.TreeMap.Raw String Json compare} (h : AllWF (.obj t)) : t.WF := by
  cases h with
  | obj _ hw _ => exact hw

theorem AllWF.obj_mem {t : Std.TreeMap.Raw String Json compare} (h : AllWF (.obj t)) :
    ∀ kv ∈ t.toList, AllWF kv.2 := by
  cases h with
  | obj _ _ hm => exact hm

theorem AllWF.arr_mem {a : Array Json} (h : AllWF (.arr a)) : ∀ x ∈ a.toList, AllWF x := by
  cases h with
  | arr _ hm => exact hm

theorem getObjVal_obj_ok {t : Std.TreeMap.Raw String Json compare} (ht : t.WF) {k : String} {v : Json}
    (h : (Json.obj t).getObjVal? k = .ok v) : (k, v) ∈ t.toList := by
  unfold Json.getObjVal? at h
  simp only [] at h
  cases hg : t.get? k with
  | none => rw [hg] at h; simp [throw, throwThe, MonadExceptOf.throw] at h
  | some w =>
    rw [hg] at h
    have : w = v := by simpa [pure, Except.pure] using h
    subst this
    rw [Std.TreeMap.Raw.mem_toList_iff_getElem?_eq_some ht, ← Std.TreeMap.Raw.get?_eq_getElem?]
    exact hg

/-- a member of a well-formed tree is well-formed (an absent member reads as `null`). -/
theorem AllWF.optField {j : Json} (h : AllWF j) (k : String) : AllWF (Decode.optField j k) := by
  unfold Decode.optField
  cases hg : j.getObjVal? k with
  | error _ => exact AllWF.null
  | ok v =>
    simp only []
    cases j with
    | obj t => exact h.obj_mem _ (getObjVal_obj_ok h.obj_wf hg)
    | _ => simp [Json.getObjVal?, throw, throwThe, MonadExceptOf.throw] at hg

/-! ## what a successful decoding says about its result -/

theorem D.pure_ok_iff {α} {a b : α} : (pure a : Decode.D α) = .ok b ↔ a = b :=
  Except.pure_ok_iff

theorem big_ok_bigOk {j : Json} {direct : Bool} {x : Option Int} (h : Decode.big j direct = .ok x) :
    BigOk direct x := by
  rintro z rfl
  unfold Decode.big at h
  split at h
  · cases Except.ok.inj h
  · split at h
    · next hc =>
      cases Except.ok.inj h
      exact Or.inr hc.2
    · cases h
  · split at h
    · split at h
      · cases h
      · next hc =>
        cases Except.ok.inj h
        cases direct with
        | true => exact Or.inl rfl
        | false => exact Or.inr (Int.not_lt.mp fun hz => hc ⟨hz, rfl⟩)
    · split at h
      · cases Except.ok.inj h
        exact Or.inr (Int.natCast_nonneg _)
      · cases h

theorem uint_ok_lt {j : Json} {n : Nat} (h : Decode.uint j = .ok n) : n < 2 ^ 64 := by
  unfold Decode.uint at h
  split at h
  · rw [← Except.ok.inj h]; decide
  · split at h
    · next hc =>
      rw [← Except.ok.inj h]
      have h1 := hc.2.1
      have h2 := hc.2.2
      omega
    · cases h
  · cases h

theorem int_ok_int64 {j : Json} {z : Int} (h : Decode.int j = .ok z) : Int64 z := by
  unfold Decode.int at h
  split at h
  · rw [← Except.ok.inj h]; constructor <;> decide
  · split at h
    · next hc =>
      rw [← Except.ok.inj h]
      exact ⟨hc.2.1, hc.2.2⟩
    · cases h
  · cases h

theorem bigList_ok_bigOk {j : Json} {direct : Bool} {l : List (Option Int)}
    (h : Decode.bigList j direct = .ok l) : ∀ x ∈ l, BigOk direct x := by
  unfold Decode.bigList at h
  split at h
  · rw [← Except.ok.inj h]; intro x hx; cases hx
  · intro x hx
    obtain ⟨e, _, he⟩ := forall₂_mem_right (Except.mapM_ok_forall₂ _ _ _ h) hx
    exact big_ok_bigOk he
  · cases h

theorem parseIntKey_ok {k : String} {z : Int} (h : Decode.parseIntKey k = .ok z) :
    k.toInt? = some z ∧ Int64 z := by
  unfold Decode.parseIntKey at h
  split at h
  · next z' hz' =>
    split at h
    · next hc =>
      rw [← Except.ok.inj h]
      exact ⟨hz', hc.1, hc.2⟩
    · cases h
  · cases h

/-! ## `dedupKeys` keeps one entry per key and invents none -/

theorem dedupKeys_foldl_nodup {α} (l acc : List (Int × α)) (h : (acc.map (·.1)).Nodup) :
    ((l.foldl (fun acc kv => acc.filter (·.1 ≠ kv.1) ++ [kv]) acc).map (·.1)).Nodup := by
  induction l generalizing acc with
  | nil => exact h
  | cons kv l ih =>
    rw [List.foldl_cons]
    apply ih
    rw [List.map_append, List.nodup_append]
    refine ⟨(List.filter_sublist.map _).nodup h, by simp, ?_⟩
    intro a ha b hb
    simp only [List.map_cons, List.map_nil, List.mem_singleton] at hb
    subst hb
    obtain ⟨x, hx, rfl⟩ := List.mem_map.mp ha
    have := (List.mem_filter.mp hx).2
    simpa using this

theorem dedupKeys_nodup {α} (l : List (Int × α)) : ((Decode.dedupKeys l).map (·.1)).Nodup :=
  dedupKeys_foldl_nodup l [] List.nodup_nil

theorem dedupKeys_foldl_mem {α} (l acc : List (Int × α)) :
    ∀ x ∈ l.foldl (fun acc kv => acc.filter (·.1 ≠ kv.1) ++ [kv]) acc, x ∈ acc ∨ x ∈ l := by
  induction l generalizing acc with
  | nil => intro x hx; exact Or.inl hx
  | cons kv l ih =>
    intro x hx
    rw [List.foldl_cons] at hx
    rcases ih _ x hx with h | h
    · rw [List.mem_append] at h
      rcases h with h | h
      · exact Or.inl (List.mem_filter.mp h).1
      · rw [List.mem_singleton] at h
        subst h
        exact Or.inr (List.mem_cons_self ..)
    · exact Or.inr (List.mem_cons_of_mem _ h)

theorem dedupKeys_subset {α} (l : List (Int × α)) : ∀ x ∈ Decode.dedupKeys l, x ∈ l := by
  intro x hx
  rcases dedupKeys_foldl_mem l [] x hx with h | h
  · cases h
  · exact h

/-! ## decoded maps: where the entries come from, and in which order -/

/-- one member of an object read as an entry of a `map[int]*big.Int`. -/
def IntEntry (direct : Bool) (e : String × Json) (r : Int × Option Int) : Prop :=
  Decode.parseIntKey e.1 = .ok r.1 ∧ Decode.big e.2 direct = .ok r.2

theorem intMap_ok_inv {j : Json} {direct : Bool} {m : IntMap} (h : Decode.intMap j direct = .ok m) :
    (j = .null ∧ m = []) ∨
    ∃ t l, j = .obj t ∧ List.Forall₂ (IntEntry direct) t.toList l ∧ m = Decode.dedupKeys l := by
  unfold Decode.intMap at h
  split at h
  · exact Or.inl ⟨rfl, (Except.ok.inj h).symm⟩
  · next t =>
    simp only [] at h
    split at h
    · obtain ⟨_, ⟨⟩, _⟩ := Except.bind_ok_iff.mp h
    simp only [objEntries_obj, Except.bind_ok_iff, Except.pure_ok_iff] at h
    obtain ⟨_, ⟨⟩, l, hl, rfl⟩ := h
    refine Or.inr ⟨t, l, rfl, (Except.mapM_ok_forall₂ _ _ _ hl).imp ?_, rfl⟩
    rintro ⟨k, v⟩ ⟨z, x⟩ hkv
    simp only [Except.bind_ok_iff, Except.pure_ok_iff, Prod.mk.injEq] at hkv
    obtain ⟨_, hz, _, hx, rfl, rfl⟩ := hkv
    exact ⟨hz, hx⟩
  · cases h

theorem intMap_ok_intMapOk {j : Json} {direct : Bool} {m : IntMap} (h : Decode.intMap j direct = .ok m) :
    IntMapOk direct m := by
  rcases intMap_ok_inv h with ⟨_, rfl⟩ | ⟨t, l, _, hl, rfl⟩
  · exact ⟨List.nodup_nil, by simp, by simp⟩
  · have hkv : ∀ kv ∈ Decode.dedupKeys l, Int64 kv.1 ∧ BigOk direct kv.2 := by
      intro kv hkv
      obtain ⟨e, _, he⟩ := forall₂_mem_right hl (dedupKeys_subset l kv hkv)
      exact ⟨(parseIntKey_ok he.1).2, big_ok_bigOk he.2⟩
    exact ⟨dedupKeys_nodup l, fun kv h => (hkv kv h).1, fun kv h => (hkv kv h).2⟩

/-- every member name that reads as an integer is the canonical decimal text of that integer
    (no "+5", "007", "-0", "1_0"); vacuous for trees that are not objects. -/
def CanonKeys (j : Json) : Prop :=
  ∀ t, j = .obj t → ∀ kv ∈ t.toList, ∀ z : Int, kv.1.toInt? = some z → kv.1 = toString z

/-- entries read from a well-formed object whose integer keys are canonically spelled come out
    in the order of their key texts, so `dedupKeys` drops none of them. -/
theorem keyed_entries_sorted {β γ} {R : String × β → Int × γ → Prop}
    {t : Std.TreeMap.Raw String β compare} (ht : t.WF) {l : List (Int × γ)}
    (hR : ∀ e r, R e r → Decode.parseIntKey e.1 = .ok r.1)
    (hc : ∀ kv ∈ t.toList, ∀ z : Int, kv.1.toInt? = some z → kv.1 = toString z)
    (hl : List.Forall₂ R t.toList l) : KeyedSorted toString (Decode.dedupKeys l) := by
  have hs : KeyedSorted toString l := by
    refine forall₂_pairwise hl (Std.TreeMap.Raw.ordered_keys_toList ht) ?_
    intro a ha b hb a' b' haa' hbb' hab
    rw [← hc a ha a'.1 (parseIntKey_ok (hR a a' haa')).1, ← hc b hb b'.1 (parseIntKey_ok (hR b b' hbb')).1]
    exact hab
  rw [dedupKeys_of_nodup l hs.nodup]
  exact hs

theorem intMap_ok_sorted {j : Json} (hwf : AllWF j) (hc : CanonKeys j) {direct : Bool} {m : IntMap}
    (h : Decode.intMap j direct = .ok m) : KeyedSorted toString m := by
  rcases intMap_ok_inv h with ⟨_, rfl⟩ | ⟨t, l, rfl, hl, rfl⟩
  · exact List.Pairwise.nil
  · exact keyed_entries_sorted hwf.obj_wf (fun _ _ h => h.1) (hc t rfl) hl

theorem strMap_ok_inv {j : Json} {direct : Bool} {m : List (String × Option Int)}
    (h : Decode.strMap j direct = .ok m) :
    (j = .null ∧ m = []) ∨
    ∃ t, j = .obj t ∧
      List.Forall₂ (fun (e : String × Json) (r : String × Option Int) =>
        r.1 = e.1 ∧ Decode.big e.2 direct = .ok r.2) t.toList m := by
  unfold Decode.strMap at h
  split at h
  · exact Or.inl ⟨rfl, (Except.ok.inj h).symm⟩
  · next t =>
    simp only [] at h
    split at h
    · obtain ⟨_, ⟨⟩, _⟩ := Except.bind_ok_iff.mp h
    simp only [objEntries_obj, Except.bind_ok_iff] at h
    obtain ⟨_, ⟨⟩, hl⟩ := h
    refine Or.inr ⟨t, rfl, (Except.mapM_ok_forall₂ _ _ _ hl).imp ?_⟩
    rintro ⟨k, v⟩ ⟨z, x⟩ hkv
    simp only [Except.bind_ok_iff, Except.pure_ok_iff, Prod.mk.injEq] at hkv
    obtain ⟨_, hx, rfl, rfl⟩ := hkv
    exact ⟨rfl, hx⟩
  · cases h

theorem strMap_ok_key_mem {j : Json} (hwf : AllWF j) {direct : Bool} {m : List (String × Option Int)}
    (h : Decode.strMap j direct = .ok m) {kv : String × Option Int} (hkv : kv ∈ m) :
    ∃ t, j = .obj t ∧ t.contains kv.1 = true := by
  rcases strMap_ok_inv h with ⟨_, rfl⟩ | ⟨t, rfl, hl⟩
  · cases hkv
  · obtain ⟨e, he, hr⟩ := forall₂_mem_right hl hkv
    refine ⟨t, rfl, ?_⟩
    rw [hr.1, ← Std.TreeMap.Raw.mem_iff_contains, ← Std.TreeMap.Raw.mem_keys hwf.obj_wf,
      ← Std.TreeMap.Raw.map_fst_toList_eq_keys]
    exact List.mem_map_of_mem he

theorem strMap_ok_sorted {j : Json} (hwf : AllWF j) {direct : Bool} {m : List (String × Option Int)}
    (h : Decode.strMap j direct = .ok m) : KeyedSorted id m ∧ ∀ kv ∈ m, BigOk direct kv.2 := by
  rcases strMap_ok_inv h with ⟨rfl, rfl⟩ | ⟨t, rfl, hl⟩
  · exact ⟨List.Pairwise.nil, by simp⟩
  · refine ⟨?_, ?_⟩
    · refine forall₂_pairwise hl (Std.TreeMap.Raw.ordered_keys_toList hwf.obj_wf) ?_
      intro a _ b _ a' b' haa' hbb' hab
      show compare a'.1 b'.1 = .lt
      rw [haa'.1, hbb'.1]
      exact hab
    · intro kv hkv
      obtain ⟨e, _, he⟩ := forall₂_mem_right hl hkv
      exact big_ok_bigOk he.2

/-! ## decoded structs: each member is the decoding of the member of that name -/

theorem structObj_ok_inv {j : Json} {so : Option Json} (h : Decode.structObj j = .ok so) :
    (j = .null ∧ so = none) ∨ so = some j := by
  unfold Decode.structObj at h
  split at h
  · exact Or.inl ⟨rfl, (Except.ok.inj h).symm⟩
  · split at h
    · cases h
    · exact Or.inr (Except.ok.inj h).symm
  · cases h

theorem sacc_ok_lt {j : Json} {x : Option SignedAccumulator} (h : Decode.sacc j = .ok x) :
    ∀ s, x = some s → s.pkCounter < 2 ^ 64 := by
  unfold Decode.sacc at h
  obtain ⟨so, hso, h⟩ := Except.bind_ok_iff.mp h
  rcases structObj_ok_inv hso with ⟨_, rfl⟩ | rfl
  · cases Except.ok.inj h
    rintro s ⟨⟩
  · simp only [Except.bind_ok_iff, Except.pure_ok_iff] at h
    obtain ⟨d, _, u, hu, rfl⟩ := h
    rintro s ⟨⟩
    exact uint_ok_lt hu

/-- what the decoder guarantees about a non-revocation proof read from `j`. -/
structure NonrevDecoded (direct : Bool) (j : Json) (nr : NonRevProof) : Prop where
  cr : BigOk direct nr.cr
  cu : BigOk direct nr.cu
  nu : nr.nu = none
  challenge : nr.challenge = none
  responses : Decode.strMap (Decode.optField j "responses") direct = .ok nr.responses
  sacc : ∀ s, nr.sacc = some s → s.pkCounter < 2 ^ 64

theorem nonrev_ok_inv {j : Json} {direct : Bool} {x : Option NonRevProof}
    (h : Decode.nonrev j direct = .ok x) : ∀ nr, x = some nr → NonrevDecoded direct j nr := by
  unfold Decode.nonrev at h
  obtain ⟨so, hso, h⟩ := Except.bind_ok_iff.mp h
  rcases structObj_ok_inv hso with ⟨_, rfl⟩ | rfl
  · cases Except.ok.inj h
    rintro s ⟨⟩
  · simp only [Except.bind_ok_iff, Except.pure_ok_iff] at h
    obtain ⟨cr, hcr, cu, hcu, rs, hrs, sa, hsa, rfl⟩ := h
    rintro s ⟨⟩
    exact ⟨big_ok_bigOk hcr, big_ok_bigOk hcu, rfl, rfl, hrs, sacc_ok_lt hsa⟩

theorem rangeProof_ok_inv {j : Json} {direct : Bool} {x : Option RangeProof}
    (h : Decode.rangeProof j direct = .ok x) : ∀ rp, x = some rp → rp.WireOk direct ∧ rp.mResponse = none := by
  unfold Decode.rangeProof at h
  obtain ⟨so, hso, h⟩ := Except.bind_ok_iff.mp h
  rcases structObj_ok_inv hso with ⟨_, rfl⟩ | rfl
  · cases Except.ok.inj h
    rintro s ⟨⟩
  · simp only [Except.bind_ok_iff, Except.pure_ok_iff] at h
    obtain ⟨cs, hcs, ds, hds, vs, hvs, v5, hv5, ld, hld, sg, hsg, a, ha, k, hk, rfl⟩ := h
    rintro s ⟨⟩
    exact ⟨⟨bigList_ok_bigOk hcs, bigList_ok_bigOk hds, bigList_ok_bigOk hvs, big_ok_bigOk hv5,
      big_ok_bigOk hk, uint_ok_lt hld, uint_ok_lt ha, int_ok_int64 hsg⟩, rfl⟩

/-- one member of the `rangeproofs` object read as a map entry. -/
def RPEntry (direct : Bool) (e : String × Json) (r : Int × List (Option RangeProof)) : Prop :=
  Decode.parseIntKey e.1 = .ok r.1 ∧
    ((e.2 = .null ∧ r.2 = []) ∨ ∃ a, e.2 = .arr a ∧ a.toList.mapM (Decode.rangeProof · direct) = .ok r.2)

theorem rangeProofs_ok_inv {j : Json} {direct : Bool} {x : Option RPMap}
    (h : Decode.rangeProofs j direct = .ok x) :
    (j = .null ∧ x = none) ∨
    ∃ t l, j = .obj t ∧ List.Forall₂ (RPEntry direct) t.toList l ∧ x = some (Decode.dedupKeys l) := by
  unfold Decode.rangeProofs at h
  split at h
  · exact Or.inl ⟨rfl, (Except.ok.inj h).symm⟩
  · next t =>
    simp only [] at h
    split at h
    · obtain ⟨_, ⟨⟩, _⟩ := Except.bind_ok_iff.mp h
    simp only [objEntries_obj, Except.bind_ok_iff, Except.pure_ok_iff] at h
    obtain ⟨_, ⟨⟩, l, hl, rfl⟩ := h
    refine Or.inr ⟨t, l, rfl, (Except.mapM_ok_forall₂ _ _ _ hl).imp ?_, rfl⟩
    rintro ⟨k, v⟩ ⟨z, ps⟩ hkv
    simp only [Except.bind_ok_iff, Except.pure_ok_iff, Prod.mk.injEq] at hkv
    obtain ⟨_, hz, _, hps, rfl, rfl⟩ := hkv
    refine ⟨hz, ?_⟩
    split at hps
    · exact Or.inl ⟨rfl, (Except.ok.inj hps).symm⟩
    · next a => exact Or.inr ⟨a, rfl, hps⟩
    · cases hps
  · cases h

theorem rangeProofs_ok_rpMapOk {j : Json} {direct : Bool} {x : Option RPMap}
    (h : Decode.rangeProofs j direct = .ok x) :
    ∀ m, x = some m → RPMapOk direct m ∧ ∀ kv ∈ m, ∀ rp ∈ kv.2, ∀ r, rp = some r → r.mResponse = none := by
  intro m hm
  rcases rangeProofs_ok_inv h with ⟨_, rfl⟩ | ⟨t, l, _, hl, rfl⟩
  · cases hm
  · cases hm
    have hkv : ∀ kv ∈ Decode.dedupKeys l,
        Int64 kv.1 ∧ ∀ rp ∈ kv.2, ∀ r, rp = some r → r.WireOk direct ∧ r.mResponse = none := by
      intro kv hkv
      obtain ⟨e, _, he⟩ := forall₂_mem_right hl (dedupKeys_subset l kv hkv)
      refine ⟨(parseIntKey_ok he.1).2, ?_⟩
      rcases he.2 with ⟨_, hr⟩ | ⟨a, _, hm⟩
      · rw [hr]; intro rp hrp; cases hrp
      · intro rp hrp
        obtain ⟨je, _, hje⟩ := forall₂_mem_right (Except.mapM_ok_forall₂ _ _ _ hm) hrp
        exact rangeProof_ok_inv hje
    exact ⟨⟨dedupKeys_nodup l, fun kv h => (hkv kv h).1, fun kv h rp hrp r hr => ((hkv kv h).2 rp hrp r hr).1⟩,
      fun kv h rp hrp r hr => ((hkv kv h).2 rp hrp r hr).2⟩

theorem rangeProofs_ok_sorted {j : Json} (hwf : AllWF j) (hc : CanonKeys j) {direct : Bool}
    {x : Option RPMap} (h : Decode.rangeProofs j direct = .ok x) :
    ∀ m, x = some m → KeyedSorted toString m := by
  intro m hm
  rcases rangeProofs_ok_inv h with ⟨_, rfl⟩ | ⟨t, l, rfl, hl, rfl⟩
  · cases hm
  · cases hm
    exact keyed_entries_sorted hwf.obj_wf (fun _ _ h => h.1) (hc t rfl) hl

/-- the members of a decoded disclosure proof are the decodings of the members of the tree. -/
structure ProofDDecoded (direct : Bool) (j : Json) (p : ProofD) : Prop where
  c : Decode.big (Decode.optField j "c") direct = .ok p.c
  a : Decode.big (Decode.optField j "A") direct = .ok p.a
  eResponse : Decode.big (Decode.optField j "e_response") direct = .ok p.eResponse
  vResponse : Decode.big (Decode.optField j "v_response") direct = .ok p.vResponse
  aResponses : Decode.intMap (Decode.optField j "a_responses") direct = .ok p.aResponses
  aDisclosed : Decode.intMap (Decode.optField j "a_disclosed") direct = .ok p.aDisclosed
  nonrev : Decode.nonrev (Decode.optField j "nonrev_proof") direct = .ok p.nonrev
  rangeProofs : Decode.rangeProofs (Decode.optField j "rangeproofs") direct = .ok p.rangeProofs

theorem proofD_ok_inv {j : Json} {direct : Bool} {p : ProofD} (h : Decode.proofD j direct = .ok p) :
    ProofDDecoded direct j p := by
  unfold Decode.proofD at h
  obtain ⟨so, hso, h⟩ := Except.bind_ok_iff.mp h
  rcases structObj_ok_inv hso with ⟨rfl, rfl⟩ | rfl
  · cases Except.ok.inj h
    exact ⟨rfl, rfl, rfl, rfl, rfl, rfl, rfl, rfl⟩
  · simp only [Except.bind_ok_iff, Except.pure_ok_iff] at h
    obtain ⟨c, hc, a, ha, e, he, v, hv, ar, har, ad, had, nr, hnr, rps, hrps, rfl⟩ := h
    exact ⟨hc, ha, he, hv, har, had, hnr, hrps⟩

structure ProofUDecoded (direct : Bool) (j : Json) (p : ProofU) : Prop where
  u : Decode.big (Decode.optField j "U") direct = .ok p.u
  c : Decode.big (Decode.optField j "c") direct = .ok p.c
  vPrimeResponse : Decode.big (Decode.optField j "v_prime_response") direct = .ok p.vPrimeResponse
  sResponse : Decode.big (Decode.optField j "s_response") direct = .ok p.sResponse
  mUserResponses : Decode.intMap (Decode.optField j "m_user_responses") direct = .ok p.mUserResponses

theorem proofU_ok_inv {j : Json} {direct : Bool} {p : ProofU} (h : Decode.proofU j direct = .ok p) :
    ProofUDecoded direct j p := by
  unfold Decode.proofU at h
  obtain ⟨so, hso, h⟩ := Except.bind_ok_iff.mp h
  rcases structObj_ok_inv hso with ⟨rfl, rfl⟩ | rfl
  · cases Except.ok.inj h
    exact ⟨rfl, rfl, rfl, rfl, rfl⟩
  · simp only [Except.bind_ok_iff, Except.pure_ok_iff] at h
    obtain ⟨u, hu, c, hc, vp, hvp, sr, hsr, m, hm, rfl⟩ := h
    exact ⟨hu, hc, hvp, hsr, hm⟩

/-! ## a decoded disclosure proof meets the hypotheses under which the decoder inverts the encoder -/

/-- whatever the decoder accepts from a well-formed tree is a proof the wire can carry: integers
    non-negative unless `direct`, map keys distinct and within 64 bits (`dedupKeys`,
    `parseIntKey`), counters within 64 bits. -/
theorem decoded_wireOk {j : Json} (hwf : AllWF j) {direct : Bool} {p : ProofD}
    (h : Decode.proofD j direct = .ok p) : p.WireOk direct := by
  have hd := proofD_ok_inv h
  refine ⟨big_ok_bigOk hd.c, big_ok_bigOk hd.a, big_ok_bigOk hd.eResponse, big_ok_bigOk hd.vResponse,
    intMap_ok_intMapOk hd.aResponses, intMap_ok_intMapOk hd.aDisclosed, ?_, ?_⟩
  · intro nr hnr
    have hn := nonrev_ok_inv hd.nonrev nr hnr
    obtain ⟨hs, hv⟩ := strMap_ok_sorted ((hwf.optField "nonrev_proof").optField "responses") hn.responses
    refine ⟨hn.cr, hn.cu, ⟨(List.filter_sublist.map _).nodup hs.nodup, ?_⟩, hn.sacc⟩
    intro kv hkv
    exact hv kv (List.mem_filter.mp hkv).1
  · intro m hm
    exact (rangeProofs_ok_rpMapOk hd.rangeProofs m hm).1

/-- the `responses` object of the non-revocation proof (if any) has no member "alpha" — the
    response the prover does not send and `SetExpected` fills in. -/
def NoAlpha (j : Json) : Prop :=
  ∀ t, Decode.optField (Decode.optField j "nonrev_proof") "responses" = .obj t → t.contains "alpha" = false

/-- the tree spells every integer map key canonically and carries no "alpha" response: true of
    everything the canonical encoder writes (`ProofD.toTree_canon`); that gabi's own marshaler
    writes such trees is not proved here. -/
structure CanonTree (j : Json) : Prop where
  aResponses : CanonKeys (Decode.optField j "a_responses")
  aDisclosed : CanonKeys (Decode.optField j "a_disclosed")
  rangeProofs : CanonKeys (Decode.optField j "rangeproofs")
  noAlpha : NoAlpha j

/-- the response map of the non-revocation proof is always listed in key order; the integer-keyed
    maps are when their keys are canonically spelled. -/
theorem decoded_mapsSorted {j : Json} (hwf : AllWF j) (hca : CanonKeys (Decode.optField j "a_responses"))
    (hcd : CanonKeys (Decode.optField j "a_disclosed")) (hcr : CanonKeys (Decode.optField j "rangeproofs"))
    {direct : Bool} {p : ProofD} (h : Decode.proofD j direct = .ok p) : p.MapsSorted := by
  have hd := proofD_ok_inv h
  refine ⟨intMap_ok_sorted (hwf.optField _) hca hd.aResponses,
    intMap_ok_sorted (hwf.optField _) hcd hd.aDisclosed, ?_, rangeProofs_ok_sorted (hwf.optField _) hcr hd.rangeProofs⟩
  intro nr hnr
  have hn := nonrev_ok_inv hd.nonrev nr hnr
  exact List.Pairwise.filter _ (strMap_ok_sorted ((hwf.optField "nonrev_proof").optField "responses") hn.responses).1

theorem stripRPMap_of_none {m : RPMap} (h : ∀ kv ∈ m, ∀ rp ∈ kv.2, ∀ r, rp = some r → r.mResponse = none) :
    stripRPMap m = m := by
  unfold stripRPMap
  refine (List.map_congr_left (g := id) fun kv hkv => ?_).trans (List.map_id m)
  refine Prod.ext rfl ((List.map_congr_left (g := id) fun rp hrp => ?_).trans (List.map_id kv.2))
  cases rp with
  | none => rfl
  | some r =>
    show some r.strip = some r
    unfold RangeProof.strip
    rw [← h kv hkv _ hrp r rfl]

/-- the omitted fields of a decoded proof are empty: `nu`, `challenge`, every `mResponse`. -/
theorem decoded_omitted_empty {j : Json} {direct : Bool} {p : ProofD} (h : Decode.proofD j direct = .ok p) :
    (∀ nr, p.nonrev = some nr → nr.nu = none ∧ nr.challenge = none) ∧ p.stripRange = p := by
  have hd := proofD_ok_inv h
  constructor
  · intro nr hnr
    have hn := nonrev_ok_inv hd.nonrev nr hnr
    exact ⟨hn.nu, hn.challenge⟩
  · have hrp := rangeProofs_ok_rpMapOk hd.rangeProofs
    obtain ⟨c, a, e, v, ar, ad, nr, rps⟩ := p
    cases rps with
    | none => rfl
    | some m =>
      simp only [ProofD.stripRange, Option.map_some]
      rw [stripRPMap_of_none (hrp m rfl).2]

theorem NonRevProof.strip_eq_self {nr : NonRevProof} (h1 : nr.nu = none) (h2 : nr.challenge = none)
    (h3 : ∀ kv ∈ nr.responses, kv.1 ≠ "alpha") : nr.strip = nr := by
  have : nr.responses.filter (·.1 ≠ "alpha") = nr.responses := by
    rw [List.filter_eq_self]
    intro kv hkv
    simpa using h3 kv hkv
  obtain ⟨cr, cu, nu, ch, rs, sa⟩ := nr
  simp only [] at h1 h2 this
  subst h1 h2
  simp only [NonRevProof.strip, this]

/-- a decoded proof has no omitted-field content, provided the tree did not smuggle in an "alpha"
    response. -/
theorem decoded_strip {j : Json} (hwf : AllWF j) (hna : NoAlpha j) {direct : Bool} {p : ProofD}
    (h : Decode.proofD j direct = .ok p) : p.strip = p := by
  obtain ⟨hnu, hsr⟩ := decoded_omitted_empty h
  have hnri := nonrev_ok_inv (proofD_ok_inv h).nonrev
  have : p.stripNonrev = p := by
    obtain ⟨c, a, e, v, ar, ad, onr, rps⟩ := p
    cases onr with
    | none => rfl
    | some nr =>
      simp only [ProofD.stripNonrev, Option.map_some]
      rw [NonRevProof.strip_eq_self (hnu nr rfl).1 (hnu nr rfl).2]
      intro kv hkv heq
      obtain ⟨t, ht, hc⟩ := strMap_ok_key_mem ((hwf.optField "nonrev_proof").optField "responses")
        (hnri nr rfl).responses hkv
      rw [heq, hna t ht] at hc
      cases hc
  rw [ProofD.strip_eq, this, hsr]

/-- everything the decoder returns for a well-formed, canonically spelled tree lists its
    maps in key order, is a proof the wire can carry and has no omitted-field content. -/
theorem decoded_meets_hypotheses {j : Json} (hwf : AllWF j) (hc : CanonTree j) {direct : Bool} {p : ProofD}
    (h : Decode.proofD j direct = .ok p) : p.MapsSorted ∧ p.WireOk direct ∧ p.strip = p :=
  ⟨decoded_mapsSorted hwf hc.aResponses hc.aDisclosed hc.rangeProofs h, decoded_wireOk hwf h,
    decoded_strip hwf hc.noAlpha h⟩

/-! ## decoded issuance commitment proofs and proof lists -/

theorem decoded_wireOk_proofU {j : Json} {direct : Bool} {p : ProofU}
    (h : Decode.proofU j direct = .ok p) : p.WireOk direct := by
  have hd := proofU_ok_inv h
  exact ⟨big_ok_bigOk hd.u, big_ok_bigOk hd.c, big_ok_bigOk hd.vPrimeResponse, big_ok_bigOk hd.sResponse,
    intMap_ok_intMapOk hd.mUserResponses⟩

theorem decoded_sorted_proofU {j : Json} (hwf : AllWF j) (hc : CanonKeys (Decode.optField j "m_user_responses"))
    {direct : Bool} {p : ProofU} (h : Decode.proofU j direct = .ok p) :
    KeyedSorted toString p.mUserResponses :=
  intMap_ok_sorted (hwf.optField _) hc (proofU_ok_inv h).mUserResponses

/-- how `ProofList.UnmarshalJSON` reads one element. -/
def ListElem (direct : Bool) (e : Json) (pr : Proof) : Prop :=
  (∃ d, Decode.proofD e direct = .ok d ∧ d.a.isSome = true ∧ pr = .d d) ∨
  (∃ u, Decode.proofU e direct = .ok u ∧ u.u.isSome = true ∧ pr = .u u)

theorem proofList_ok_mem {j : Json} {direct : Bool} {pl : List Proof}
    (h : Decode.proofList j direct = .ok pl) {pr : Proof} (hpr : pr ∈ pl) :
    ∃ a e, j = .arr a ∧ e ∈ a.toList ∧ ListElem direct e pr := by
  unfold Decode.proofList at h
  split at h
  · cases Except.ok.inj h
    cases hpr
  · next a =>
    obtain ⟨e, he, hr⟩ := forall₂_mem_right (Except.mapM_ok_forall₂ _ _ _ h) hpr
    refine ⟨a, e, rfl, he, ?_⟩
    obtain ⟨d, hd, hr⟩ := Except.bind_ok_iff.mp hr
    split at hr
    · next ha => exact Or.inl ⟨d, hd, ha, (Except.ok.inj hr).symm⟩
    · obtain ⟨u, hu, hr⟩ := Except.bind_ok_iff.mp hr
      split at hr
      · next hu' => exact Or.inr ⟨u, hu, hu', (Except.ok.inj hr).symm⟩
      · cases hr
  · cases h

/-- every element of the array is canonically spelled, whichever kind of proof it is read as. -/
def CanonListTree (j : Json) : Prop :=
  ∀ a, j = .arr a → ∀ e ∈ a.toList, CanonTree e ∧ CanonKeys (Decode.optField e "m_user_responses")

theorem decoded_list_wireOk {j : Json} (hwf : AllWF j) {direct : Bool} {pl : List Proof}
    (h : Decode.proofList j direct = .ok pl) : ∀ pr ∈ pl, pr.WireOk direct := by
  intro pr hpr
  obtain ⟨a, e, rfl, he, hr⟩ := proofList_ok_mem h hpr
  rcases hr with ⟨d, hd, ha, rfl⟩ | ⟨u, hu, hu', rfl⟩
  · exact ⟨decoded_wireOk (hwf.arr_mem e he) hd, ha⟩
  · exact ⟨decoded_wireOk_proofU hu, hu'⟩

theorem decoded_list_sorted {j : Json} (hwf : AllWF j) (hc : CanonListTree j) {direct : Bool} {pl : List Proof}
    (h : Decode.proofList j direct = .ok pl) : ∀ pr ∈ pl, pr.MapsSorted ∧ pr.strip = pr := by
  intro pr hpr
  obtain ⟨a, e, rfl, he, hr⟩ := proofList_ok_mem h hpr
  have hce := hc a rfl e he
  have hwe := hwf.arr_mem e he
  rcases hr with ⟨d, hd, ha, rfl⟩ | ⟨u, hu, hu', rfl⟩
  · exact ⟨decoded_mapsSorted hwe hce.1.aResponses hce.1.aDisclosed hce.1.rangeProofs hd,
      congrArg Proof.d (decoded_strip hwe hce.1.noAlpha hd)⟩
  · exact ⟨decoded_sorted_proofU hwe hce.2 hu, rfl⟩

/-! ## canonical trees are well-formed and canonically spelled -/

theorem allWF_mkObj {l : List (String × Json)} (hd : KeysDistinct l) (h : ∀ kv ∈ l, AllWF kv.2) :
    AllWF (Json.mkObj l) := by
  show AllWF (.obj (Std.TreeMap.Raw.ofList l compare))
  refine AllWF.obj _ Std.TreeMap.Raw.WF.ofList ?_
  intro kv hkv
  exact h kv ((mem_sortedEntries hd kv).mp hkv)

theorem allWF_mkObj_keyed {κ β} {key : κ → String} {m : List (κ × β)} (hk : KeyedDistinct key m)
    (enc : κ × β → Json) (h : ∀ kv ∈ m, AllWF (enc kv)) :
    AllWF (Json.mkObj (m.map fun kv => (key kv.1, enc kv))) := by
  refine allWF_mkObj (hk.map enc) ?_
  intro kv hkv
  obtain ⟨x, hx, rfl⟩ := List.mem_map.mp hkv
  exact h x hx

theorem allWF_arr_map {α} (enc : α → Json) (l : List α) (h : ∀ x ∈ l, AllWF (enc x)) :
    AllWF (.arr (l.map enc).toArray) := by
  refine AllWF.arr _ ?_
  intro y hy
  obtain ⟨x, hx, rfl⟩ := List.mem_map.mp hy
  exact h x hx

theorem allWF_leaf (k s : String) : AllWF (Json.mkObj [(k, .str s)]) :=
  allWF_mkObj (keysDistinct_singleton _) (by simp [AllWF.str])

theorem allWF_big (x : Option Int) : AllWF (Enc.big x) := by
  cases x with
  | none => exact AllWF.null
  | some z => exact allWF_leaf _ _

theorem allWF_bytes (x : Option (List UInt8)) : AllWF (Enc.bytes x) := by
  cases x with
  | none => exact AllWF.null
  | some z => exact allWF_leaf _ _

theorem allWF_bigList (l : List (Option Int)) : AllWF (Enc.bigList l) :=
  allWF_arr_map _ l fun x _ => allWF_big x

theorem allWF_intMap {m : IntMap} (h : (m.map (·.1)).Nodup) : AllWF (Enc.intMap m) :=
  allWF_mkObj_keyed (keyedDistinct_toString h) _ fun kv _ => allWF_big kv.2

theorem allWF_strMap {m : List (String × Option Int)} (h : (m.map (·.1)).Nodup) : AllWF (Enc.strMap m) :=
  allWF_mkObj_keyed (keyedDistinct_id h) _ fun kv _ => allWF_big kv.2

theorem allWF_struct {l : List (String × Json)} (hf : FieldNames l) (h : l.Forall fun kv => AllWF kv.2) :
    AllWF (Json.mkObj l) := allWF_mkObj hf.distinct (List.forall_iff_forall_mem.mp h)

theorem allWF_sacc (x : Option SignedAccumulator) : AllWF (Enc.sacc x) := by
  cases x with
  | none => exact AllWF.null
  | some s => exact allWF_struct (by simp [FieldNames]) ⟨allWF_bytes _, .num _⟩

theorem allWF_nonrev {direct : Bool} (x : Option NonRevProof) (h : ∀ nr, x = some nr → nr.WireOk direct) :
    AllWF (Enc.nonrev x) := by
  cases x with
  | none => exact AllWF.null
  | some nr =>
    exact allWF_struct (by simp [FieldNames])
      ⟨allWF_big _, allWF_big _, allWF_strMap (h nr rfl).responses.nodup, allWF_sacc _⟩

theorem allWF_rangeProof (x : Option RangeProof) : AllWF (Enc.rangeProof x) := by
  cases x with
  | none => exact AllWF.null
  | some rp =>
    exact allWF_struct (by simp [FieldNames])
      ⟨allWF_bigList _, allWF_bigList _, allWF_bigList _, allWF_big _, .num _, .num _, .num _, allWF_big _⟩

theorem allWF_rangeProofs (x : Option RPMap) (h : ∀ m, x = some m → (m.map (·.1)).Nodup) :
    AllWF (Enc.rangeProofs x) := by
  cases x with
  | none => exact AllWF.null
  | some m =>
    exact allWF_mkObj_keyed (keyedDistinct_toString (h m rfl)) _ fun kv _ =>
      allWF_arr_map _ kv.2 fun rp _ => allWF_rangeProof rp

theorem canonKeys_mkObj_intKeys {β} {m : List (Int × β)} (h : (m.map (·.1)).Nodup) (f : Int × β → Json) :
    CanonKeys (Json.mkObj (m.map fun kv => (toString kv.1, f kv))) := by
  intro t ht kv hkv z hz
  have ht' : t = Std.TreeMap.Raw.ofList (m.map fun kv => (toString kv.1, f kv)) compare := by
    have : Json.obj (Std.TreeMap.Raw.ofList (m.map fun kv => (toString kv.1, f kv)) compare) = Json.obj t := ht
    exact (Json.obj.inj this).symm
  subst ht'
  have := (mem_sortedEntries ((keyedDistinct_toString h).map f) kv).mp hkv
  obtain ⟨x, _, rfl⟩ := List.mem_map.mp this
  simp only [] at hz ⊢
  rw [toString_int_toInt?] at hz
  rw [Option.some.inj hz]

theorem canonKeys_null : CanonKeys .null := by
  intro t ht; cases ht

theorem canonKeys_intMap {m : IntMap} (h : (m.map (·.1)).Nodup) : CanonKeys (Enc.intMap m) :=
  canonKeys_mkObj_intKeys h _

theorem canonKeys_rangeProofs (x : Option RPMap) (h : ∀ m, x = some m → (m.map (·.1)).Nodup) :
    CanonKeys (Enc.rangeProofs x) := by
  cases x with
  | none => exact canonKeys_null
  | some m => exact canonKeys_mkObj_intKeys (h m rfl) _

/-- the encoder does not write the response "alpha". -/
theorem noAlpha_nonrev (x : Option NonRevProof) (t : Std.TreeMap.Raw String Json compare)
    (ht : Decode.optField (Enc.nonrev x) "responses" = .obj t) : t.contains "alpha" = false := by
  cases x with
  | none => cases ht
  | some nr =>
    rw [show Enc.nonrev (some nr) = Json.mkObj _ from rfl,
      optField_mkObj (FieldNames.distinct (by simp [FieldNames]))] at ht
    cases Json.obj.inj ht
    rw [Std.TreeMap.Raw.contains_ofList, List.map_map, Bool.eq_false_iff]
    intro hc
    obtain ⟨kv, hkv, hk⟩ := List.mem_map.mp (List.contains_iff_mem.mp hc)
    simpa [show kv.1 = "alpha" from hk] using (List.mem_filter.mp hkv).2

theorem ProofD.toTree_allWF {direct : Bool} {p : ProofD} (h : p.WireOk direct) : AllWF p.toTree :=
  allWF_struct (by simp [FieldNames])
    ⟨allWF_big _, allWF_big _, allWF_big _, allWF_big _, allWF_intMap h.aResponses.nodup,
      allWF_intMap h.aDisclosed.nodup, allWF_nonrev _ h.nonrev,
      allWF_rangeProofs _ (fun m hm => (h.rangeProofs m hm).nodup)⟩

/-- the canonical tree is canonically spelled, so that everything about decoded proofs applies
    to what is read from it. -/
theorem ProofD.toTree_canon {direct : Bool} {p : ProofD} (h : p.WireOk direct) : CanonTree p.toTree := by
  have hf : ∀ k, Decode.optField p.toTree k = member _ k :=
    optField_mkObj (FieldNames.distinct (by simp [FieldNames]))
  refine ⟨?_, ?_, ?_, ?_⟩
  · rw [hf]
    exact canonKeys_intMap h.aResponses.nodup
  · rw [hf]
    exact canonKeys_intMap h.aDisclosed.nodup
  · rw [hf]
    exact canonKeys_rangeProofs _ (fun m hm => (h.rangeProofs m hm).nodup)
  · intro t ht
    rw [hf] at ht
    exact noAlpha_nonrev p.nonrev t ht

/-! ## the re-read proof is a fixed point -/

/-- re-reading turns a proof the wire can carry into one that meets all three hypotheses: the
    re-read proof is what the decoder returns for a canonical tree. -/
theorem ProofD.reread_meets_hypotheses {direct : Bool} {p : ProofD} (h : p.WireOk direct) :
    p.reread.MapsSorted ∧ p.reread.WireOk direct ∧ p.reread.strip = p.reread :=
  decoded_meets_hypotheses (ProofD.toTree_allWF h) (ProofD.toTree_canon h) (decode_encode_proofD direct p h)

/-- the re-read proof decodes to itself: the round trip is stationary from the first re-read on. -/
theorem ProofD.reread_fixed {direct : Bool} {p : ProofD} (h : p.WireOk direct) :
    Decode.proofD p.reread.toTree direct = .ok p.reread := by
  obtain ⟨hs, hw, hst⟩ := ProofD.reread_meets_hypotheses h
  rw [decode_encode_proofD direct _ hw, ProofD.reread_eq_strip _ hs, hst]

theorem ProofU.reread_wireOk {direct : Bool} {p : ProofU} (h : p.WireOk direct) : p.reread.WireOk direct :=
  decoded_wireOk_proofU (decode_encode_proofU direct p h)

theorem ProofU.reread_sorted {direct : Bool} {p : ProofU} (h : p.WireOk direct) :
    KeyedSorted toString p.reread.mUserResponses :=
  sortByKey_sorted toString (keyedDistinct_toString h.mUserResponses.nodup)

theorem Proof.reread_meets_hypotheses {direct : Bool} {pr : Proof} (h : pr.WireOk direct) :
    pr.reread.MapsSorted ∧ pr.reread.WireOk direct ∧ pr.reread.strip = pr.reread := by
  cases pr with
  | d p =>
    obtain ⟨hs, hw, hst⟩ := ProofD.reread_meets_hypotheses h.1
    exact ⟨hs, ⟨hw, h.2⟩, congrArg Proof.d hst⟩
  | u p => exact ⟨ProofU.reread_sorted h.1, ⟨ProofU.reread_wireOk h.1, h.2⟩, rfl⟩

theorem proofList_reread_fixed {direct : Bool} {pl : List Proof} (h : ∀ pr ∈ pl, pr.WireOk direct) :
    Decode.proofList (proofListToTree (pl.map Proof.reread)) direct = .ok (pl.map Proof.reread) := by
  rw [decode_encode_proofList direct _ (by
    intro pr hpr
    obtain ⟨x, hx, rfl⟩ := List.mem_map.mp hpr
    exact (Proof.reread_meets_hypotheses (h x hx)).2.1)]
  congr 1
  rw [List.map_map]
  apply List.map_congr_left
  intro pr hpr
  obtain ⟨hs, _, hst⟩ := Proof.reread_meets_hypotheses (h pr hpr)
  show pr.reread.reread = pr.reread
  rw [Proof.reread_eq_strip _ hs, hst]

/-! ## any number of trips over the wire -/

/-- one trip over the wire: encode canonically, decode (an earlier failure stays a failure). -/
def rewire (direct : Bool) (r : Decode.D ProofD) : Decode.D ProofD :=
  r >>= fun p => Decode.proofD p.toTree direct

theorem rewire_ok (direct : Bool) (p : ProofD) : rewire direct (.ok p) = Decode.proofD p.toTree direct :=
  Except.ok_bind p _

theorem rewire_iterate_of_fixed {direct : Bool} {p : ProofD} (h : Decode.proofD p.toTree direct = .ok p)
    (n : Nat) : (rewire direct)^[n] (.ok p) = .ok p :=
  Function.iterate_fixed (by rw [rewire_ok, h]) n

/-- for every proof the wire can carry the sequence of trips is stationary from the first re-read
    on. -/
theorem rewire_iterate_succ {direct : Bool} {p : ProofD} (h : p.WireOk direct) (n : Nat) :
    (rewire direct)^[n + 1] (.ok p) = .ok p.reread := by
  rw [Function.iterate_succ, Function.comp, rewire_ok, decode_encode_proofD direct p h]
  exact rewire_iterate_of_fixed (ProofD.reread_fixed h) n

def rewireList (direct : Bool) (r : Decode.D (List Proof)) : Decode.D (List Proof) :=
  r >>= fun pl => Decode.proofList (proofListToTree pl) direct

theorem rewireList_iterate_of_fixed {direct : Bool} {pl : List Proof}
    (h : Decode.proofList (proofListToTree pl) direct = .ok pl) (n : Nat) :
    (rewireList direct)^[n] (.ok pl) = .ok pl :=
  Function.iterate_fixed ((Except.ok_bind pl _).trans h) n

theorem rewireList_iterate_succ {direct : Bool} {pl : List Proof} (h : ∀ pr ∈ pl, pr.WireOk direct) (n : Nat) :
    (rewireList direct)^[n + 1] (.ok pl) = .ok (pl.map Proof.reread) := by
  rw [Function.iterate_succ, Function.comp, rewireList, Except.ok_bind, decode_encode_proofList direct pl h]
  exact rewireList_iterate_of_fixed (proofList_reread_fixed h) n

/-! ## re-reading only permutes: the verdict without `MapsSorted` -/

theorem stripRPMap_keys (m : RPMap) : (stripRPMap m).map (·.1) = m.map (·.1) := by
  unfold stripRPMap
  rw [List.map_map]
  rfl

theorem ProofD.strip_keysNodup {direct : Bool} {p : ProofD} (h : p.WireOk direct) : p.strip.KeysNodup := by
  refine ⟨h.aResponses.nodup, ?_, ?_⟩
  · intro nr' hnr'
    obtain ⟨nr, hnr, rfl⟩ := Option.map_eq_some_iff.mp hnr'
    show ((List.filter _ (nr.responses.filter (·.1 ≠ "alpha"))).map (·.1)).Nodup
    rw [List.filter_filter]
    simp only [Bool.and_self]
    exact (h.nonrev nr hnr).responses.nodup
  · intro m' hm'
    obtain ⟨m, hm, rfl⟩ := Option.map_eq_some_iff.mp hm'
    rw [stripRPMap_keys]
    exact (h.rangeProofs m hm).nodup

/-- the re-read proof is the stripped proof with every map permuted (into key-text order). -/
theorem ProofD.strip_permEq_reread {direct : Bool} {p : ProofD} (h : p.WireOk direct) :
    p.strip.PermEq p.reread := by
  refine ⟨rfl, rfl, rfl, rfl, (sortByKey_perm (keyedDistinct_toString h.aResponses.nodup)).symm,
    (sortByKey_perm (keyedDistinct_toString h.aDisclosed.nodup)).symm, ?_, ?_⟩
  · cases hnr : p.nonrev with
    | none => simp [ProofD.strip, ProofD.reread, hnr, OptRel]
    | some nr =>
      simp only [ProofD.strip, ProofD.reread, hnr, Option.map_some, OptRel]
      exact ⟨rfl, rfl, rfl, rfl, (sortByKey_perm (keyedDistinct_id (h.nonrev nr hnr).responses.nodup)).symm, rfl⟩
  · cases hm : p.rangeProofs with
    | none => simp [ProofD.strip, ProofD.reread, hm, OptRel]
    | some m =>
      simp only [ProofD.strip, ProofD.reread, hm, Option.map_some, OptRel]
      unfold rereadRPMap stripRPMap
      exact ((sortByKey_perm (keyedDistinct_toString (h.rangeProofs m hm).nodup)).map _).symm

/-- a re-read proof verifies as the original did — without assuming that the maps of the original
    were listed in key order (the order of the Go map iteration is irrelevant). -/
theorem ProofD.reread_verifyWith {direct : Bool} {p : ProofD} (h : p.WireOk direct) (o : SigOracle)
    (kid : String) (pk : PublicKey) (ctx nonce : Int) (issig : Bool) (i1 i2 : Int) :
    p.reread.verifyWith o kid pk ctx nonce issig i1 i2 = p.verifyWith o kid pk ctx nonce issig i1 i2 := by
  rw [← ProofD.verifyWith_perm o kid pk (ProofD.strip_permEq_reread h) (ProofD.strip_keysNodup h),
    ProofD.omitted_fields_restored]

theorem ProofD.reread_revChoices {direct : Bool} {p : ProofD} (h : p.WireOk direct) :
    p.reread.revChoices.Perm p.revChoices := by
  rw [← ProofD.revChoices_strip p]
  exact (ProofD.revChoices_perm (ProofD.strip_permEq_reread h)).symm

theorem Proof.strip_permRel_reread {direct : Bool} {pr : Proof} (h : pr.WireOk direct) :
    ProofPermRel0 pr.strip pr.reread := by
  cases pr with
  | d p => exact ⟨ProofD.strip_permEq_reread h.1, ProofD.strip_keysNodup h.1⟩
  | u p =>
    exact ⟨rfl, rfl, rfl, rfl, (sortByKey_perm (keyedDistinct_toString h.1.mUserResponses.nodup)).symm⟩

theorem proofList_reread_verify {direct : Bool} {pl : List Proof} (h : ∀ pr ∈ pl, pr.WireOk direct)
    (o : SigOracle) (keys : List (String × PublicKey)) (ctx nonce : Int) (issig : Bool)
    (kss : List String) (choices : List (Int × Int)) :
    proofListVerifyWith o keys (pl.map Proof.reread) ctx nonce issig kss choices =
      proofListVerifyWith o keys pl ctx nonce issig kss choices := by
  rw [← proofListVerifyWith_perm o keys (List.forall₂_map_left_iff.mpr (List.forall₂_map_right_iff.mpr
    (List.forall₂_same.mpr fun pr hpr => Proof.strip_permRel_reread (h pr hpr)))), proofList_verify_strip]

/-! ## counterexamples: what the decoder accepts beyond the canonical spelling; `reconstructZ` on a
  proof that is not well-formed -/

/-- a tree with an "alpha" response (which gabi's prover never sends). -/
def cexAlphaTree : Json :=
  Json.mkObj [("nonrev_proof", Json.mkObj [("responses", Enc.strMap [("alpha", some 1)])])]

def cexAlphaProof : ProofD :=
  { c := none, a := none, eResponse := none, vResponse := none, aResponses := [], aDisclosed := [],
    nonrev := some { cr := none, cu := none, responses := [("alpha", some 1)], sacc := none },
    rangeProofs := none }

/-- a tree whose `a_responses` object spells the key 7 as "007": in key-text order "007" comes
    before "1", as integers (and as canonical texts "7", "1") the order is the other way round. -/
def cexKeyTree : Json :=
  Json.mkObj [("a_responses", Json.mkObj [("007", Enc.big (some 1)), ("1", Enc.big (some 2))])]

def cexKeyProof : ProofD :=
  { c := none, a := none, eResponse := none, vResponse := none,
    aResponses := [(7, some 1), (1, some 2)], aDisclosed := [], nonrev := none, rangeProofs := none }

/-- `reconstructZ` alone is order dependent on proofs that are not well-formed: which panic is
    hit first depends on the order of `ADisclosed`. -/
def cexOrderD1 : ProofD :=
  { c := some 1, a := some 2, eResponse := some 1, vResponse := some 1,
    aResponses := [(0, some 1)], aDisclosed := [(0, none), (5, some 1)], nonrev := none, rangeProofs := none }

def cexOrderD2 : ProofD := { cexOrderD1 with aDisclosed := [(5, some 1), (0, none)] }

/-- stated for any key with at most five bases: with a concrete key the kernel would evaluate
    `2 ^ (Le - 1)` when it compares the two spellings of the power on `Int`. -/
theorem cexOrder_reconstructZ (pk : PublicKey) (hr : pk.r.length ≤ 5) :
    cexOrderD1.reconstructZ pk = .error (.nilDeref "ADisclosed") ∧
    cexOrderD2.reconstructZ pk = .error (.indexOutOfRange "R[i]") := by
  obtain ⟨v, hv⟩ := Option.isSome_iff_exists.mp
    (goExp_isSome_of_nonneg 2 (2 ^ (pk.params.Le - 1)) pk.n (by positivity))
  have hidx : idx "R[i]" pk.r 5 = .error (.indexOutOfRange "R[i]") := by
    unfold idx
    rw [if_neg (by decide), List.getElem?_eq_none (i := Int.toNat 5) hr]
    rfl
  constructor
  · unfold ProofD.reconstructZ
    simp only [cexOrderD1, deref_some, GoM.ok_bind, hv]
    rfl
  · unfold ProofD.reconstructZ
    simp only [cexOrderD2, cexOrderD1, deref_some, GoM.ok_bind, hv, List.foldlM_cons, hidx]
    rfl

end Gabi
