/-
  GabiProofs.Sqrt — `primeSqrt` (`common.PrimeSqrt`: Euler's criterion, the shortcut for
  `p ≡ 3 (mod 4)`, Tonelli–Shanks) returns a root or reports correctly that there is none;
  `modSqrt` (`common.ModSqrt`) recombines the roots modulo the factors by CRT, for any list of
  factors that are 4 or odd primes.
-/
import GabiProofs.NumLemmas
import GabiProofs.MathUtilLemmas
import GabiProofs.Legendre
import Mathlib.FieldTheory.Finite.Basic
import Mathlib.RingTheory.Coprime.Lemmas

namespace Gabi

/-! ## `primeSqrt` -/

section Casts
variable {p : Nat}

theorem sq_mod_eq_iff {a r : Nat} (ha : a < p) :
    r * r % p = a ↔ (r : ZMod p) * r = a := by
  rw [← Nat.cast_mul, ZMod.natCast_eq_natCast_iff', Nat.mod_eq_of_lt ha]

theorem cast_mul_mod (x y : Nat) : ((x * y % p : Nat) : ZMod p) = x * y := by
  rw [ZMod.natCast_mod, Nat.cast_mul]

end Casts

section Loop
variable {p : Nat}

theorem orderExp_spec (hp1 : 1 < p) :
    ∀ (fuel t i k : Nat), t < p → (t : ZMod p) ^ 2 ^ k = 1 → k < fuel →
      ∃ j ≤ k, orderExp fuel t p i = some (i + j) ∧ (t : ZMod p) ^ 2 ^ j = 1 ∧
        ∀ m < j, (t : ZMod p) ^ 2 ^ m ≠ 1 := by
  intro fuel
  induction fuel with
  | zero => intro t i k _ _ hk; cases hk
  | succ f ih =>
    intro t i k ht hk hkf
    rw [orderExp]
    by_cases h1 : t = 1
    · exact ⟨0, k.zero_le, if_pos h1, by rw [h1, Nat.cast_one, one_pow], fun m hm => nomatch hm⟩
    · have hne : (t : ZMod p) ^ 2 ^ 0 ≠ 1 := by
        rwa [pow_zero, pow_one, Ne, natCast_eq_one_iff_of_lt ht hp1]
      rw [if_neg h1]
      cases k with
      | zero => exact absurd hk hne
      | succ k =>
        have hsq : ∀ e, ((t * t % p : Nat) : ZMod p) ^ 2 ^ e = (t : ZMod p) ^ 2 ^ (e + 1) := fun e => by
          rw [cast_mul_mod, ← pow_two, ← pow_mul, ← pow_succ']
        obtain ⟨j, hjk, hj, hj1, hmin⟩ := ih (t * t % p) (i + 1) k
          (Nat.mod_lt _ (Nat.zero_lt_of_lt hp1)) ((hsq k).trans hk) (Nat.lt_of_succ_lt_succ hkf)
        refine ⟨j + 1, Nat.succ_le_succ hjk, by rw [hj, Nat.add_assoc, Nat.add_comm 1],
          (hsq j).symm.trans hj1, fun m hm => ?_⟩
        cases m with
        | zero => exact hne
        | succ m => exact hsq m ▸ hmin m (Nat.lt_of_succ_lt_succ hm)

/-- The Tonelli–Shanks loop: with `R² = a·t`, `c` of order exactly `2 ^ (m + 1)` and the order of
    `t` dividing `2 ^ m`, an iteration re-establishes the three relations for a smaller `m`; the loop
    stops at `t = 1`, where `R² = a`. -/
theorem tonelliLoop_correct [Fact p.Prime] (a : ZMod p) :
    ∀ (fuel m c t R : Nat), m + 1 < fuel → t < p → R < p → (R : ZMod p) ^ 2 = a * t →
      (c : ZMod p) ^ 2 ^ m = -1 → (t : ZMod p) ^ 2 ^ m = 1 →
      ∃ r, tonelliLoop fuel p (m + 1) c t R = some r ∧ (r : ZMod p) ^ 2 = a ∧ r < p := by
  have hp1 : 1 < p := (Fact.out : p.Prime).one_lt
  intro fuel
  induction fuel with
  | zero => intro m c t R h; cases h
  | succ f ih =>
    intro m c t R hmf ht hR hinv hc htm
    rw [tonelliLoop]
    by_cases h1 : t = 1
    · rw [h1, Nat.cast_one, mul_one] at hinv
      exact ⟨R, if_pos h1, hinv, hR⟩
    · obtain ⟨j, hjm, hj, hj1, hmin⟩ := orderExp_spec hp1 (m + 1 + 1) t 0 m ht htm
        (Nat.lt_succ_of_lt (Nat.lt_succ_self m))
      rw [if_neg h1, hj, Nat.zero_add]
      cases j with
      | zero => rw [pow_zero, pow_one, natCast_eq_one_iff_of_lt ht hp1] at hj1; exact absurd hj1 h1
      | succ e =>
        obtain ⟨d, rfl⟩ := Nat.exists_eq_add_of_le hjm
        -- `t ^ 2 ^ e` squares to `1` and is not `1`
        have hte : (t : ZMod p) ^ 2 ^ e = -1 :=
          (mul_self_eq_one_iff.mp (by rw [← pow_two, ← pow_mul, ← pow_succ]; exact hj1)).resolve_left
            (hmin e (Nat.lt_succ_self e))
        have hexp : e + 1 + d + 1 - (e + 1) - 1 = d := by omega
        dsimp only
        rw [if_neg (by omega), hexp]
        have hce : ((powMod c (2 ^ d) p * powMod c (2 ^ d) p % p : Nat) : ZMod p) ^ 2 ^ e = -1 := by
          rw [cast_mul_mod, cast_powMod, ← pow_two, ← pow_mul, ← pow_mul, ← hc]
          congr 1
          ring
        have hpos := Nat.zero_lt_of_lt hp1
        refine ih e _ _ _ (by omega) (Nat.mod_lt _ hpos) (Nat.mod_lt _ hpos) ?_ hce ?_
        · rw [cast_mul_mod, cast_mul_mod, cast_mul_mod, mul_pow, hinv, mul_assoc, pow_two]
        · rw [cast_mul_mod, mul_pow, hce, hte, neg_mul_neg, one_mul]

end Loop

section Prime
variable {a p : Nat}

/-- Euler's criterion, on residues `0 < a < p`. -/
theorem powMod_half_eq_one_iff [Fact p.Prime] (h0 : a ≠ 0) (ha : a < p) :
    powMod a (p / 2) p = 1 ↔ ∃ r : Nat, r * r % p = a := by
  have haz : (a : ZMod p) ≠ 0 :=
    mt (ZMod.natCast_eq_zero_iff a p).mp (Nat.not_dvd_of_pos_of_lt (Nat.pos_of_ne_zero h0) ha)
  rw [powMod_eq_one_iff _ _ (Fact.out : p.Prime).one_lt, ← ZMod.euler_criterion p haz]
  constructor
  · rintro ⟨y, hy⟩
    exact ⟨y.val, (sq_mod_eq_iff ha).mpr (by rw [ZMod.natCast_zmod_val, hy])⟩
  · rintro ⟨r, hr⟩
    exact ⟨r, ((sq_mod_eq_iff ha).mp hr).symm⟩

theorem findNonResidue_some :
    ∀ (fuel z z' : Nat), findNonResidue fuel z p = some z' →
      legendreSymbol (z' : Int) (p : Int) = -1 := by
  intro fuel
  induction fuel with
  | zero => intro z z' h; cases h
  | succ f ih =>
    intro z z' h
    rw [findNonResidue] at h
    split at h
    · next hl => cases h; exact hl
    · exact ih _ _ h

theorem findNonResidue_exists :
    ∀ (fuel z n : Nat), z ≤ n → n < z + fuel → legendreSymbol (n : Int) (p : Int) = -1 →
      ∃ z', findNonResidue fuel z p = some z' := by
  intro fuel
  induction fuel with
  | zero => intro z n h1 h2; exact absurd h1 (Nat.not_le_of_lt h2)
  | succ f ih =>
    intro z n h1 h2 hn
    rw [findNonResidue]
    by_cases hl : legendreSymbol (z : Int) (p : Int) = -1
    · exact ⟨z, if_pos hl⟩
    · rw [if_neg hl]
      have hzn : z ≠ n := fun hzn => hl (hzn ▸ hn)
      exact ih (z + 1) n (by omega) (by omega) hn

theorem exists_nonresidue [Fact p.Prime] (h2 : p ≠ 2) :
    ∃ n : Nat, 2 ≤ n ∧ n < p ∧ legendreSym p (n : Int) = -1 := by
  have hp : p.Prime := Fact.out
  obtain ⟨x, hx⟩ := FiniteField.exists_nonsquare (F := ZMod p) (by rwa [ZMod.ringChar_zmod_n])
  refine ⟨x.val, ?_, x.val_lt, ?_⟩
  · have h0 : x.val ≠ 0 := fun h => hx ((ZMod.val_eq_zero x).mp h ▸ IsSquare.zero)
    have h1 : x.val ≠ 1 := fun h => hx ((ZMod.val_eq_one hp.one_lt x).mp h ▸ IsSquare.one)
    omega
  · rwa [legendreSym.eq_neg_one_iff, Int.cast_natCast, ZMod.natCast_zmod_val]

theorem findNonResidue_prime [Fact p.Prime] (h2 : p ≠ 2) :
    ∃ z, findNonResidue p 2 p = some z ∧ (z : ZMod p) ^ (p / 2) = -1 := by
  obtain ⟨n, hn2, hnp, hn⟩ := exists_nonresidue (p := p) h2
  obtain ⟨z, hz⟩ := findNonResidue_exists (p := p) p 2 n hn2 (by omega)
    ((legendreSymbol_eq_legendreSym n p h2).trans hn)
  have := legendreSym.eq_pow p (z : Int)
  rw [← legendreSymbol_eq_legendreSym _ p h2, findNonResidue_some _ _ _ hz, Int.cast_neg,
    Int.cast_one, Int.cast_natCast] at this
  exact ⟨z, hz, this.symm⟩

/-- `PrimeSqrt` on its domain: a genuine root, or a correct report that there is none. -/
theorem primeSqrt_correct (hp : p.Prime) (h2 : p ≠ 2) (ha : a < p) :
    (∃ r, primeSqrt a p = .root r ∧ r * r % p = a ∧ r < p) ∨
    (primeSqrt a p = .noRoot ∧ ¬ ∃ r : Nat, r * r % p = a) := by
  have := Fact.mk hp
  rw [primeSqrt]
  by_cases h0 : a = 0
  · subst h0
    exact .inl ⟨0, if_pos rfl, Nat.zero_mod p, hp.pos⟩
  rw [if_neg h0, if_neg h2]
  by_cases hE : powMod a (p / 2) p = 1
  swap
  · rw [if_pos hE]
    exact .inr ⟨rfl, mt (powMod_half_eq_one_iff h0 ha).mpr hE⟩
  rw [if_neg (not_not_intro hE)]
  have hEz : (a : ZMod p) ^ (p / 2) = 1 := (powMod_eq_one_iff _ _ hp.one_lt).mp hE
  by_cases h3 : p % 4 = 3
  · rw [if_pos h3]
    refine .inl ⟨_, rfl, ?_, powMod_lt _ _ hp.pos⟩
    rw [sq_mod_eq_iff ha, cast_powMod, ← pow_add, show p / 4 + 1 + (p / 4 + 1) = p / 2 + 1 by omega,
      pow_succ, hEz, one_mul]
  obtain ⟨z, hz, hzz⟩ := findNonResidue_prime (p := p) h2
  obtain ⟨Q, m, hs, hQ, hhalf⟩ := stripTwos_pred_odd hp.one_lt (hp.eq_two_or_odd.resolve_left h2)
  -- the loop starts from `R = a ^ ((Q + 1) / 2)`, `t = a ^ Q`, `c = z ^ Q`
  have hR : ((powMod a (Q / 2 + 1) p : Nat) : ZMod p) ^ 2 = a * (powMod a Q p : Nat) := by
    rw [cast_powMod, cast_powMod, ← pow_mul, ← pow_succ']
    congr 1
    omega
  obtain ⟨r, hr, hsq, hlt⟩ := tonelliLoop_correct (a : ZMod p) (m + 1 + 1) m (powMod z Q p)
    (powMod a Q p) (powMod a (Q / 2 + 1) p) (Nat.lt_succ_self _) (powMod_lt _ _ hp.pos)
    (powMod_lt _ _ hp.pos) hR (by rw [cast_powMod, ← pow_mul, ← hhalf, hzz])
    (by rw [cast_powMod, ← pow_mul, ← hhalf, hEz])
  rw [if_neg h3, hz, hs]
  dsimp only
  rw [hr]
  exact .inl ⟨r, rfl, (sq_mod_eq_iff ha).mpr (by rw [← pow_two, hsq]), hlt⟩

end Prime

set_option linter.unusedVariables false in
/-- `primeSqrt_correct` with the prime as an instance. (`hleg` is not used: it is
    `legendreSymbol_eq_legendreSym`.) -/
theorem primeSqrt_spec {a p : Nat} [Fact p.Prime] (h2 : p ≠ 2) (ha : a < p)
    (hleg : ∀ a : Int, legendreSymbol a (p : Int) = legendreSym p a) :
    (∃ r, primeSqrt a p = .root r ∧ r * r % p = a ∧ r < p) ∨
    (primeSqrt a p = .noRoot ∧ ¬ ∃ r : Nat, r * r % p = a) :=
  primeSqrt_correct Fact.out h2 ha

/-! ## `modSqrt` -/

theorem crt_spec {a pa b pb x : Int} (hpa : 0 < pa) (hpb : 0 < pb)
    (h : crt a pa b pb = some x) :
    x % pa = a % pa ∧ x % pb = b % pb ∧ 0 ≤ x ∧ x < pa * pb ∧ IsCoprime pa pb := by
  obtain ⟨h0, hlt, h1, h2⟩ := crt_some hpa hpb h
  refine ⟨h1, h2, h0, hlt, Int.isCoprime_iff_gcd_eq_one.mpr (by_contra fun hg => ?_)⟩
  rw [(crt_none_iff a pa b pb hpa hpb).mpr hg] at h
  cases h

/-- the factors `common.ModSqrt` is written for: `4` or an odd prime. -/
def GoodFac (f : Int) : Prop :=
  f = 4 ∨ ∃ p : Nat, p.Prime ∧ p ≠ 2 ∧ f = (p : Int)

theorem GoodFac.of_prime {p : Nat} (hp : p.Prime) (hp2 : p ≠ 2) : GoodFac p :=
  Or.inr ⟨p, hp, hp2, rfl⟩

theorem GoodFac.pos {f : Int} (h : GoodFac f) : 0 < f := by
  rcases h with rfl | ⟨p, hp, -, rfl⟩
  · exact four_pos
  · exact Int.natCast_pos.mpr hp.pos

/-- the per-factor root computed inside `modSqrtAux`. -/
def modSqrtLoc (a fac : Int) : SqrtResult :=
  if fac = 4 then
    if (a % 4).toNat / 2 % 2 ≠ 0 then .noRoot
    else if (a % 4).toNat % 2 = 0 then .root 2 else .root 1
  else primeSqrt (a % fac).toNat fac.toNat

theorem modSqrtAux_cons (a fac : Int) (rest : List Int) (first : Bool) (res n : Int) :
    modSqrtAux a (fac :: rest) first res n =
      match modSqrtLoc a fac with
      | .root r =>
        if first then modSqrtAux a rest false r (n * fac)
        else match crt res n r fac with
          | none => .diverges
          | some x => modSqrtAux a rest false x (n * fac)
      | other => other := by
  rfl

/-- One step of `modSqrtAux`: it stops with the failure of the local root, or stops because the
    recombination fails, or goes on with the recombined residue `x`. -/
theorem modSqrtAux_cons_cases {a fac : Int} {rest : List Int} {first : Bool} {res n : Int}
    {out : SqrtResult} (h : modSqrtAux a (fac :: rest) first res n = out) :
    (modSqrtLoc a fac = out ∧ ∀ r, out ≠ .root r) ∨
    (∃ r1 : Nat, modSqrtLoc a fac = .root r1 ∧ first = false ∧ crt res n r1 fac = none ∧
      out = .diverges) ∨
    ∃ (r1 : Nat) (x : Int), modSqrtLoc a fac = .root r1 ∧
      (if first then x = r1 else crt res n r1 fac = some x) ∧
      modSqrtAux a rest false x (n * fac) = out := by
  rw [modSqrtAux_cons] at h
  split at h
  · next r1 hloc =>
    split at h
    · next hf => exact Or.inr (Or.inr ⟨r1, r1, hloc, by rw [if_pos hf], h⟩)
    · next hf =>
      split at h
      · next hc => exact Or.inr (Or.inl ⟨r1, hloc, eq_false_of_ne_true hf, hc, h.symm⟩)
      · next x hc => exact Or.inr (Or.inr ⟨r1, x, hloc, by rw [if_neg hf]; exact hc, h⟩)
  · next hne => exact Or.inl ⟨h, fun r hr => hne r (h.trans hr)⟩

theorem sq_mod_toNat_emod_iff {p : Nat} (hp : 0 < p) (a : Int) (r : Nat) :
    r * r % p = (a % (p : Int)).toNat ↔ (p : Int) ∣ (r : Int) * r - a := by
  rw [← Int.natCast_inj, Int.toNat_of_nonneg (Int.emod_nonneg a (Int.natCast_pos.mpr hp).ne'),
    Int.natCast_mod, Int.natCast_mul, Int.emod_eq_emod_iff_emod_sub_eq_zero,
    ← Int.dvd_iff_emod_eq_zero]

theorem dvd_sq_sub_of_emod_eq {n x y a : Int} (h : x % n = y % n) (hy : n ∣ y * y - a) :
    n ∣ x * x - a :=
  (((show Int.ModEq n x y from h).mul h).sub_right a).dvd_iff.mpr hy

theorem sq_emod_four (r : Int) : r * r % 4 = 0 ∨ r * r % 4 = 1 := by
  obtain ⟨k, rfl | rfl⟩ := Int.even_or_odd' r
  · left
    rw [show 2 * k * (2 * k) = 4 * (k * k) by ring, Int.mul_emod_right]
  · right
    rw [show (2 * k + 1) * (2 * k + 1) = 1 + 4 * (k * k + k) by ring, Int.add_mul_emod_self_left]
    rfl

/-- The local step on an admissible factor: modulo `4` the two low bits of `a` decide, modulo an
    odd prime `primeSqrt_correct` applies. -/
theorem modSqrtLoc_spec {f : Int} (hf : GoodFac f) (a : Int) :
    match modSqrtLoc a f with
    | .root r => f ∣ (r : Int) * r - a
    | .noRoot => ¬ ∃ r : Int, f ∣ r * r - a
    | .diverges => False := by
  rw [modSqrtLoc]
  rcases hf with rfl | ⟨p, hp, hp2, rfl⟩
  · -- the bits `a.Bit(1)`, `a.Bit(0)` are those of `a % 4`; a square is `0` or `1` modulo `4`
    rw [if_pos rfl]
    have h4 : a % 4 = 0 ∨ a % 4 = 1 ∨ a % 4 = 2 ∨ a % 4 = 3 := by omega
    rcases h4 with h | h | h | h
    · rw [h]
      show (4 : Int) ∣ 2 * 2 - a
      omega
    · rw [h]
      show (4 : Int) ∣ 1 * 1 - a
      omega
    · rw [h]
      rintro ⟨r, hr⟩
      have := sq_emod_four r
      omega
    · rw [h]
      rintro ⟨r, hr⟩
      have := sq_emod_four r
      omega
  · have hp4 : (p : Int) ≠ 4 := fun h4 => by
      have : p = 4 := by omega
      subst this
      exact absurd hp (by decide)
    have hlt : (a % (p : Int)).toNat < p :=
      (Int.toNat_lt' hp.pos).mpr (Int.emod_lt_of_pos a (Int.natCast_pos.mpr hp.pos))
    rw [if_neg hp4, Int.toNat_natCast]
    rcases primeSqrt_correct hp hp2 hlt with ⟨r, hr, hsq, -⟩ | ⟨hn, hno⟩
    · rw [hr]
      exact (sq_mod_toNat_emod_iff hp.pos a r).mp hsq
    · rw [hn]
      rintro ⟨r, hr⟩
      refine hno ⟨(r % (p : Int)).toNat, ?_⟩
      rw [sq_mod_toNat_emod_iff hp.pos,
        Int.toNat_of_nonneg (Int.emod_nonneg r (Int.natCast_pos.mpr hp.pos).ne')]
      exact dvd_sq_sub_of_emod_eq (Int.emod_emod_of_dvd r dvd_rfl) hr

theorem modSqrtAux_sound (a : Int) :
    ∀ (facs : List Int) (first : Bool) (res n : Int) (r : Nat),
      (∀ f ∈ facs, GoodFac f) → 0 < n → 0 ≤ res → n ∣ res * res - a →
      (first = true → n = 1) →
      modSqrtAux a facs first res n = .root r → n * facs.prod ∣ (r : Int) * r - a := by
  intro facs
  induction facs with
  | nil =>
    intro first res n r _ _ hres hdiv _ h
    cases h
    rwa [Int.toNat_of_nonneg hres, List.prod_nil, mul_one]
  | cons fac rest ih =>
    intro first res n r hgood hn hres hdiv hfirst h
    rw [List.forall_mem_cons] at hgood
    rw [List.prod_cons, ← mul_assoc]
    rcases modSqrtAux_cons_cases h with ⟨-, hr⟩ | ⟨r1, -, -, -, hd⟩ | ⟨r1, x, hloc, hx, hrest⟩
    · exact absurd rfl (hr r)
    · cases hd
    · have hfpos := hgood.1.pos
      have hfdvd := modSqrtLoc_spec hgood.1 a
      rw [hloc] at hfdvd
      have hx' : 0 ≤ x ∧ n * fac ∣ x * x - a := by
        cases first with
        | true =>
          rw [if_pos rfl] at hx
          rw [hx, hfirst rfl, one_mul]
          exact ⟨Int.natCast_nonneg r1, hfdvd⟩
        | false =>
          obtain ⟨hx1, hx2, hx0, -, hcop⟩ := crt_spec hn hfpos hx
          exact ⟨hx0, hcop.mul_dvd (dvd_sq_sub_of_emod_eq hx1 hdiv) (dvd_sq_sub_of_emod_eq hx2 hfdvd)⟩
      exact ih false x (n * fac) r hgood.2 (Int.mul_pos hn hfpos) hx'.1 hx'.2 nofun hrest

/-- Pairwise coprimality is not needed as a hypothesis: `crt` reports `.diverges` otherwise. -/
theorem modSqrt_root_sq_general {a : Int} {facs : List Int} {r : Nat}
    (hgood : ∀ f ∈ facs, GoodFac f) (h : modSqrt a facs = .root r) :
    ((r : Int) * r - a) % facs.prod = 0 := by
  have := modSqrtAux_sound a facs true 0 1 r hgood Int.one_pos le_rfl (one_dvd _) (fun _ => rfl) h
  rw [one_mul] at this
  exact Int.emod_eq_zero_of_dvd this

theorem modSqrtAux_noRoot (a : Int) :
    ∀ (facs : List Int) (first : Bool) (res n : Int),
      modSqrtAux a facs first res n = .noRoot → ∃ f ∈ facs, modSqrtLoc a f = .noRoot := by
  intro facs
  induction facs with
  | nil => intro first res n h; cases h
  | cons fac rest ih =>
    intro first res n h
    rcases modSqrtAux_cons_cases h with ⟨hloc, -⟩ | ⟨r1, -, -, -, hd⟩ | ⟨r1, x, -, -, hrest⟩
    · exact ⟨fac, List.mem_cons_self, hloc⟩
    · cases hd
    · obtain ⟨f, hf, hno⟩ := ih _ _ _ hrest
      exact ⟨f, List.mem_cons_of_mem _ hf, hno⟩

theorem modSqrt_noRoot_general {a : Int} {facs : List Int}
    (hgood : ∀ f ∈ facs, GoodFac f) (h : modSqrt a facs = .noRoot) :
    ¬ ∃ r : Int, (r * r - a) % facs.prod = 0 := by
  rintro ⟨r, hr⟩
  obtain ⟨f, hf, hno⟩ := modSqrtAux_noRoot a facs true 0 1 h
  have := modSqrtLoc_spec (hgood f hf) a
  rw [hno] at this
  exact this ⟨r, dvd_trans (List.dvd_prod hf) (Int.dvd_of_emod_eq_zero hr)⟩

theorem modSqrtAux_ne_diverges (a : Int) :
    ∀ (facs : List Int) (first : Bool) (res n : Int),
      (∀ f ∈ facs, GoodFac f) → 0 < n → (∀ f ∈ facs, IsCoprime n f) →
      facs.Pairwise IsCoprime → modSqrtAux a facs first res n ≠ .diverges := by
  intro facs
  induction facs with
  | nil => intro first res n _ _ _ _ h; cases h
  | cons fac rest ih =>
    intro first res n hgood hn hcop hpw h
    rw [List.forall_mem_cons] at hgood hcop
    rw [List.pairwise_cons] at hpw
    rcases modSqrtAux_cons_cases h with ⟨hloc, -⟩ | ⟨r1, -, -, hc, -⟩ | ⟨r1, x, -, -, hrest⟩
    · have := modSqrtLoc_spec hgood.1 a
      rwa [hloc] at this
    · exact (crt_none_iff res n r1 fac hn hgood.1.pos).mp hc (Int.isCoprime_iff_gcd_eq_one.mp hcop.1)
    · exact ih false x (n * fac) hgood.2 (Int.mul_pos hn hgood.1.pos)
        (fun f hf => (hcop.2 f hf).mul_left (hpw.1 f hf)) hpw.2 hrest

theorem modSqrt_ne_diverges_general {a : Int} {facs : List Int}
    (hgood : ∀ f ∈ facs, GoodFac f) (hpw : facs.Pairwise IsCoprime) :
    modSqrt a facs ≠ .diverges :=
  modSqrtAux_ne_diverges a facs true 0 1 hgood Int.one_pos (fun _ _ => isCoprime_one_left) hpw

section TwoPrimes
variable {a : Int} {p q : Nat}

theorem goodFac_pair (hp : p.Prime) (hq : q.Prime) (hp2 : p ≠ 2) (hq2 : q ≠ 2) :
    ∀ f ∈ [(p : Int), (q : Int)], GoodFac f :=
  List.forall_mem_cons.mpr ⟨.of_prime hp hp2, List.forall_mem_singleton.mpr (.of_prime hq hq2)⟩

theorem goodFac_four_pair (hp : p.Prime) (hq : q.Prime) (hp2 : p ≠ 2) (hq2 : q ≠ 2) :
    ∀ f ∈ [4, (p : Int), (q : Int)], GoodFac f :=
  List.forall_mem_cons.mpr ⟨Or.inl rfl, goodFac_pair hp hq hp2 hq2⟩

theorem prod_triple (x y z : Int) : [x, y, z].prod = x * y * z := by
  rw [List.prod_cons, List.prod_pair, mul_assoc]

theorem isCoprime_primes (hp : p.Prime) (hq : q.Prime) (hpq : p ≠ q) :
    IsCoprime (p : Int) (q : Int) :=
  Nat.isCoprime_iff_coprime.mpr ((Nat.coprime_primes hp hq).mpr hpq)

theorem pairwise_coprime_pair (hp : p.Prime) (hq : q.Prime) (hpq : p ≠ q) :
    [(p : Int), (q : Int)].Pairwise IsCoprime :=
  List.pairwise_pair.mpr (isCoprime_primes hp hq hpq)

theorem isCoprime_four_prime (hp : p.Prime) (hp2 : p ≠ 2) : IsCoprime (4 : Int) (p : Int) :=
  have h2 : IsCoprime ((2 : Nat) : Int) (p : Int) := isCoprime_primes Nat.prime_two hp hp2.symm
  h2.mul_left h2

theorem modSqrt_noRoot (hp : p.Prime) (hq : q.Prime)
    (hp2 : p ≠ 2) (hq2 : q ≠ 2) (h : modSqrt a [(p : Int), (q : Int)] = .noRoot) :
    ¬ ∃ r : Int, (r * r - a) % ((p : Int) * q) = 0 :=
  List.prod_pair (a := (p : Int)) (b := q) ▸ modSqrt_noRoot_general (goodFac_pair hp hq hp2 hq2) h

theorem modSqrt_ne_diverges (hp : p.Prime) (hq : q.Prime) (hp2 : p ≠ 2) (hq2 : q ≠ 2)
    (hpq : p ≠ q) : modSqrt a [(p : Int), (q : Int)] ≠ .diverges :=
  modSqrt_ne_diverges_general (goodFac_pair hp hq hp2 hq2) (pairwise_coprime_pair hp hq hpq)

end TwoPrimes

theorem modSqrt_noRoot_four {a : Int} {p q : Nat} (hp : p.Prime) (hq : q.Prime)
    (hp2 : p ≠ 2) (hq2 : q ≠ 2) (h : modSqrt a [4, (p : Int), (q : Int)] = .noRoot) :
    ¬ ∃ r : Int, (r * r - a) % (4 * (p : Int) * q) = 0 :=
  prod_triple 4 (p : Int) q ▸ modSqrt_noRoot_general (goodFac_four_pair hp hq hp2 hq2) h

set_option linter.unusedVariables false in
/-- `modSqrt_ne_diverges_general` on `[4, p, q]`. (`hlegp`, `hlegq` are not used: they are
    `legendreSymbol_eq_legendreSym`.) -/
theorem modSqrt_ne_diverges_four {a : Int} {p q : Nat} [hp : Fact p.Prime] [hq : Fact q.Prime]
    (hp2 : p ≠ 2) (hq2 : q ≠ 2) (hpq : p ≠ q)
    (hlegp : ∀ a : Int, legendreSymbol a (p : Int) = legendreSym p a)
    (hlegq : ∀ a : Int, legendreSymbol a (q : Int) = legendreSym q a) :
    modSqrt a [4, (p : Int), (q : Int)] ≠ .diverges :=
  modSqrt_ne_diverges_general (goodFac_four_pair hp.out hq.out hp2 hq2)
    (List.pairwise_cons.mpr ⟨List.forall_mem_cons.mpr ⟨isCoprime_four_prime hp.out hp2,
      List.forall_mem_singleton.mpr (isCoprime_four_prime hq.out hq2)⟩,
      pairwise_coprime_pair hp.out hq.out hpq⟩)

/-! Negative `a` with the factor 4 (`big.Int.Bit` reads two's-complement bits, the model reads the
    bits of `a % 4`): `-1 ≡ 3 (mod 4)` has no root, `-3 ≡ 1 (mod 4)` has one. -/
#eval modSqrt (-1) [4, 5, 13]                         -- noRoot
#eval modSqrt (-3) [4, 7, 13]                         -- root r with r² ≡ -3 (mod 364)
#eval match modSqrt (-3) [4, 7, 13] with
  | .root r => ((r : Int) * r - (-3)) % (4 * 7 * 13)  -- 0
  | _ => -1

end Gabi

#print axioms Gabi.primeSqrt_correct
#print axioms Gabi.primeSqrt_spec
#print axioms Gabi.crt_spec
#print axioms Gabi.modSqrt_root_sq_general
#print axioms Gabi.modSqrt_noRoot_general
#print axioms Gabi.modSqrt_noRoot
#print axioms Gabi.modSqrt_noRoot_four
#print axioms Gabi.modSqrt_ne_diverges_general
#print axioms Gabi.modSqrt_ne_diverges
#print axioms Gabi.modSqrt_ne_diverges_four
