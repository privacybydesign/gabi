/-
  GabiProofs.GoMonad — the monads of the model: `Except ε` (instances: `GoM = Except GoPanic`, Go
  panics, and the decoder monad `Decode.D = Except Unit`) and `GoE = OptionT GoM` (error returns).
  When a bind, a `mapM` or a `forIn` succeeds, when it cannot panic (`GoM.IsOk`, `GoE.IsOk`), and
  what `deref` and `idx` return.
-/
import GabiModel.Proofs
import Mathlib.Data.List.Forall2

/-! ## `Except ε` -/

namespace Except

variable {ε α β : Type _}

theorem bind_ok_iff {x : Except ε α} {f : α → Except ε β} {b : β} :
    (x >>= f) = .ok b ↔ ∃ a, x = .ok a ∧ f a = .ok b := by
  cases x with
  | error e => exact ⟨nofun, fun ⟨_, h, _⟩ => nomatch h⟩
  | ok a => exact ⟨fun h => ⟨a, rfl, h⟩, fun ⟨_, h, h'⟩ => by cases h; exact h'⟩

theorem pure_ok_iff {a b : α} : (pure a : Except ε α) = .ok b ↔ a = b :=
  ⟨Except.ok.inj, congrArg _⟩

theorem ok_bind (a : α) (f : α → Except ε β) : ((.ok a : Except ε α) >>= f) = f a := rfl

theorem mapM_ok_forall₂ (f : α → Except ε β) (l : List α) (bs : List β) (h : l.mapM f = .ok bs) :
    List.Forall₂ (fun a b => f a = .ok b) l bs := by
  induction l generalizing bs with
  | nil =>
    cases h
    exact .nil
  | cons a rest ih =>
    rw [List.mapM_cons, bind_ok_iff] at h
    obtain ⟨b, hb, h⟩ := h
    obtain ⟨bs', hbs', h⟩ := bind_ok_iff.mp h
    cases h
    exact .cons hb (ih bs' hbs')

/-- two traversals of one list with the same result succeed alike on every member. -/
theorem mapM_ok_pointwise {f g : α → Except ε β} {l : List α} {cs : List β}
    (h1 : l.mapM f = .ok cs) (h2 : l.mapM g = .ok cs) : ∀ a ∈ l, ∃ b, f a = .ok b ∧ g a = .ok b := by
  replace h1 := mapM_ok_forall₂ f l cs h1
  replace h2 := mapM_ok_forall₂ g l cs h2
  induction h1 with
  | nil => exact nofun
  | cons hab _ ih =>
    cases h2 with
    | cons hab' h2 => exact List.forall_mem_cons.mpr ⟨⟨_, hab, hab'⟩, ih h2⟩

/-- a `mapM` whose function either succeeds or fails with the one error `e`. -/
theorem mapM_eq_ite (f : α → Except ε β) (g : α → β) (p : α → Prop)
    [DecidablePred p] (e : ε) (hf : ∀ a, f a = if p a then .ok (g a) else .error e) (l : List α) :
    l.mapM f = if ∀ a ∈ l, p a then .ok (l.map g) else .error e := by
  induction l with
  | nil => rw [if_pos (by simp)]; rfl
  | cons a l ih =>
    rw [List.mapM_cons, hf, ih]
    by_cases ha : p a
    · by_cases hl : ∀ a ∈ l, p a
      · rw [if_pos ha, if_pos hl, if_pos (List.forall_mem_cons.mpr ⟨ha, hl⟩)]; rfl
      · rw [if_pos ha, if_neg hl, if_neg fun h => hl (List.forall_mem_cons.mp h).2]; rfl
    · rw [if_neg ha, if_neg fun h => ha (List.forall_mem_cons.mp h).1]; rfl

end Except

theorem List.mapM_eq_pure_map {m} [Monad m] [LawfulMonad m] {α β} (f : α → m β) (g : α → β)
    (l : List α) (h : ∀ a ∈ l, f a = pure (g a)) : l.mapM f = pure (l.map g) := by
  induction l with
  | nil => rfl
  | cons a l ih =>
    rw [List.mapM_cons, h a List.mem_cons_self, ih fun x hx => h x (List.mem_cons_of_mem _ hx)]
    simp

theorem Except.mapM_map_ok {ε α β γ} (g : α → β) (f : β → Except ε γ) (h : α → γ) (l : List α)
    (hl : ∀ a ∈ l, f (g a) = .ok (h a)) : (l.map g).mapM f = .ok (l.map h) :=
  List.mapM_map.trans (List.mapM_eq_pure_map _ h l hl)

namespace Gabi

/-! ## the monads `GoM = Except GoPanic` and `GoE = OptionT GoM` -/

/-- "does not panic". -/
def GoM.IsOk {α} (x : GoM α) : Prop := ∃ a, x = .ok a

theorem GoM.isOk_pure {α} (a : α) : GoM.IsOk (pure a : GoM α) := ⟨a, rfl⟩
theorem GoM.isOk_ok {α} (a : α) : GoM.IsOk (.ok a : GoM α) := ⟨a, rfl⟩

theorem GoM.isOk_bind {α β} {x : GoM α} {f : α → GoM β} (hx : GoM.IsOk x)
    (hf : ∀ a, x = .ok a → GoM.IsOk (f a)) : GoM.IsOk (x >>= f) := by
  obtain ⟨a, rfl⟩ := hx
  exact hf a rfl

theorem GoM.bind_ok_iff {α β} {x : GoM α} {f : α → GoM β} {b : β} :
    (x >>= f) = .ok b ↔ ∃ a, x = .ok a ∧ f a = .ok b := Except.bind_ok_iff

theorem GoM.bind_ok {α β} {x : GoM α} {f : α → GoM β} {b : β} (h : (x >>= f) = .ok b) :
    ∃ a, x = .ok a ∧ f a = .ok b := GoM.bind_ok_iff.mp h

theorem GoM.pure_ok {α} {a v : α} (h : (pure a : GoM α) = .ok v) : a = v := Except.ok.inj h

theorem GoM.ok_bind {α β} (a : α) (f : α → GoM β) : ((.ok a : GoM α) >>= f) = f a := rfl
theorem GoM.pure_eq_ok {α} (a : α) : (pure a : GoM α) = .ok a := rfl

/-! ### `deref` and `idx` -/

theorem deref_ok_iff {α} (w : String) (x : Option α) (a : α) : deref w x = .ok a ↔ x = some a := by
  cases x with
  | none => exact ⟨nofun, nofun⟩
  | some b => exact ⟨fun h => congrArg some (Except.ok.inj h), fun h => by cases h; rfl⟩

theorem deref_ok {α} {w : String} {x : Option α} {a : α} (h : deref w x = .ok a) : x = some a :=
  (deref_ok_iff w x a).mp h

theorem deref_some {α} (w : String) (a : α) : deref w (some a) = .ok a := rfl

theorem deref_isOk {α} (w : String) {x : Option α} (h : x.isSome) : GoM.IsOk (deref w x) := by
  cases x with
  | none => simp at h
  | some a => exact ⟨a, rfl⟩

theorem idx_ok_iff {α} (w : String) (l : List α) (i : Int) (a : α) :
    idx w l i = .ok a ↔ 0 ≤ i ∧ l[i.toNat]? = some a := by
  unfold idx
  by_cases hi : i < 0
  · rw [if_pos hi]; exact ⟨nofun, fun h => absurd hi (Int.not_lt.mpr h.1)⟩
  · rw [if_neg hi, and_iff_right (Int.not_lt.mp hi)]
    cases l[i.toNat]? with
    | none => exact ⟨nofun, nofun⟩
    | some b => exact ⟨fun h => congrArg some (Except.ok.inj h), fun h => by cases h; rfl⟩

theorem idx_eq_getElem? {α} (w : String) {l : List α} {i : Int} (h0 : 0 ≤ i) (h1 : i < l.length) :
    ∃ a, idx w l i = .ok a ∧ l[i.toNat]? = some a :=
  have hi : l[i.toNat]? = some l[i.toNat] := List.getElem?_eq_getElem (by omega)
  ⟨_, (idx_ok_iff w l i _).mpr ⟨h0, hi⟩, hi⟩

theorem idx_isOk {α} (w : String) (l : List α) (i : Int) (h0 : 0 ≤ i) (h1 : i < l.length) :
    GoM.IsOk (idx w l i) :=
  let ⟨a, ha, _⟩ := idx_eq_getElem? w h0 h1
  ⟨a, ha⟩

/-- `idx` as a total function: the element (with any default `d`) or the panic. -/
theorem idx_eq {α} (w : String) (l : List α) (i : Int) (d : α) :
    idx w l i = if 0 ≤ i ∧ i.toNat < l.length then .ok (l.getD i.toNat d)
      else .error (GoPanic.indexOutOfRange w) := by
  unfold idx
  by_cases h0 : i < 0
  · rw [if_pos h0, if_neg (by omega)]; rfl
  · rw [if_neg h0, List.getD_eq_getElem?_getD]
    by_cases h1 : i.toNat < l.length
    · rw [if_pos ⟨by omega, h1⟩, List.getElem?_eq_getElem h1]; rfl
    · rw [if_neg (by omega), List.getElem?_eq_none (by omega)]; rfl

/-! ### `GoE`: error returns on top of panics -/

/-- the result of a `GoE` computation is a verdict (value or error return), not a panic. -/
def GoE.IsOk {α} (x : GoE α) : Prop := GoM.IsOk x.run

theorem GoE.run_bind_ok_some_iff {α β} {x : GoE α} {f : α → GoE β} {b : β} :
    (x >>= f).run = .ok (some b) ↔ ∃ a, x.run = .ok (some a) ∧ (f a).run = .ok (some b) := by
  rw [OptionT.run_bind]
  show (x.run >>= _) = _ ↔ _
  rw [GoM.bind_ok_iff]
  constructor
  · rintro ⟨_ | a, h1, h2⟩
    · cases h2
    · exact ⟨a, h1, h2⟩
  · rintro ⟨a, h1, h2⟩
    exact ⟨some a, h1, h2⟩

theorem GoE.run_bind_ok {α β} {x : GoE α} {oa : Option α} (hx : x.run = .ok oa) (f : α → GoE β) :
    (x >>= f).run = oa.elim (.ok none) fun a => (f a).run := by
  rw [OptionT.run_bind, hx]
  rfl

theorem GoE.bind_ok_some {α β} {x : GoE α} {f : α → GoE β} {v : β}
    (h : (x >>= f).run = .ok (some v)) : ∃ a, x.run = .ok (some a) ∧ (f a).run = .ok (some v) :=
  GoE.run_bind_ok_some_iff.mp h

theorem GoE.isOk_bind {α β} {x : GoE α} {f : α → GoE β} (hx : GoE.IsOk x)
    (hf : ∀ a, x.run = .ok (some a) → GoE.IsOk (f a)) : GoE.IsOk (x >>= f) := by
  unfold GoE.IsOk
  rw [OptionT.run_bind]
  obtain ⟨oa, h⟩ := hx
  show GoM.IsOk (x.run >>= _)
  rw [h]
  cases oa with
  | none => exact ⟨none, rfl⟩
  | some a => exact hf a h

theorem GoE.isOk_failure {α} : GoE.IsOk (failure : GoE α) := ⟨none, rfl⟩
theorem GoE.isOk_pure {α} (a : α) : GoE.IsOk (pure a : GoE α) := ⟨some a, rfl⟩

theorem GoE.run_liftM_ok_some_iff {α} (x : GoM α) (a : α) :
    (liftM x : GoE α).run = .ok (some a) ↔ x = .ok a := by
  cases x with
  | error e => exact ⟨nofun, nofun⟩
  | ok b => exact ⟨fun h => by cases h; rfl, fun h => by cases h; rfl⟩

theorem GoE.liftM_ok_some {α} {y : GoM α} {v : α}
    (h : (liftM y : GoE α).run = .ok (some v)) : y = .ok v :=
  (GoE.run_liftM_ok_some_iff y v).mp h

theorem GoE.isOk_liftM {α} {x : GoM α} (h : GoM.IsOk x) : GoE.IsOk (liftM x : GoE α) := by
  obtain ⟨a, rfl⟩ := h
  exact ⟨some a, rfl⟩

theorem GoE.run_failure {α} : (failure : GoE α).run = .ok none := rfl
theorem GoE.run_pure {α} (a : α) : (pure a : GoE α).run = .ok (some a) := rfl

theorem GoE.failure_bind_run {α β : Type} (f : α → GoE β) :
    ((failure : GoE α) >>= f).run = .ok none := rfl

theorem GoE.failure_ne {α} (a : α) : (failure : GoE α).run ≠ .ok (some a) := nofun

theorem GoE.failure_bind_ne {α β} (f : α → GoE β) (b : β) :
    ((failure : GoE α) >>= f).run ≠ .ok (some b) := nofun

theorem GoE.isOk_failure_bind {α β} (f : α → GoE β) : GoE.IsOk ((failure : GoE α) >>= f) :=
  ⟨none, rfl⟩

/-! ### list traversals -/

instance : LawfulMonad GoE := inferInstanceAs (LawfulMonad (OptionT (Except GoPanic)))

theorem GoM.mapM_isOk {α β} (f : α → GoM β) (l : List α) (h : ∀ a ∈ l, GoM.IsOk (f a)) :
    GoM.IsOk (l.mapM f) := by
  induction l with
  | nil => exact ⟨[], by simp [GoM.pure_eq_ok]⟩
  | cons a rest ih =>
    rw [List.mapM_cons]
    apply GoM.isOk_bind (h a (List.mem_cons_self ..)); intro b _
    apply GoM.isOk_bind (ih (fun a' ha' => h a' (List.mem_cons_of_mem _ ha'))); intro bs _
    exact GoM.isOk_pure _

/-- a loop cannot panic if its body cannot while an invariant of the state holds. -/
theorem GoM.forIn_isOk_inv {α σ} (l : List α) (init : σ) (f : α → σ → GoM (ForInStep σ))
    (Inv : σ → Prop) (hinit : Inv init)
    (h : ∀ a ∈ l, ∀ s, Inv s → GoM.IsOk (f a s) ∧ ∀ s', f a s = .ok (.yield s') → Inv s') :
    GoM.IsOk (forIn l init f) := by
  induction l generalizing init with
  | nil => rw [List.forIn_nil]; exact GoM.isOk_pure _
  | cons a rest ih =>
    rw [List.forIn_cons]
    obtain ⟨hok, hinv⟩ := h a (List.mem_cons_self ..) init hinit
    apply GoM.isOk_bind hok
    intro st hst
    cases st with
    | done s => exact GoM.isOk_pure _
    | yield s => exact ih s (hinv s hst) (fun a' ha' => h a' (List.mem_cons_of_mem _ ha'))

theorem mapM_deref_map_some {α} (what : String) (vals : List α) :
    (vals.map some).mapM (deref what) = (.ok vals : GoM (List α)) := by
  induction vals with
  | nil => rfl
  | cons x vals ih => rw [List.map_cons, List.mapM_cons, ih]; rfl

theorem mapM_deref_inv (what : String) (ms : List (Option Int)) (vals : List Int)
    (h : ms.mapM (deref what) = (.ok vals : GoM (List Int))) : ms = vals.map some :=
  List.forall₂_eq_eq_eq ▸ List.forall₂_map_right_iff.mpr
    ((Except.mapM_ok_forall₂ _ _ _ h).imp fun _ _ hab => deref_ok hab)

theorem mapM_deref_ok (what : String) (ms : List (Option Int)) (h : ∀ o ∈ ms, o.isSome = true) :
    ms.mapM (deref what) = (.ok (ms.map (·.getD 0)) : GoM (List Int)) :=
  List.mapM_eq_pure_map _ _ _ fun o ho => by
    obtain ⟨x, rfl⟩ := Option.isSome_iff_exists.mp (h o ho)
    rfl

theorem mapM_deref_error (what : String) (ms : List (Option Int)) (h : none ∈ ms) :
    ms.mapM (deref what) = (.error (.nilDeref what) : GoM (List Int)) := by
  induction ms with
  | nil => cases h
  | cons o ms ih =>
    rw [List.mapM_cons]
    cases o with
    | none => rfl
    | some x =>
      rcases List.mem_cons.mp h with h' | h'
      · cases h'
      · rw [ih h']; rfl

theorem GoE.mapM_isOk {α β} (f : α → GoE β) (l : List α) (h : ∀ a ∈ l, GoE.IsOk (f a)) :
    GoE.IsOk (l.mapM f) := by
  induction l with
  | nil => rw [List.mapM_nil]; exact GoE.isOk_pure _
  | cons a rest ih =>
    rw [List.mapM_cons]
    apply GoE.isOk_bind (h a (List.mem_cons_self ..)); intro b _
    apply GoE.isOk_bind (ih (fun a' ha' => h a' (List.mem_cons_of_mem _ ha'))); intro bs _
    exact GoE.isOk_pure _

theorem GoE.mapM_ok_some {α β} (f : α → GoE β) (l : List α) (bs : List β)
    (h : (l.mapM f).run = .ok (some bs)) :
    List.Forall₂ (fun a b => (f a).run = .ok (some b)) l bs := by
  induction l generalizing bs with
  | nil =>
    rw [List.mapM_nil] at h
    cases h
    exact List.Forall₂.nil
  | cons a rest ih =>
    rw [List.mapM_cons, GoE.run_bind_ok_some_iff] at h
    obtain ⟨b, hb, h⟩ := h
    obtain ⟨bs', hbs', h⟩ := GoE.bind_ok_some h
    cases h
    exact List.Forall₂.cons hb (ih bs' hbs')

theorem GoE.forIn_isOk {α σ} (l : List α) (init : σ) (f : α → σ → GoE (ForInStep σ))
    (h : ∀ a ∈ l, ∀ s, GoE.IsOk (f a s)) : GoE.IsOk (forIn l init f) := by
  induction l generalizing init with
  | nil => rw [List.forIn_nil]; exact GoE.isOk_pure _
  | cons a rest ih =>
    rw [List.forIn_cons]
    apply GoE.isOk_bind (h a (List.mem_cons_self ..) init)
    intro st _
    cases st with
    | done s => exact GoE.isOk_pure _
    | yield s => exact ih s (fun a' ha' => h a' (List.mem_cons_of_mem _ ha'))

/-- a successful loop whose body appends to the first component of the state a part related
    to the element by `R`, and never breaks, has appended the concatenation of the parts. -/
theorem GoE.forIn_append {α σ} {R : α → List Int → Prop}
    {f : α → List Int × σ → GoE (ForInStep (List Int × σ))}
    (xs : List α) {st st' : List Int × σ} (h : (forIn xs st f).run = .ok (some st'))
    (hf : ∀ x st t, (f x st).run = .ok (some t) →
      ∃ part, R x part ∧ ∃ s', t = .yield (st.1 ++ part, s')) :
    ∃ parts, List.Forall₂ R xs parts ∧ st'.1 = st.1 ++ parts.flatten := by
  induction xs generalizing st with
  | nil =>
    rw [List.forIn_nil, GoE.run_pure] at h
    cases h
    exact ⟨[], List.Forall₂.nil, (List.append_nil _).symm⟩
  | cons x rest ih =>
    rw [List.forIn_cons, GoE.run_bind_ok_some_iff] at h
    obtain ⟨t, ht, h⟩ := h
    obtain ⟨part, hrel, s', rfl⟩ := hf _ _ _ ht
    obtain ⟨parts, hF, heq⟩ := ih h
    exact ⟨part :: parts, List.Forall₂.cons hrel hF, by rw [heq, List.flatten_cons, List.append_assoc]⟩

end Gabi
