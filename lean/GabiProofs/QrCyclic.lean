/-
  GabiProofs.QrCyclic — the group of quadratic residues modulo n = p·q (p = 2p'+1, q = 2q'+1 safe
  primes, p ≠ q) is cyclic of order p'·q', and the order criterion that the executable predicate
  `KeyGen.inSubgroup` uses for "x ∈ ⟨S⟩" is sound (property C16): first for units of `ZMod n`
  (`order_criterion_units`), then for the predicate on representatives (`inSubgroup_sound`,
  `wellFormed_bases`). `Toy.key` is a key on which `wellFormed` evaluates to `true`.
-/
import GabiProofs.KeyGen
import Mathlib.Data.ZMod.Units
import Mathlib.GroupTheory.SpecificGroups.Cyclic
import Mathlib.RingTheory.IntegralDomain
import Mathlib.Algebra.Group.Subgroup.Map
import Mathlib.Tactic.NormNum.LegendreSymbol
namespace Gabi.QrCyclic
open Gabi

/-! ## squares of a commutative group -/

def squares (G : Type*) [CommGroup G] : Subgroup G := (powMonoidHom 2 : G →* G).range

theorem mem_squares {G : Type*} [CommGroup G] {x : G} : x ∈ squares G ↔ ∃ y : G, y ^ 2 = x := by
  simp [squares, MonoidHom.mem_range]

theorem squares_prod (A B : Type*) [CommGroup A] [CommGroup B] :
    squares (A × B) = (squares A).prod (squares B) := by
  ext ⟨a, b⟩
  simp only [mem_squares, Subgroup.mem_prod]
  constructor
  · rintro ⟨⟨y1, y2⟩, h⟩
    simp only [Prod.pow_mk, Prod.mk.injEq] at h
    exact ⟨⟨y1, h.1⟩, ⟨y2, h.2⟩⟩
  · rintro ⟨⟨y1, h1⟩, ⟨y2, h2⟩⟩
    exact ⟨(y1, y2), by simp [h1, h2]⟩

theorem squares_map {G H : Type*} [CommGroup G] [CommGroup H] (e : G ≃* H) :
    (squares G).map (e : G →* H) = squares H := by
  ext x
  simp only [Subgroup.mem_map, mem_squares]
  constructor
  · rintro ⟨_, ⟨y, rfl⟩, rfl⟩
    exact ⟨e y, by simp⟩
  · rintro ⟨y, rfl⟩
    exact ⟨e.symm y ^ 2, ⟨e.symm y, rfl⟩, by simp⟩

noncomputable def squaresCongr {G H : Type*} [CommGroup G] [CommGroup H] (e : G ≃* H) :
    squares G ≃* squares H :=
  (e.subgroupMap (squares G)).trans (MulEquiv.subgroupCongr (squares_map e))

/-! ## the order criterion in a finite cyclic group -/

/-- In a finite cyclic group the elements killed by the order of `s` are exactly the powers of `s`:
    `⟨s⟩` lies in the kernel of `y ↦ y ^ orderOf s`, which has `gcd |A| (orderOf s) = orderOf s`
    elements. -/
theorem mem_zpowers_of_pow_orderOf_eq_one {A : Type*} [CommGroup A] [Finite A] [IsCyclic A] (s x : A)
    (hx : x ^ orderOf s = 1) : x ∈ Subgroup.zpowers s := by
  have hle : Subgroup.zpowers s ≤ (powMonoidHom (orderOf s) : A →* A).ker :=
    Subgroup.zpowers_le.mpr (pow_orderOf_eq_one s)
  have hcard : Nat.card (powMonoidHom (orderOf s) : A →* A).ker ≤ Nat.card (Subgroup.zpowers s) := by
    rw [IsCyclic.card_powMonoidHom_ker, Nat.card_zpowers, Nat.gcd_eq_right (orderOf_dvd_natCard s)]
  rw [Subgroup.eq_of_le_of_card_ge hle hcard]
  exact hx

theorem eq_mul_of_dvd_mul_primes {a b d : Nat} (ha : a.Prime) (hb : b.Prime)
    (hd : d ∣ a * b) (h1 : ¬ d ∣ a) (h2 : ¬ d ∣ b) : d = a * b := by
  obtain ⟨d1, d2, hd1, hd2, rfl⟩ := Nat.dvd_mul.mp hd
  rcases (Nat.dvd_prime ha).mp hd1 with rfl | rfl <;> rcases (Nat.dvd_prime hb).mp hd2 with rfl | rfl
  · exact absurd (by rw [Nat.mul_one]; exact one_dvd a) h1
  · exact absurd (by rw [Nat.one_mul]) h2
  · exact absurd (by rw [Nat.mul_one]) h1
  · rfl

/-- the order that `KeyGen.qrOrder` computes, for an element of a group. -/
noncomputable def ordOf {G : Type*} [Group G] (a b : Nat) (s : G) : Nat := by
  classical
  exact if s = 1 then 1 else if s ^ a = 1 then a else if s ^ b = 1 then b else a * b

theorem ordOf_coe {G : Type*} [Group G] (H : Subgroup G) (a b : Nat) (s : H) :
    ordOf a b (s : G) = ordOf a b s := by
  classical
  unfold ordOf
  simp only [← Subgroup.coe_pow, OneMemClass.coe_eq_one]
  -- what is left: the two sides differ in their `Decidable` instances only
  congr

/-- in a group of order `a·b` (primes) `ordOf` is the order. -/
theorem orderOf_eq_ordOf {A : Type*} [Group A] [Finite A] {a b : Nat} (ha : a.Prime) (hb : b.Prime)
    (hcard : Nat.card A = a * b) (s : A) : orderOf s = ordOf a b s := by
  classical
  unfold ordOf
  have := Fact.mk ha
  have := Fact.mk hb
  split_ifs with h1 h2 h3
  · rw [h1, orderOf_one]
  · exact orderOf_eq_prime h2 h1
  · exact orderOf_eq_prime h3 h1
  · refine eq_mul_of_dvd_mul_primes ha hb (hcard ▸ orderOf_dvd_natCard s) ?_ ?_
    · exact fun hd => h2 (orderOf_dvd_iff_pow_eq_one.mp hd)
    · exact fun hd => h3 (orderOf_dvd_iff_pow_eq_one.mp hd)

/-! ## QR_n for n = p·q -/

/-- `p = 2p'+1` and `q = 2q'+1` are distinct safe primes. -/
structure SafePair (p q p' q' : Nat) : Prop where
  hp : p.Prime
  hq : q.Prime
  hp' : p'.Prime
  hq' : q'.Prime
  ep : p = 2 * p' + 1
  eq : q = 2 * q' + 1
  ne : p ≠ q

section
variable {p q p' q' : Nat}

namespace SafePair
variable (h : SafePair p q p' q')
include h

theorem ne' : p' ≠ q' := by rintro rfl; exact h.ne (h.ep.trans h.eq.symm)

theorem p_ne_two : p ≠ 2 := by have := h.hp'.two_le; have := h.ep; omega

theorem q_ne_two : q ≠ 2 := by have := h.hq'.two_le; have := h.eq; omega

theorem one_lt : 1 < p * q :=
  lt_of_lt_of_le h.hp.one_lt (Nat.le_mul_of_pos_right p h.hq.pos)

theorem finite_squares : Finite (squares (ZMod (p * q))ˣ) :=
  have : NeZero (p * q) := ⟨Nat.mul_ne_zero h.hp.ne_zero h.hq.ne_zero⟩
  inferInstance

end SafePair

noncomputable def crtUnits (hcop : Nat.Coprime p q) :
    (ZMod (p * q))ˣ ≃* (ZMod p)ˣ × (ZMod q)ˣ :=
  (Units.mapEquiv (ZMod.chineseRemainder hcop).toMulEquiv).trans MulEquiv.prodUnits

theorem card_squares_prime (hp : p.Prime) (ep : p = 2 * p' + 1) :
    Nat.card (squares (ZMod p)ˣ) = p' := by
  have := Fact.mk hp
  unfold squares
  rw [IsCyclic.card_powMonoidHom_range, Nat.card_eq_fintype_card, ZMod.card_units p, ep,
    Nat.add_sub_cancel, Nat.gcd_mul_right_left, Nat.mul_div_cancel_left _ two_pos]

theorem squares_prime_isCyclic (hp : p.Prime) : IsCyclic (squares (ZMod p)ˣ) := by
  have := Fact.mk hp
  infer_instance

/-- `QR_n` is cyclic of order `p'q'`. -/
theorem qr_cyclic (h : SafePair p q p' q') :
    IsCyclic (squares (ZMod (p * q))ˣ) ∧ Nat.card (squares (ZMod (p * q))ˣ) = p' * q' := by
  have hcop : Nat.Coprime p q := (Nat.coprime_primes h.hp h.hq).mpr h.ne
  have c1 := card_squares_prime h.hp h.ep
  have c2 := card_squares_prime h.hq h.eq
  -- CRT, then the squares of a product are the product of the squares
  let e : squares (ZMod (p * q))ˣ ≃* squares (ZMod p)ˣ × squares (ZMod q)ˣ :=
    (squaresCongr (crtUnits hcop)).trans
      ((MulEquiv.subgroupCongr (squares_prod _ _)).trans (Subgroup.prodEquiv _ _))
  have hcyc : IsCyclic (squares (ZMod p)ˣ × squares (ZMod q)ˣ) := by
    rw [Group.isCyclic_prod_iff, c1, c2]
    exact ⟨squares_prime_isCyclic h.hp, squares_prime_isCyclic h.hq,
      (Nat.coprime_primes h.hp' h.hq').mpr h.ne'⟩
  exact ⟨e.isCyclic.mpr hcyc, by rw [Nat.card_congr e.toEquiv, Nat.card_prod, c1, c2]⟩

/-- **Order criterion.** `S` a square unit modulo `n`; `x` a square unit with `x^d = 1` where `d`
    is the order of `S` as `qrOrder` computes it (`1` if `S = 1`, `p'` if `S^p' = 1`, `q'` if
    `S^q' = 1`, else `p'q'`). Then `x` is a power of `S`. -/
theorem order_criterion_units (h : SafePair p q p' q')
    (S x : (ZMod (p * q))ˣ) (hS : S ∈ squares (ZMod (p * q))ˣ) (hx : x ∈ squares (ZMod (p * q))ˣ)
    (hxd : x ^ ordOf p' q' S = 1) : ∃ k : Nat, x = S ^ k := by
  obtain ⟨hc, hcard⟩ := qr_cyclic h
  have := h.finite_squares
  -- in the cyclic group `QR_n` of order `p'q'`, `ordOf` is the order, and what it kills are the powers
  have hx' : (⟨x, hx⟩ : squares (ZMod (p * q))ˣ) ^ orderOf (⟨S, hS⟩ : squares (ZMod (p * q))ˣ) = 1 := by
    rw [orderOf_eq_ordOf h.hp' h.hq' hcard, ← ordOf_coe]
    exact Subtype.ext hxd
  obtain ⟨k, hk⟩ := (mem_powers_iff_mem_zpowers).mpr (mem_zpowers_of_pow_orderOf_eq_one _ _ hx')
  exact ⟨k, (congrArg Subtype.val hk).symm⟩

/-- the generator case: a square `S` with `S^p' ≠ 1` and `S^q' ≠ 1` generates all of `QR_n`. -/
theorem generator_criterion_units (h : SafePair p q p' q')
    (S : (ZMod (p * q))ˣ) (hS : S ∈ squares (ZMod (p * q))ˣ) (h1 : S ^ p' ≠ 1) (h2 : S ^ q' ≠ 1) :
    orderOf S = p' * q' ∧ ∀ x ∈ squares (ZMod (p * q))ˣ, ∃ k : Nat, x = S ^ k := by
  obtain ⟨-, hcard⟩ := qr_cyclic h
  have := h.finite_squares
  have hS1 : S ≠ 1 := by rintro rfl; exact h1 (one_pow _)
  have ho : ordOf p' q' S = p' * q' := by
    unfold ordOf; rw [if_neg hS1, if_neg h1, if_neg h2]
  refine ⟨?_, fun x hx => order_criterion_units h S x hS hx ?_⟩
  · rw [← Subgroup.orderOf_mk S hS, orderOf_eq_ordOf h.hp' h.hq' hcard,
      ← ordOf_coe _ p' q' ⟨S, hS⟩, ho]
  · rw [ho, ← hcard]
    exact congrArg Subtype.val (pow_card_eq_one' (G := squares (ZMod (p * q))ˣ) (x := ⟨x, hx⟩))

end

/-! ## bridge to the executable predicate `KeyGen.inSubgroup` -/

open KeyGen

theorem unitOfCoprime_mem_squares {n x : Nat} (hc : Nat.Coprime x n)
    (hsq : IsSquare ((x : Int) : ZMod n)) : ZMod.unitOfCoprime x hc ∈ squares (ZMod n)ˣ := by
  obtain ⟨y, hy⟩ := hsq
  have hy' : (x : ZMod n) = y * y := by simpa using hy
  have hu : IsUnit (y * y) := by
    rw [← hy', ← ZMod.coe_unitOfCoprime x hc]; exact Units.isUnit _
  obtain ⟨u, rfl⟩ := isUnit_of_mul_isUnit_left hu
  refine mem_squares.mpr ⟨u, Units.ext ?_⟩
  rw [Units.val_pow_eq_pow_val, ZMod.coe_unitOfCoprime, hy', sq]

theorem unitOfCoprime_pow_eq_one_iff {n : Nat} (hn : 1 < n) (s e : Nat) (hc : Nat.Coprime s n) :
    ZMod.unitOfCoprime s hc ^ e = 1 ↔ powMod s e n = 1 := by
  rw [powMod_eq_one_iff s e hn, Units.ext_iff, Units.val_pow_eq_pow_val, ZMod.coe_unitOfCoprime,
    Units.val_one]

theorem unitOfCoprime_eq_one_iff {n : Nat} (s : Nat) (hc : Nat.Coprime s n) :
    ZMod.unitOfCoprime s hc = 1 ↔ s % n = 1 % n := by
  rw [Units.ext_iff, ZMod.coe_unitOfCoprime, Units.val_one, ← Nat.cast_one (R := ZMod n),
    ZMod.natCast_eq_natCast_iff']

theorem qrOrder_eq_ordOf {n : Nat} (hn : 1 < n) (pP qP s : Nat) (hc : Nat.Coprime s n) :
    qrOrder n pP qP s = ordOf pP qP (ZMod.unitOfCoprime s hc) := by
  classical
  unfold qrOrder ordOf
  simp only [unitOfCoprime_eq_one_iff, unitOfCoprime_pow_eq_one_iff hn]

theorem SafePair.isQR_unit {p q pP qP x : Nat} (h : SafePair p q pP qP) (hx : isQR p q x = true) :
    ∃ c : Nat.Coprime x (p * q), ZMod.unitOfCoprime x c ∈ squares (ZMod (p * q))ˣ ∧ x < p * q :=
  have := Fact.mk h.hp
  have := Fact.mk h.hq
  have ⟨sX, cX, _, hlt⟩ := isQR_sound p q x h.p_ne_two h.q_ne_two h.ne hx
  ⟨cX, unitOfCoprime_mem_squares cX sX, hlt⟩

/-- `s` and `x` pass `isQR`, so they are square units modulo `p·q`; what is shown of these units
    in the form `x = s^k` holds of the representatives as `x = s^k mod p·q`. -/
theorem SafePair.exists_powMod_of_units {p q pP qP s x : Nat} (h : SafePair p q pP qP)
    (hs : isQR p q s = true) (hx : isQR p q x = true)
    (hu : ∀ cS cX, ZMod.unitOfCoprime s cS ∈ squares (ZMod (p * q))ˣ →
      ZMod.unitOfCoprime x cX ∈ squares (ZMod (p * q))ˣ →
      ∃ k : Nat, ZMod.unitOfCoprime x cX = ZMod.unitOfCoprime s cS ^ k) :
    ∃ k : Nat, x = powMod s k (p * q) := by
  obtain ⟨cS, hS, -⟩ := h.isQR_unit hs
  obtain ⟨cX, hX, hxlt⟩ := h.isQR_unit hx
  obtain ⟨k, hk⟩ := hu cS cX hS hX
  have hv := congrArg Units.val hk
  rw [Units.val_pow_eq_pow_val, ZMod.coe_unitOfCoprime, ZMod.coe_unitOfCoprime,
    ← cast_powMod, ZMod.natCast_eq_natCast_iff', Nat.mod_eq_of_lt hxlt,
    Nat.mod_eq_of_lt (powMod_lt s k (by have := h.one_lt; omega))] at hv
  exact ⟨k, hv⟩

/-- **Soundness of the executable order criterion.** `p = 2p'+1`, `q = 2q'+1`, all four prime,
    `p ≠ q`; `s` passes `isQR`; `x` passes `inSubgroup … s`. Then `x = s^k mod p·q` for some `k`. -/
theorem inSubgroup_sound {p q pP qP s x : Nat} (h : SafePair p q pP qP)
    (hs : isQR p q s = true) (hx : inSubgroup p q pP qP s x = true) :
    ∃ k : Nat, x = powMod s k (p * q) := by
  rw [inSubgroup, Bool.and_eq_true, beq_iff_eq, Nat.mod_eq_of_lt h.one_lt] at hx
  refine h.exists_powMod_of_units hs hx.1 fun cS cX hS hX => order_criterion_units h _ _ hS hX ?_
  rw [← qrOrder_eq_ordOf h.one_lt pP qP s cS, unitOfCoprime_pow_eq_one_iff h.one_lt]
  exact hx.2

/-- a prime passing `safePrimeOk` is `2p'+1` for its recorded half `p'`. -/
theorem eq_two_mul_half_add_one {p p' : Nat} (hp : p.Prime) (h2 : safePrimeOk p = true)
    (h : p' = (p - 1) / 2) : p = 2 * p' + 1 := by
  have := two_lt_of_safePrimeOk h2
  rcases hp.eq_two_or_odd with e | e <;> omega

/-- what `wellFormed` gives for the subgroup checks: with `p, q, p', q'` prime, `Z` and every `R_i`
    are `S^k mod n`. -/
theorem wellFormed_bases (d : KeyPairData) (h : wellFormed d = true) (hp : d.p.Prime)
    (hq : d.q.Prime) (hp' : d.pPrime.Prime) (hq' : d.qPrime.Prime) :
    (∃ k : Nat, d.z = powMod d.s k d.n) ∧ ∀ b ∈ d.r, ∃ k : Nat, b = powMod d.s k d.n := by
  have k := WellFormedKey.of_wellFormed h
  have hs : SafePair d.p d.q d.pPrime d.qPrime := ⟨hp, hq, hp', hq',
    eq_two_mul_half_add_one hp k.p_safeprime k.primes_halves.1,
    eq_two_mul_half_add_one hq k.q_safeprime k.primes_halves.2, k.distinct⟩
  rw [k.modulus.1]
  exact ⟨inSubgroup_sound hs k.S_qr k.Z_subgroup,
    fun b hb => inSubgroup_sound hs k.S_qr (k.R_subgroup b hb)⟩

/-! ## a toy key on which `wellFormed` holds (non-vacuity): p = 47, q = 59, p' = 23, q' = 29 -/

namespace Toy

theorem p256_inv_one : P256.inv 1 = 1 := by
  unfold P256.inv
  cases h : goModInverse ((1 : Nat) : Int) ((P256.p : Nat) : Int) with
  | none =>
    rw [goModInverse_none_iff _ _ (by decide), Nat.cast_one, Int.one_gcd] at h
    exact absurd rfl h
  | some i =>
    -- the inverse `i` of `1` is reduced and `1 · i ≡ 1`, so it is `1`
    obtain ⟨h0, h1, h2⟩ := goModInverse_some h
    rw [Int.natAbs_natCast] at h1 h2
    rw [Nat.cast_one, one_mul, Int.emod_eq_of_lt h0 h1] at h2
    subst h2
    rfl

theorem p256_mul_one_g : P256.mul 1 P256.gx P256.gy = some (P256.gx, P256.gy) := by
  unfold P256.mul
  have hacc : ((List.range (natBitLen 1)).reverse.foldl
    (fun (acc : P256.J) i => let d := P256.double acc
      if Nat.testBit 1 i then P256.addAffine d P256.gx P256.gy else d) P256.J.inf)
      = ⟨P256.gx, P256.gy, 1⟩ := by rfl
  simp only [hacc, one_ne_zero, ↓reduceIte, Int.toNat_natCast, Int.toNat_one, p256_inv_one, mul_one,
    Nat.mul_mod_mod, dvd_refl, Nat.mod_mod_of_dvd, Option.some.injEq, Prod.mk.injEq]
  -- left: both coordinates of `G` are reduced modulo the field prime
  decide

def base : Gen.BaseParams := { LePrime := 120, Lh := 256, Lm := 256, Ln := 12, Lstatzk := 80 }

/-- `n = 47·59 = 2773` (12 bits), `S = 4` (order 667 = 23·29), `Z = 4^5`, `R = [4^3, 4^7 mod n]`,
    `G = 9`, `H = 25`, revocation key `d = 1`, `Q = G`. -/
def key : KeyPairData :=
  { ln := 12, nattr := 2, base := base, params := SysParams.ofBase base,
    p := 47, q := 59, pPrime := 23, qPrime := 29, skN := 2773, order := 667, n := 2773,
    s := 4, z := 1024, g := 9, h := 25, r := [64, 2519],
    ecD := 1, ecX := P256.gx, ecY := P256.gy, leaked := 0 }

theorem isQR_toy (x : Nat) (h0 : 0 < x := by norm_num) (hlt : x < 47 * 59 := by norm_num)
    (h1 : jacobiSym (x : Int) 47 = 1 := by norm_num) (h2 : jacobiSym (x : Int) 59 = 1 := by norm_num) :
    isQR 47 59 x = true :=
  isQR_of_jacobiSym rfl rfl h0 hlt h1 h2

theorem isQR_4 : isQR 47 59 4 = true :=
  isQR_toy 4

/-- `S = 4` has full order: `4^23 ≢ 1`, `4^29 ≢ 1`. -/
theorem qrOrder_toy : qrOrder (47 * 59) 23 29 4 = 667 := by
  simp only [qrOrder, powMod_eq]; decide

/-- the exponent `667 = 23·29` is taken in two steps, each small enough to be evaluated. -/
theorem inSubgroup_toy (x : Nat) (hx : isQR 47 59 x = true) (h : (x ^ 23 % 2773) ^ 29 % 2773 = 1) :
    inSubgroup 47 59 23 29 4 x = true := by
  simp only [inSubgroup, Bool.and_eq_true, beq_iff_eq, hx, qrOrder_toy, powMod_eq, true_and]
  rw [show 667 = 23 * 29 from rfl, pow_mul, Nat.pow_mod, h]

theorem inSubgroup_1024 : inSubgroup 47 59 23 29 4 1024 = true :=
  inSubgroup_toy 1024 (isQR_toy _) (by decide)

theorem key_wellFormed : wellFormed key = true := by
  have q4 := isQR_4
  have q1024 : isQR 47 59 1024 = true := isQR_toy _
  have q64 : isQR 47 59 64 = true := isQR_toy _
  have q2519 : isQR 47 59 2519 = true := isQR_toy _
  have q9 : isQR 47 59 9 = true := isQR_toy _
  have q25 : isQR 47 59 25 = true := isQR_toy _
  have s1 := inSubgroup_1024
  have s2 := inSubgroup_toy 64 q64 (by decide)
  have s3 := inSubgroup_toy 2519 q2519 (by decide)
  have km : P256.keyMatches 1 P256.gx P256.gy = true := by
    simp only [P256.keyMatches, p256_mul_one_g, Bool.and_eq_true, beq_self_eq_true, and_true]
    decide
  rw [wellFormed_iff]
  simp only [checks, key, List.forall_mem_cons, List.not_mem_nil, false_imp_iff, implies_true,
    and_true, List.all_cons, List.all_nil, Bool.and_true, q4, q1024, q64, q2519, q9, q25, s1, s2,
    s3, km]
  decide

end Toy

end Gabi.QrCyclic
