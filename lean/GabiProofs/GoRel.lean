/-
  GabiProofs.GoRel — two computations that end alike: `GoM.Rel R x y` (the same panic, or
  `R`-related values) and `GoE.Rel R x y` (the same panic, both the error return, or `R`-related
  values), with `OptRel`/`StepRel` for the option and the loop step in between. Statements of this
  kind are built up along two programs with `pure`, `bind`, `swap` and `forIn_rel`, and read off with
  `GoE.Rel.iff_cases`.
-/
import GabiProofs.GoMonad

namespace Gabi

def GoE.Rel {α β} (R : α → β → Prop) (x : GoE α) (y : GoE β) : Prop :=
  match x.run, y.run with
  | .error e, .error e' => e = e'
  | .ok none, .ok none => True
  | .ok (some a), .ok (some b) => R a b
  | _, _ => False

def GoM.Rel {α β} (R : α → β → Prop) (x : GoM α) (y : GoM β) : Prop :=
  match x, y with
  | .error e, .error e' => e = e'
  | .ok a, .ok b => R a b
  | _, _ => False

theorem GoM.Rel.pure {α β} {R : α → β → Prop} {a : α} {b : β} (h : R a b) :
    GoM.Rel R (Pure.pure a) (Pure.pure b) := h

theorem GoM.Rel.eq {α} {x y : GoM α} (h : GoM.Rel Eq x y) : x = y := by
  cases x with
  | error e => cases y with
    | error e' => exact congrArg _ h
    | ok b => exact absurd h id
  | ok a => cases y with
    | error e' => exact absurd h id
    | ok b => exact congrArg _ h

theorem GoM.Rel.refl {α} {R : α → α → Prop} (hR : ∀ a, R a a) (x : GoM α) : GoM.Rel R x x := by
  cases x with
  | error e => exact rfl
  | ok a => exact hR a

theorem GoM.Rel.bind {α β γ δ} {Q : α → β → Prop} {R : γ → δ → Prop} {x : GoM α} {y : GoM β}
    {f : α → GoM γ} {g : β → GoM δ} (hxy : GoM.Rel Q x y)
    (hfg : ∀ a b, Q a b → GoM.Rel R (f a) (g b)) : GoM.Rel R (x >>= f) (y >>= g) := by
  cases x with
  | error e => cases y with
    | error e' => exact hxy
    | ok b => exact absurd hxy id
  | ok a => cases y with
    | error e' => exact absurd hxy id
    | ok b => exact hfg a b hxy

def OptRel {α β} (R : α → β → Prop) : Option α → Option β → Prop
  | none, none => True
  | some a, some b => R a b
  | _, _ => False

theorem OptRel.cases {α β} {R : α → β → Prop} {x : Option α} {y : Option β} (h : OptRel R x y) :
    (x = none ∧ y = none) ∨ ∃ a b, x = some a ∧ y = some b ∧ R a b := by
  cases x with
  | none => cases y with
    | none => exact Or.inl ⟨rfl, rfl⟩
    | some b => exact absurd h id
  | some a => cases y with
    | none => exact absurd h id
    | some b => exact Or.inr ⟨a, b, rfl, rfl, h⟩

theorem GoE.Rel.iff_run {α β} {R : α → β → Prop} {x : GoE α} {y : GoE β} :
    GoE.Rel R x y ↔ GoM.Rel (OptRel R) x.run y.run := by
  unfold GoE.Rel GoM.Rel
  generalize x.run = a
  generalize y.run = b
  rcases a with e | _ | a <;> rcases b with e' | _ | b <;> exact Iff.rfl

theorem GoE.Rel.run {α β} {R : α → β → Prop} {x : GoE α} {y : GoE β} (h : GoE.Rel R x y) :
    GoM.Rel (OptRel R) x.run y.run := GoE.Rel.iff_run.mp h

/-- the three ways in which related computations end. -/
theorem GoE.Rel.iff_cases {α β} {R : α → β → Prop} {x : GoE α} {y : GoE β} :
    GoE.Rel R x y ↔ (∃ e, x.run = .error e ∧ y.run = .error e) ∨ (x.run = .ok none ∧ y.run = .ok none) ∨
      ∃ a b, x.run = .ok (some a) ∧ y.run = .ok (some b) ∧ R a b := by
  unfold GoE.Rel
  generalize x.run = a
  generalize y.run = b
  constructor
  · intro h
    -- in the six mixed cases `h` is `False`
    rcases a with e | _ | a <;> rcases b with e' | _ | b <;> try exact absurd h id
    · exact .inl ⟨e, rfl, congrArg _ h.symm⟩
    · exact .inr (.inl ⟨rfl, rfl⟩)
    · exact .inr (.inr ⟨a, b, rfl, rfl, h⟩)
  · rintro (⟨e, rfl, rfl⟩ | ⟨rfl, rfl⟩ | ⟨a, b, rfl, rfl, h⟩)
    · rfl
    · trivial
    · exact h

theorem GoE.Rel.pure {α β} {R : α → β → Prop} {a : α} {b : β} (h : R a b) :
    GoE.Rel R (pure a) (pure b) := h

theorem GoE.Rel.failure {α β} {R : α → β → Prop} : GoE.Rel R (Alternative.failure : GoE α) (Alternative.failure : GoE β) :=
  trivial

theorem GoE.Rel.failure_bind {α α' β β'} {R : β → β' → Prop} (f : α → GoE β) (g : α' → GoE β') :
    GoE.Rel R ((Alternative.failure : GoE α) >>= f) ((Alternative.failure : GoE α') >>= g) := trivial

theorem GoE.Rel.refl {α} {R : α → α → Prop} (hR : ∀ a, R a a) (x : GoE α) : GoE.Rel R x x :=
  GoE.Rel.iff_run.mpr (GoM.Rel.refl (fun oa => by cases oa with | none => trivial | some a => exact hR a) _)

theorem GoE.Rel.mono {α β} {R R' : α → β → Prop} {x : GoE α} {y : GoE β} (h : GoE.Rel R x y)
    (hRR : ∀ a b, R a b → R' a b) : GoE.Rel R' x y := by
  rw [GoE.Rel.iff_cases] at h ⊢
  exact h.imp_right (Or.imp_right fun ⟨a, b, hx, hy, hab⟩ => ⟨a, b, hx, hy, hRR a b hab⟩)

theorem GoE.Rel.and_left {α β} {R : α → β → Prop} {P : α → Prop} {x : GoE α} {y : GoE β}
    (h : GoE.Rel R x y) (hP : ∀ a, x.run = .ok (some a) → P a) : GoE.Rel (fun a b => R a b ∧ P a) x y := by
  rw [GoE.Rel.iff_cases] at h ⊢
  exact h.imp_right (Or.imp_right fun ⟨a, b, hx, hy, hab⟩ => ⟨a, b, hx, hy, hab, hP a hx⟩)

theorem GoE.Rel.trans {α β γ} {R : α → β → Prop} {S : β → γ → Prop} {T : α → γ → Prop}
    {x : GoE α} {y : GoE β} {z : GoE γ} (h1 : GoE.Rel R x y) (h2 : GoE.Rel S y z)
    (hT : ∀ a b c, R a b → S b c → T a c) : GoE.Rel T x z := by
  rw [GoE.Rel.iff_cases] at h1 h2 ⊢
  -- `y` ends in one way only, which leaves three of the nine combinations
  rcases h1 with ⟨e, hx, hy⟩ | ⟨hx, hy⟩ | ⟨a, b, hx, hy, hab⟩ <;>
    rcases h2 with ⟨e', hy', hz⟩ | ⟨hy', hz⟩ | ⟨b', c, hy', hz, hbc⟩ <;> cases hy.symm.trans hy'
  · exact .inl ⟨e, hx, hz⟩
  · exact .inr (.inl ⟨hx, hz⟩)
  · exact .inr (.inr ⟨a, c, hx, hz, hT a b c hab hbc⟩)

theorem GoE.Rel.bind {α β γ δ} {Q : α → β → Prop} {R : γ → δ → Prop} {x : GoE α} {y : GoE β}
    {f : α → GoE γ} {g : β → GoE δ} (hxy : GoE.Rel Q x y)
    (hfg : ∀ a b, Q a b → GoE.Rel R (f a) (g b)) : GoE.Rel R (x >>= f) (y >>= g) := by
  rw [GoE.Rel.iff_run, OptionT.run_bind, OptionT.run_bind]
  refine GoM.Rel.bind hxy.run ?_
  rintro (_ | a) (_ | b) hab
  · exact trivial
  · exact absurd hab id
  · exact absurd hab id
  · exact (hfg a b hab).run

theorem GoE.Rel.bind_same {α γ δ} {R : γ → δ → Prop} (x : GoE α)
    {f : α → GoE γ} {g : α → GoE δ} (hfg : ∀ a, GoE.Rel R (f a) (g a)) :
    GoE.Rel R (x >>= f) (x >>= g) :=
  GoE.Rel.bind (GoE.Rel.refl (R := Eq) (fun _ => rfl) x) (fun a _ hab => hab ▸ hfg a)

/-- two computations can be exchanged when neither can pre-empt the other by a panic. -/
theorem GoE.Rel.swap {α β γ δ} {R : γ → δ → Prop} {x : GoE α} {y : GoE β} (hx : GoE.IsOk x)
    (hy : GoE.IsOk y) {f : α → β → GoE γ} {g : β → α → GoE δ} (hfg : ∀ a b, GoE.Rel R (f a b) (g b a)) :
    GoE.Rel R (x >>= fun a => y >>= fun b => f a b) (y >>= fun b => x >>= fun a => g b a) := by
  obtain ⟨oa, hoa⟩ := hx
  obtain ⟨ob, hob⟩ := hy
  unfold GoE.Rel
  rw [GoE.run_bind_ok hoa, GoE.run_bind_ok hob]
  cases oa with
  | none => cases ob with
    | none => exact trivial
    | some b => simp only [Option.elim, GoE.run_bind_ok hoa]
  | some a => cases ob with
    | none => simp only [Option.elim, GoE.run_bind_ok hob]
    | some b =>
      simp only [Option.elim, GoE.run_bind_ok hoa, GoE.run_bind_ok hob]
      exact hfg a b

def StepRel {σ σ'} (R : σ → σ' → Prop) : ForInStep σ → ForInStep σ' → Prop
  | .yield a, .yield b => R a b
  | .done a, .done b => R a b
  | _, _ => False

theorem StepRel.refl {σ} {R : σ → σ → Prop} (hR : ∀ a, R a a) (st : ForInStep σ) : StepRel R st st := by
  cases st <;> exact hR _

/-- a loop respects any lifting `L` of relations to two monads that respects `pure` and `bind`. -/
theorem forIn_rel {m m' : Type → Type} [Monad m] [Monad m']
    (L : ∀ {α β : Type}, (α → β → Prop) → m α → m' β → Prop)
    (hpure : ∀ {α β : Type} {R : α → β → Prop} {a : α} {b : β}, R a b → L R (pure a) (pure b))
    (hbind : ∀ {α β γ δ : Type} {Q : α → β → Prop} {R : γ → δ → Prop} {x : m α} {y : m' β} {f : α → m γ}
      {g : β → m' δ}, L Q x y → (∀ a b, Q a b → L R (f a) (g b)) → L R (x >>= f) (y >>= g))
    {α α'} {σ σ' : Type} {Q : α → α' → Prop} {R : σ → σ' → Prop} {l : List α} {l' : List α'}
    (hl : List.Forall₂ Q l l') {f : α → σ → m (ForInStep σ)} {f' : α' → σ' → m' (ForInStep σ')}
    (hf : ∀ a a', Q a a' → ∀ s s', R s s' → L (StepRel R) (f a s) (f' a' s'))
    {init : σ} {init' : σ'} (hinit : R init init') : L R (forIn l init f) (forIn l' init' f') := by
  induction hl generalizing init init' with
  | nil => rw [List.forIn_nil, List.forIn_nil]; exact hpure hinit
  | @cons a a' l l' haa' _ ih =>
    rw [List.forIn_cons, List.forIn_cons]
    apply hbind (hf a a' haa' init init' hinit)
    intro st st' hst
    cases st with
    | done s => cases st' with
      | done s' => exact hpure hst
      | yield s' => exact absurd hst id
    | yield s => cases st' with
      | done s' => exact absurd hst id
      | yield s' => exact ih hst

end Gabi
