/-
  GabiProofs.ConcLists — list facts shared by the proofs about the concurrency models: looking up
  a position in a list that grew at its end, and sums of `Nat`-valued maps when one position is
  looked up or overwritten. States of those models are lists of calls / operations / events
  addressed by position, and their invariants count owners by such sums.
-/
namespace Gabi.Conc

variable {α : Type}

theorem lt_length_of_getElem? {l : List α} {i : Nat} {y : α} (h : l[i]? = some y) : i < l.length :=
  (List.getElem?_eq_some_iff.mp h).1

theorem getElem?_append_of_getElem? {l : List α} {i : Nat} {y : α} (h : l[i]? = some y)
    (r : List α) : (l ++ r)[i]? = some y := by
  rw [List.getElem?_append_left (lt_length_of_getElem? h)]; exact h

theorem getElem?_snoc_cases {l : List α} {x y : α} {i : Nat} (h : (l ++ [x])[i]? = some y) :
    (l[i]? = some y ∧ i < l.length) ∨ (i = l.length ∧ y = x) := by
  rw [List.getElem?_append, List.getElem?_singleton] at h
  split at h
  · next hi => exact .inl ⟨h, hi⟩
  · split at h
    · exact .inr ⟨by omega, (Option.some.inj h).symm⟩
    · cases h

/-- overwriting position `i` moves the sum by what the old and the new element contribute. -/
theorem sum_map_set (f : α → Nat) {l : List α} {i : Nat} {a : α} (a' : α) (h : l[i]? = some a) :
    ((l.set i a').map f).sum + f a = (l.map f).sum + f a' := by
  induction l generalizing i with
  | nil => cases h
  | cons b t ih =>
    cases i with
    | zero => cases h; simp only [List.set_cons_zero, List.map_cons, List.sum_cons]; omega
    | succ n => have := ih h; simp only [List.set_cons_succ, List.map_cons, List.sum_cons]; omega

theorem le_sum_map (f : α → Nat) {l : List α} {i : Nat} {a : α} (h : l[i]? = some a) :
    f a ≤ (l.map f).sum := by
  induction l generalizing i with
  | nil => cases h
  | cons b t ih =>
    rw [List.map_cons, List.sum_cons]
    cases i with
    | zero => cases h; omega
    | succ n => have := ih h; omega

end Gabi.Conc
