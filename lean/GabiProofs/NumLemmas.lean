/-
  GabiProofs.NumLemmas — what the arithmetic primitives of GabiModel.Num compute: `powMod`, `xgcd`,
  the two modular inverses (`big.Int.ModInverse`, `common.ModInverse`), `goExp` (`big.Int.Exp`),
  bit length, big-endian bytes, and the int64 wrap of `big.Int.Int64`.
-/
import GabiModel.Num
import Mathlib.Tactic.Ring
import Mathlib.Tactic.Linarith
import Mathlib.Data.Nat.GCD.Basic
import Mathlib.Data.Int.GCD
import Mathlib.Data.Nat.Log
import Mathlib.Tactic.NormNum
import Mathlib.Tactic.SplitIfs
import Mathlib.Tactic.LinearCombination
import Mathlib.Data.Int.Basic

namespace Gabi

/-- the shape of every "fails exactly when" statement about the model's partial functions. -/
theorem ite_none_some_eq_none_iff {α} {c : Prop} [Decidable c] {x : α} :
    (if c then none else some x) = none ↔ c := by
  by_cases h : c
  · rw [if_pos h]; exact iff_of_true rfl h
  · rw [if_neg h]; exact iff_of_false nofun h

/-! ## powMod -/

theorem powMod_eq (b e n : Nat) : powMod b e n = b ^ e % n := by
  induction e using Nat.strongRecOn generalizing b with
  | _ e ih =>
    unfold powMod
    split
    · next h => rw [h, Nat.pow_zero]
    · -- `(b * b) ^ (e / 2) = b ^ (2 * (e / 2))`, and `e = 2 * (e / 2) + e % 2`
      rw [ih (e / 2) (by omega), ← Nat.pow_mod, ← Nat.pow_two, ← Nat.pow_mul]
      split
      · rw [← Nat.mul_mod, ← Nat.pow_succ', show (2 * (e / 2)).succ = e by omega]
      · rw [show 2 * (e / 2) = e by omega]

theorem powMod_lt (b e : Nat) {n : Nat} (hn : 0 < n) : powMod b e n < n := by
  rw [powMod_eq]; exact Nat.mod_lt _ hn

/-! ## xgcd -/

theorem xgcdAux_spec (a b : Int) (r0 : Nat) (s0 t0 : Int) (r1 : Nat) (s1 t1 : Int)
    (h0 : (r0 : Int) = a * s0 + b * t0) (h1 : (r1 : Int) = a * s1 + b * t1) :
    (xgcdAux r0 s0 t0 r1 s1 t1).1 = Nat.gcd r0 r1 ∧
    a * (xgcdAux r0 s0 t0 r1 s1 t1).2.1 + b * (xgcdAux r0 s0 t0 r1 s1 t1).2.2
      = ((xgcdAux r0 s0 t0 r1 s1 t1).1 : Int) := by
  induction r1 using Nat.strongRecOn generalizing r0 s0 t0 s1 t1 with
  | _ r1 ih =>
    unfold xgcdAux
    split
    · next h => subst h; simp [h0]
    · next h =>
      have hlt : r0 % r1 < r1 := Nat.mod_lt _ (Nat.pos_of_ne_zero h)
      have h2 : ((r0 % r1 : Nat) : Int)
          = a * (s0 - ((r0 / r1 : Nat) : Int) * s1) + b * (t0 - ((r0 / r1 : Nat) : Int) * t1) := by
        have hdm : (r0 : Int) = (r1 : Int) * ((r0 / r1 : Nat) : Int) + ((r0 % r1 : Nat) : Int) := by
          exact_mod_cast (Nat.div_add_mod r0 r1).symm
        linear_combination h0 - hdm - ((r0 / r1 : Nat) : Int) * h1
      have := ih (r0 % r1) hlt r1 s1 t1 (s0 - ((r0 / r1 : Nat) : Int) * s1)
        (t0 - ((r0 / r1 : Nat) : Int) * t1) h1 h2
      refine ⟨?_, this.2⟩
      rw [this.1, Nat.gcd_comm r0 r1, Nat.gcd_rec r1 r0, Nat.gcd_comm]

theorem xgcd_gcd (a b : Nat) : (xgcd a b).1 = Nat.gcd a b :=
  (xgcdAux_spec a b a 1 0 b 0 1 (by simp) (by simp)).1

theorem xgcd_bezout (a b : Nat) :
    (a : Int) * (xgcd a b).2.1 + (b : Int) * (xgcd a b).2.2 = ((xgcd a b).1 : Int) :=
  (xgcdAux_spec a b a 1 0 b 0 1 (by simp) (by simp)).2

/-! ## modular inverses -/

theorem goModInverse_def (g n : Int) : goModInverse g n =
    if n.natAbs = 0 then none else
    if (xgcd (g % (n.natAbs : Int)).toNat n.natAbs).1 ≠ 1 then none
    else some ((xgcd (g % (n.natAbs : Int)).toNat n.natAbs).2.1 % (n.natAbs : Int)) := by
  rfl

theorem toNat_emod_natCast (g : Int) {m : Nat} (hm : m ≠ 0) :
    ((g % (m : Int)).toNat : Int) = g % (m : Int) :=
  Int.toNat_of_nonneg (Int.emod_nonneg g (Int.natCast_ne_zero.mpr hm))

theorem goModInverse_some {g n inv : Int} (h : goModInverse g n = some inv) :
    0 ≤ inv ∧ inv < (n.natAbs : Int) ∧
      (g * inv) % (n.natAbs : Int) = 1 % (n.natAbs : Int) := by
  rw [goModInverse_def] at h
  split_ifs at h with hm hd
  obtain rfl := Option.some.inj h
  have hpos : (0 : Int) < n.natAbs := Int.natCast_pos.mpr (Nat.pos_of_ne_zero hm)
  refine ⟨Int.emod_nonneg _ hpos.ne', Int.emod_lt_of_pos _ hpos, ?_⟩
  have hb := xgcd_bezout (g % (n.natAbs : Int)).toNat n.natAbs
  rw [not_not.mp hd, toNat_emod_natCast g hm, Nat.cast_one] at hb
  generalize (n.natAbs : Int) = m at hb ⊢
  generalize (xgcd _ _).2.1 = x at hb ⊢
  generalize (xgcd _ _).2.2 = y at hb
  rw [Int.mul_emod, Int.emod_emod, ← Int.mul_emod]
  -- `g * x ≡ (g % m) * x = 1 - m * y`
  have : g * x = 1 + m * (g / m * x - y) := by
    linear_combination hb + x * (Int.mul_ediv_add_emod g m).symm
  rw [this, Int.add_mul_emod_self_left]

theorem goModInverse_none_iff (g n : Int) (hn : n ≠ 0) :
    goModInverse g n = none ↔ Int.gcd g n ≠ 1 := by
  have hm : n.natAbs ≠ 0 := Int.natAbs_ne_zero.mpr hn
  rw [goModInverse_def, if_neg hm, xgcd_gcd, ← Int.gcd_natCast_natCast, toNat_emod_natCast g hm,
    Int.gcd_emod]
  have : Int.gcd g (n.natAbs : Int) = Int.gcd g n := by
    rw [Int.gcd_def, Int.gcd_def, Int.natAbs_natCast]
  rw [this, ite_none_some_eq_none_iff]

/-- `common.ModInverse` is `big.Int.ModInverse` with a zero result turned into `|n|`. -/
theorem commonModInverse_eq_map (a n : Int) : commonModInverse a n =
    (goModInverse a n).map fun r => if r < 1 then r + (n.natAbs : Int) else r := by
  unfold commonModInverse goModInverse
  dsimp only
  split
  · rfl
  · split <;> rfl

theorem commonModInverse_some {a n r : Int} (hn : 1 < n)
    (h : commonModInverse a n = some r) : 1 ≤ r ∧ r < n ∧ (a * r) % n = 1 := by
  rw [commonModInverse_eq_map, Option.map_eq_some_iff] at h
  obtain ⟨z, hz, rfl⟩ := h
  obtain ⟨h0, h1, h2⟩ := goModInverse_some hz
  rw [Int.natAbs_of_nonneg (by omega)] at h1 h2
  rw [Int.emod_eq_of_lt zero_le_one hn] at h2
  -- `z = 0` is excluded by `a * z ≡ 1`
  have hz0 : z ≠ 0 := by rintro rfl; simp at h2
  rw [if_neg (by omega)]
  exact ⟨by omega, h1, h2⟩

theorem commonModInverse_none_iff (a n : Int) (hn : 0 < n) :
    commonModInverse a n = none ↔ Int.gcd a n ≠ 1 := by
  rw [commonModInverse_eq_map, Option.map_eq_none_iff, goModInverse_none_iff a n hn.ne']

/-! ## goExp -/

theorem int_emod_pow_emod (x m : Int) (e : Nat) : (x % m) ^ e % m = x ^ e % m := by
  induction e with
  | zero => simp
  | succ k ih =>
    rw [pow_succ, pow_succ, Int.mul_emod, ih, Int.emod_emod, ← Int.mul_emod]

theorem mul_emod_mul_emod_comm (n a x y : Int) : a * x % n * y % n = a * y % n * x % n := by
  have h1 : a * x % n * y % n = a * x * y % n := by
    rw [Int.mul_emod (a * x % n), Int.emod_emod, ← Int.mul_emod]
  have h2 : a * y % n * x % n = a * y * x % n := by
    rw [Int.mul_emod (a * y % n), Int.emod_emod, ← Int.mul_emod]
  rw [h1, h2, mul_right_comm]

theorem powMod_cast (a : Int) (e : Nat) (m : Nat) (ha : 0 ≤ a) :
    ((powMod a.toNat e m : Nat) : Int) = a ^ e % (m : Int) := by
  rw [powMod_eq]
  push_cast
  rw [Int.toNat_of_nonneg ha]

/-- `goExp` for a positive modulus, in terms of `^` and `%` on integers. -/
theorem goExp_of_pos (x y m : Int) (hm : 0 < m) : goExp x y m =
    if y < 0 then (goModInverse x m).map (fun inv => inv ^ (-y).toNat % m)
    else some (x ^ y.toNat % m) := by
  have hnn : (m.natAbs : Int) = m := Int.natAbs_of_nonneg hm.le
  unfold goExp
  dsimp only
  rw [if_neg (by omega : ¬ m.natAbs = 0)]
  split
  · cases hinv : goModInverse x m with
    | none => rfl
    | some inv =>
      dsimp only
      rw [Option.map_some, powMod_cast _ _ _ (goModInverse_some hinv).1, hnn]
  · rw [powMod_cast _ _ _ (Int.emod_nonneg _ (hnn ▸ hm.ne')), hnn, int_emod_pow_emod]

theorem goExp_nonneg (x y m : Int) (hm : 0 < m) (hy : 0 ≤ y) :
    goExp x y m = some (x ^ y.toNat % m) := by
  rw [goExp_of_pos x y m hm, if_neg (not_lt.mpr hy)]

theorem goExp_neg (x y m : Int) (hm : 0 < m) (hy : y < 0) :
    goExp x y m = (goModInverse x m).map (fun inv => inv ^ (-y).toNat % m) := by
  rw [goExp_of_pos x y m hm, if_pos hy]

theorem goExp_range {x y m r : Int} (hm : 0 < m) (h : goExp x y m = some r) :
    0 ≤ r ∧ r < m := by
  have key : ∀ z : Int, 0 ≤ z % m ∧ z % m < m := fun z =>
    ⟨Int.emod_nonneg _ hm.ne', Int.emod_lt_of_pos _ hm⟩
  rw [goExp_of_pos x y m hm] at h
  split at h
  · obtain ⟨inv, -, rfl⟩ := Option.map_eq_some_iff.mp h
    exact key _
  · obtain rfl := Option.some.inj h
    exact key _

/-! ## bit length -/

/-- The characterisation from which the other bit-length facts follow (the analogue of `Nat.size_le`;
    the model is core-only and defines the bit length through `Nat.log2`). -/
theorem natBitLen_le_iff (n k : Nat) : natBitLen n ≤ k ↔ n < 2 ^ k := by
  unfold natBitLen
  split
  · next h => subst h; simp
  · next h => exact Nat.log2_lt h

theorem natBitLen_zero : natBitLen 0 = 0 := by simp [natBitLen]

theorem natBitLen_pos_iff (n : Nat) : 0 < natBitLen n ↔ n ≠ 0 := by
  have := natBitLen_le_iff n 0
  omega

theorem natBitLen_eq_zero_iff (n : Nat) : natBitLen n = 0 ↔ n = 0 := by
  have := natBitLen_pos_iff n
  omega

theorem lt_two_pow_natBitLen (n : Nat) : n < 2 ^ natBitLen n :=
  (natBitLen_le_iff n _).mp (Nat.le_refl _)

theorem two_pow_natBitLen_le (n : Nat) (h : n ≠ 0) : 2 ^ (natBitLen n - 1) ≤ n := by
  have hpos := (natBitLen_pos_iff n).mpr h
  have := (natBitLen_le_iff n (natBitLen n - 1)).not
  omega

theorem natBitLen_eq_succ_iff (n k : Nat) : natBitLen n = k + 1 ↔ 2 ^ k ≤ n ∧ n < 2 ^ (k + 1) := by
  have h1 := natBitLen_le_iff n k
  have h2 := natBitLen_le_iff n (k + 1)
  omega

theorem natBitLen_eq_iff (n k : Nat) (hk : 0 < k) : natBitLen n = k ↔ 2 ^ (k - 1) ≤ n ∧ n < 2 ^ k := by
  obtain ⟨j, rfl⟩ : ∃ j, k = j + 1 := ⟨k - 1, by omega⟩
  exact natBitLen_eq_succ_iff n j

theorem natBitLen_two_mul_add_one (b : Nat) : natBitLen (2 * b + 1) = natBitLen b + 1 := by
  have key : ∀ k, natBitLen (2 * b + 1) ≤ k + 1 ↔ natBitLen b ≤ k := by
    intro k
    rw [natBitLen_le_iff, natBitLen_le_iff, Nat.pow_succ]
    omega
  have h1 := key (natBitLen b)
  have h2 := key (natBitLen (2 * b + 1) - 1)
  have := (natBitLen_pos_iff (2 * b + 1)).mpr (Nat.succ_ne_zero _)
  omega

theorem bitLen_eq_natBitLen (x : Int) : bitLen x = natBitLen x.natAbs := rfl

/-! ## big-endian bytes -/

theorem ofBytesBE_foldl (acc : Nat) (bs : List UInt8) :
    bs.foldl (fun a b => a * 256 + b.toNat) acc = acc * 256 ^ bs.length + ofBytesBE bs := by
  unfold ofBytesBE
  induction bs generalizing acc with
  | nil => simp
  | cons x xs ih =>
    simp only [List.foldl_cons, List.length_cons]
    rw [ih (acc * 256 + x.toNat), ih (0 * 256 + x.toNat)]
    ring

theorem ofBytesBE_append (a b : List UInt8) :
    ofBytesBE (a ++ b) = ofBytesBE a * 256 ^ b.length + ofBytesBE b := by
  unfold ofBytesBE
  rw [List.foldl_append, ofBytesBE_foldl]
  rfl

theorem ofBytesBE_snoc (l : List UInt8) (b : UInt8) :
    ofBytesBE (l ++ [b]) = ofBytesBE l * 256 + b.toNat := by
  simp [ofBytesBE, List.foldl_append]

theorem ofBytesBE_nil : ofBytesBE [] = 0 := rfl

theorem ofBytesBE_cons (x : UInt8) (xs : List UInt8) :
    ofBytesBE (x :: xs) = x.toNat * 256 ^ xs.length + ofBytesBE xs := by
  rw [ofBytesBE, List.foldl_cons, ofBytesBE_foldl, Nat.zero_mul, Nat.zero_add]

theorem ofBytesBE_replicate_zero (k : Nat) : ofBytesBE (List.replicate k 0) = 0 := by
  induction k with
  | zero => rfl
  | succ k ih => rw [List.replicate_succ', ofBytesBE_snoc, ih]; rfl

theorem ofBytesBE_lt (bs : List UInt8) : ofBytesBE bs < 256 ^ bs.length := by
  induction bs with
  | nil => exact Nat.one_pos
  | cons x xs ih =>
    rw [ofBytesBE_cons, List.length_cons, Nat.pow_succ]
    have hx : x.toNat < 256 := x.toNat_lt
    calc x.toNat * 256 ^ xs.length + ofBytesBE xs
        < x.toNat * 256 ^ xs.length + 256 ^ xs.length := by omega
      _ = (x.toNat + 1) * 256 ^ xs.length := by ring
      _ ≤ 256 * 256 ^ xs.length := Nat.mul_le_mul_right _ hx
      _ = 256 ^ xs.length * 256 := Nat.mul_comm ..

/-- bits in the first byte plus whole bytes after it. -/
theorem two_pow_mul_256_pow (b k : Nat) : 2 ^ b * 256 ^ k = 2 ^ (b + 8 * k) := by
  rw [Nat.pow_add, Nat.pow_mul]

theorem ofBytesBE_cons_ge {x : UInt8} {c : Nat} (hx : c ≤ x.toNat) (t : List UInt8) :
    c * 256 ^ t.length ≤ ofBytesBE (x :: t) := by
  rw [ofBytesBE_cons]
  exact Nat.le_add_right_of_le (Nat.mul_le_mul_right _ hx)

theorem ofBytesBE_cons_lt {x : UInt8} {c : Nat} (hx : x.toNat < c) (t : List UInt8) :
    ofBytesBE (x :: t) < c * 256 ^ t.length := by
  have ht := ofBytesBE_lt t
  have hc := Nat.mul_le_mul_right (256 ^ t.length) (Nat.succ_le_of_lt hx)
  rw [Nat.succ_mul] at hc
  rw [ofBytesBE_cons]
  omega

theorem ofBytesBE_injective_of_length {a b : List UInt8} (hl : a.length = b.length)
    (h : ofBytesBE a = ofBytesBE b) : a = b := by
  induction a generalizing b with
  | nil => exact (List.eq_nil_of_length_eq_zero hl.symm).symm
  | cons x xs ih =>
    cases b with
    | nil => cases hl
    | cons y ys =>
      have hl' : xs.length = ys.length := Nat.succ.inj hl
      rw [ofBytesBE_cons, ofBytesBE_cons, hl'] at h
      have hA := ofBytesBE_lt xs
      have hB := ofBytesBE_lt ys
      rw [hl'] at hA
      have hP : 0 < 256 ^ ys.length := Nat.pow_pos (by norm_num)
      -- quotient and remainder by `256 ^ ys.length`
      have hq := congrArg (· / 256 ^ ys.length) h
      have hr := congrArg (· % 256 ^ ys.length) h
      simp only [Nat.mul_add_div hP, Nat.mul_comm _ (256 ^ ys.length), Nat.div_eq_of_lt hA,
        Nat.div_eq_of_lt hB, Nat.mul_add_mod, Nat.mod_eq_of_lt hA, Nat.mod_eq_of_lt hB,
        Nat.add_zero] at hq hr
      rw [UInt8.toNat_inj.mp hq, ih hl' hr]

theorem natBytesBEAux_acc (fuel n : Nat) (acc : List UInt8) :
    natBytesBEAux fuel n acc = natBytesBEAux fuel n [] ++ acc := by
  induction fuel generalizing n acc with
  | zero => simp [natBytesBEAux]
  | succ f ih =>
    unfold natBytesBEAux
    split
    · simp
    · rw [ih (n / 256) ((n % 256).toUInt8 :: acc), ih (n / 256) [(n % 256).toUInt8]]
      simp

theorem natBytesBEAux_zero (fuel : Nat) : natBytesBEAux fuel 0 [] = [] := by
  cases fuel <;> simp [natBytesBEAux]

theorem natBytesBEAux_succ (fuel n : Nat) (h : n ≠ 0) :
    natBytesBEAux (fuel + 1) n [] = natBytesBEAux fuel (n / 256) [] ++ [(n % 256).toUInt8] := by
  conv => lhs; unfold natBytesBEAux
  rw [if_neg h, natBytesBEAux_acc]

theorem toUInt8_toNat (n : Nat) : (n.toUInt8).toNat = n % 256 := rfl

/-- with enough fuel the loop writes the base-256 digits of `n`, most significant first: any `P` that
    holds of `(0, [])` and carries over from `(n / 256, l)` to `(n, l ++ [n % 256])` holds of the result. -/
theorem natBytesBEAux_rec {P : Nat → List UInt8 → Prop} (h0 : P 0 [])
    (hs : ∀ n l, n ≠ 0 → P (n / 256) l → P n (l ++ [(n % 256).toUInt8])) :
    ∀ fuel n, n < 256 ^ fuel → P n (natBytesBEAux fuel n [])
  | 0, n, h => by
    obtain rfl : n = 0 := Nat.lt_one_iff.mp h
    exact h0
  | f + 1, n, h => by
    by_cases hn : n = 0
    · rw [hn, natBytesBEAux_zero]; exact h0
    · rw [natBytesBEAux_succ f n hn]
      exact hs n _ hn (natBytesBEAux_rec h0 hs f _
        (Nat.div_lt_of_lt_mul (by rwa [Nat.pow_succ, Nat.mul_comm] at h)))

theorem ofBytesBE_natBytesBEAux (fuel n : Nat) (h : n < 256 ^ fuel) :
    ofBytesBE (natBytesBEAux fuel n []) = n :=
  natBytesBEAux_rec (P := fun n l => ofBytesBE l = n) rfl
    (fun n l _ ih => by rw [ofBytesBE_snoc, ih, toUInt8_toNat, Nat.mod_mod, Nat.div_add_mod']) fuel n h

theorem natBitLen_div_256 (n : Nat) : natBitLen (n / 256) = natBitLen n - 8 := by
  have key : ∀ k, natBitLen (n / 256) ≤ k ↔ natBitLen n ≤ k + 8 := by
    intro k
    rw [natBitLen_le_iff, natBitLen_le_iff, Nat.pow_add,
      Nat.div_lt_iff_lt_mul (by norm_num : 0 < 256)]
  have h1 := key (natBitLen (n / 256))
  have h2 := key (natBitLen n - 8)
  omega

theorem natBytesBE_fuel (n : Nat) : n < 256 ^ (natBitLen n / 8 + 1) := by
  have h : natBitLen n ≤ 8 * (natBitLen n / 8 + 1) := by omega
  have := (natBitLen_le_iff n _).mp h
  rwa [Nat.pow_mul] at this

theorem natBytesBEAux_length (fuel n : Nat) (h : n < 256 ^ fuel) :
    (natBytesBEAux fuel n []).length = (natBitLen n + 7) / 8 :=
  natBytesBEAux_rec (P := fun n l => l.length = (natBitLen n + 7) / 8) (by rw [natBitLen_zero]; rfl)
    (fun n l hn ih => by
      have := (natBitLen_pos_iff n).mpr hn
      rw [List.length_append, ih, natBitLen_div_256, List.length_singleton]
      omega) fuel n h

/-- the first byte, if any, is not 0 (and there is one exactly when `n ≠ 0`). -/
theorem natBytesBEAux_head (fuel n : Nat) (h : n < 256 ^ fuel) :
    (natBytesBEAux fuel n []).head? ≠ some 0 ∧ (natBytesBEAux fuel n [] = [] ↔ n = 0) :=
  natBytesBEAux_rec (P := fun n l => l.head? ≠ some 0 ∧ (l = [] ↔ n = 0))
    ⟨nofun, iff_of_true rfl rfl⟩
    (fun n l hn ⟨ih, hl⟩ => ⟨by
      cases l with
      | nil =>
        -- `n / 256 = 0`, so the byte is `n` itself
        have hq := hl.mp rfl
        intro hc
        have := congrArg UInt8.toNat (Option.some.inj hc)
        rw [toUInt8_toNat, Nat.mod_mod] at this
        change n % 256 = 0 at this
        omega
      | cons b t => exact ih, iff_of_false (List.append_ne_nil_of_right_ne_nil _ (List.cons_ne_nil _ _)) hn⟩)
    fuel n h

theorem ofBytesBE_natBytesBE (n : Nat) : ofBytesBE (natBytesBE n) = n :=
  ofBytesBE_natBytesBEAux _ n (natBytesBE_fuel n)

theorem natBytesBE_length (n : Nat) : (natBytesBE n).length = (natBitLen n + 7) / 8 :=
  natBytesBEAux_length _ n (natBytesBE_fuel n)

theorem natBytesBE_zero : natBytesBE 0 = [] := natBytesBEAux_zero _

-- holds without `h`: for `n = 0` the list is empty
theorem natBytesBE_head_ne_zero (n : Nat) (h : n ≠ 0) : (natBytesBE n).head? ≠ some 0 :=
  (natBytesBEAux_head _ n (natBytesBE_fuel n)).1

/-! ## int64 wrap -/

theorem wrap64_spec (x : Int) :
    -(2^63 : Int) ≤ wrap64 x ∧ wrap64 x < 2^63 ∧ (wrap64 x - x) % (2^64 : Int) = 0 := by
  unfold wrap64
  dsimp only
  split <;> omega

theorem wrap64_range (x : Int) : -(2^63 : Int) ≤ wrap64 x ∧ wrap64 x < 2^63 :=
  ⟨(wrap64_spec x).1, (wrap64_spec x).2.1⟩

theorem wrap64_congr (x : Int) : (wrap64 x - x) % (2^64 : Int) = 0 :=
  (wrap64_spec x).2.2

theorem wrap64_id {x : Int} (h1 : -(2^63 : Int) ≤ x) (h2 : x < 2^63) : wrap64 x = x := by
  -- both lie in the int64 range and are congruent modulo `2^64`
  have := wrap64_spec x
  omega

/-- `wrap64` only looks at the residue modulo `2^64`. -/
theorem wrap64_emod (x : Int) : wrap64 (x % 2 ^ 64) = wrap64 x := by
  unfold wrap64
  rw [Int.emod_emod_of_dvd _ dvd_rfl]

/-- `goInt64` (Go's `big.Int.Int64`) is the same two's-complement wrap: it wraps
    `±(|x| mod 2^64)`, which is congruent to `x`. -/
theorem goInt64_eq_wrap64 (x : Int) : goInt64 x = wrap64 x := by
  show wrap64 (if x < 0 then -((x.natAbs % 2 ^ 64 : Nat) : Int) else (x.natAbs % 2 ^ 64 : Nat)) = _
  rw [← wrap64_emod x, ← wrap64_emod (ite _ _ _)]
  congr 1
  split <;> omega

end Gabi

#print axioms Gabi.powMod_eq
#print axioms Gabi.xgcd_gcd
#print axioms Gabi.xgcd_bezout
#print axioms Gabi.goModInverse_some
#print axioms Gabi.goModInverse_none_iff
#print axioms Gabi.commonModInverse_some
#print axioms Gabi.commonModInverse_none_iff
#print axioms Gabi.goExp_nonneg
#print axioms Gabi.goExp_neg
#print axioms Gabi.goExp_range
#print axioms Gabi.natBitLen_le_iff
#print axioms Gabi.natBitLen_pos_iff
#print axioms Gabi.lt_two_pow_natBitLen
#print axioms Gabi.two_pow_natBitLen_le
#print axioms Gabi.bitLen_eq_natBitLen
#print axioms Gabi.ofBytesBE_injective_of_length
#print axioms Gabi.ofBytesBE_natBytesBE
#print axioms Gabi.natBytesBE_length
#print axioms Gabi.natBytesBE_zero
#print axioms Gabi.natBytesBE_head_ne_zero
#print axioms Gabi.wrap64_range
#print axioms Gabi.wrap64_congr
#print axioms Gabi.wrap64_id
#print axioms Gabi.goInt64_eq_wrap64
