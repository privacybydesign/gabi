/-
  GabiProofs.IssuanceE2E — the end of the issuance protocol on the model. `CredBuilder.construct`
  (`ConstructCredential`) is split into the share loop `blindLoop` (characterised by
  `blindLoop_eq_ok_iff`) and `constructTail` (`construct_eq`). The block the issuer signs
  (`issuerMsgs`) and the block the holder ends up with (`holderMsgs`) are related by `SharesCombine`
  under the hypotheses `HonestShares` of an honest run; its product identity `repU_shares` is what
  `C06.sign_commitment_verifies` adds to `clSignWith_unit` and `Alg.issuance_algebra`.
-/
import GabiModel.Prover
import GabiProofs.IssuanceLemmas
import GabiProofs.GoMonad
namespace Gabi

/-! ### `ConstructCredential` as share loop followed by tail -/

/-- the share-combining loop of `ConstructCredential` (builder.go) as a recursive
    function: `.error why` = the error return, `.ok ms` = the attribute list after the loop. -/
def blindLoop (mIssuer : List (Int × Option Int)) :
    List (Int × Int) → List (Option Int) → Except String (List (Option Int))
  | [], ms => .ok ms
  | (i, miUser) :: rest, ms =>
    if i ≥ (ms.length : Int) then .error "too few attributes"
    else if (ms[i.toNat]?).join.isSome then .error "blind attribute not nil"
    else match (mIssuer.lookup i).join with
      | none => .error "issuer share missing"
      | some mi => blindLoop mIssuer rest (ms.set i.toNat (some (mi + miUser)))

/-- everything `ConstructCredential` does after the share loop. -/
def constructTail (pk : PublicKey) (signature : CLSignature) (witness : Option MsgWitness)
    (ms : List (Option Int)) : GoM ConstructResult :=
  match witness with
  | some w =>
    if !w.verify pk then pure (.rejected "witness") else do
      let vals ← ms.mapM (deref "attribute")
      if !(← clVerify pk signature vals) then pure (.rejected "signature")
      else if !(vals.contains (w.e.getD 0)) then pure (.rejected "revocation attribute")
      else pure (.credential signature vals)
  | none => do
    let vals ← ms.mapM (deref "attribute")
    if !(← clVerify pk signature vals) then pure (.rejected "signature")
    else pure (.credential signature vals)

/-- the `for` loop of `CredBuilder.construct` as Lean elaborates it (an early `return` becomes
    `ForInStep.done` with the result in the first component) computes `blindLoop`. After an early
    return the second component is the list at that moment; nothing reads it, hence `ms''`. -/
theorem construct_forIn (mIssuer : List (Int × Option Int)) (L : List (Int × Int)) :
    ∀ ms : List (Option Int), ∃ ms'' : List (Option Int),
    (forIn L ((none : Option ConstructResult), ms) (fun kv s =>
          if kv.1 ≥ (s.2.length : Int) then
            pure (ForInStep.done (some (ConstructResult.rejected "too few attributes"), s.2))
          else
            if s.2[kv.1.toNat]?.join.isSome = true then
              pure (ForInStep.done (some (ConstructResult.rejected "blind attribute not nil"), s.2))
            else
              match (List.lookup kv.1 mIssuer).join with
              | none => pure (ForInStep.done (some (ConstructResult.rejected "issuer share missing"), s.2))
              | some mi => pure (ForInStep.yield (none, s.2.set kv.1.toNat (some (mi + kv.2))))) :
        GoM (Option ConstructResult × List (Option Int))) =
      .ok (match blindLoop mIssuer L ms with
        | .ok ms' => (none, ms')
        | .error why => (some (.rejected why), ms'')) := by
  induction L with
  | nil => intro ms; exact ⟨ms, rfl⟩
  | cons kv L ih =>
    intro ms
    obtain ⟨i, mu⟩ := kv
    rw [List.forIn_cons]
    simp only [blindLoop]
    by_cases h1 : i ≥ (ms.length : Int)
    · simp only [h1, if_true]; exact ⟨ms, rfl⟩
    · simp only [h1, if_false]
      by_cases h2 : ms[i.toNat]?.join.isSome = true
      · simp only [h2, if_true]; exact ⟨ms, rfl⟩
      · simp only [h2]
        cases h3 : (List.lookup i mIssuer).join with
        | none => exact ⟨ms, rfl⟩
        | some mi =>
          obtain ⟨ms'', h⟩ := ih (ms.set i.toNat (some (mi + mu)))
          exact ⟨ms'', h⟩

theorem construct_eq (pk : PublicKey) (b : CredBuilder) (ps : ProofS) (sg : CLSignature)
    (mIssuer : List (Int × Option Int)) (attributes : List (Option Int)) (w : Option MsgWitness) :
    CredBuilder.construct pk b (some ps) (some sg) mIssuer attributes w =
      (ps.verify pk sg b.context b.nonce2 >>= fun ok =>
        if !ok then pure (.rejected "proofS") else
        match blindLoop mIssuer b.mUser (some b.secret :: attributes) with
        | .error why => pure (.rejected why)
        | .ok ms => constructTail pk
            { a := sg.a, e := sg.e, v := sg.v + b.vPrime, keyshareP := b.keyshareP } w ms) := by
  unfold CredBuilder.construct
  simp only
  congr 1
  funext ok
  cases ok with
  | false => rfl
  | true =>
    simp only [Bool.not_true, Bool.false_eq_true, if_false]
    obtain ⟨ms'', h⟩ := construct_forIn mIssuer b.mUser (some b.secret :: attributes)
    erw [h]
    cases hb : blindLoop mIssuer b.mUser (some b.secret :: attributes) with
    | error why => rfl
    | ok ms =>
      cases w with
      | none => rfl
      | some w =>
        simp only [constructTail, bind, Except.bind, pure, Except.pure]

/-! ### the share loop -/

theorem blindLoop_cons (mIssuer : List (Int × Option Int)) (i mu : Int) (rest : List (Int × Int))
    (ms : List (Option Int)) :
    blindLoop mIssuer ((i, mu) :: rest) ms =
      if i ≥ (ms.length : Int) then .error "too few attributes"
      else if (ms[i.toNat]?).join.isSome then .error "blind attribute not nil"
      else match (mIssuer.lookup i).join with
        | none => .error "issuer share missing"
        | some mi => blindLoop mIssuer rest (ms.set i.toNat (some (mi + mu))) := rfl

/-- the issuer's share for position `i` according to the `MIssuer` map of the message. -/
def issuerShare (mIssuer : List (Int × Option Int)) (i : Int) : Int :=
  ((mIssuer.lookup i).join).getD 0

/-- the share loop, started on a non-empty list, succeeds exactly when the blind indices are
    distinct positions below the length, nil, and have an issuer share; the result is the list with
    the sums of the shares written to these positions. -/
theorem blindLoop_eq_ok_iff (mIssuer : List (Int × Option Int)) (L : List (Int × Int)) :
    ∀ ms ms', 0 < ms.length → (blindLoop mIssuer L ms = .ok ms' ↔
      (L.map (·.1.toNat)).Nodup ∧
      (∀ kv ∈ L, kv.1 < ms.length ∧ (ms[kv.1.toNat]?).join = none ∧
        ((mIssuer.lookup kv.1).join).isSome = true) ∧
      ms' = L.foldl (fun ms kv => ms.set kv.1.toNat (some (issuerShare mIssuer kv.1 + kv.2))) ms) := by
  induction L with
  | nil =>
    intro ms ms' _
    exact ⟨fun h => ⟨List.nodup_nil, nofun, (Except.ok.inj h).symm⟩, fun h => by rw [h.2.2]; rfl⟩
  | cons kv L ih =>
    intro ms ms' h0
    obtain ⟨i, mu⟩ := kv
    rw [blindLoop_cons, List.map_cons, List.nodup_cons, List.forall_mem_cons]
    by_cases h1 : i ≥ (ms.length : Int)
    · rw [if_pos h1]
      exact ⟨nofun, fun h => absurd h.2.1.1.1 (not_lt.mpr h1)⟩
    rw [if_neg h1]
    cases h2 : (ms[i.toNat]?).join with
    | some x => exact ⟨nofun, fun h => nomatch h.2.1.1.2.1⟩
    | none =>
    cases h3 : (List.lookup i mIssuer).join with
    | none => exact ⟨nofun, fun h => nomatch h.2.1.1.2.2⟩
    | some mi =>
      have hi : i.toNat < ms.length := by omega
      -- a later key meets a nil entry of the updated list iff it is another position
      have hset : ∀ kv : Int × Int, ((ms.set i.toNat (some (mi + mu)))[kv.1.toNat]?).join = none ↔
          kv.1.toNat ≠ i.toNat ∧ (ms[kv.1.toNat]?).join = none := by
        intro kv
        by_cases hk : i.toNat = kv.1.toNat
        · rw [← hk, List.getElem?_set_self hi]
          exact ⟨nofun, fun h => absurd rfl h.1⟩
        · rw [List.getElem?_set_ne hk]
          exact ⟨fun h => ⟨fun h' => hk h'.symm, h⟩, fun h => h.2⟩
      simp only [Option.isSome_none, Bool.false_eq_true, if_false]
      rw [ih _ _ (by rw [List.length_set]; exact h0), List.length_set]
      have hsh : issuerShare mIssuer i = mi := by rw [issuerShare, h3]; rfl
      simp only [hset, List.mem_map, List.foldl_cons, hsh]
      constructor
      · rintro ⟨hnd, hall, rfl⟩
        exact ⟨⟨fun ⟨kv, hm, heq⟩ => (hall kv hm).2.1.1 heq, hnd⟩,
          ⟨⟨by omega, trivial, rfl⟩, fun kv hm => ⟨(hall kv hm).1, (hall kv hm).2.1.2, (hall kv hm).2.2⟩⟩, rfl⟩
      · rintro ⟨⟨hni, hnd⟩, ⟨_, hall⟩, rfl⟩
        exact ⟨hnd, fun kv hm => ⟨(hall kv hm).1, ⟨fun heq => hni ⟨kv, hm, heq⟩, (hall kv hm).2.1⟩,
          (hall kv hm).2.2⟩, rfl⟩

theorem blindLoop_error_of (mIssuer : List (Int × Option Int)) (L : List (Int × Int))
    (ms : List (Option Int)) (h0 : 0 < ms.length)
    (h : ∃ kv ∈ L, kv.1 ≥ (ms.length : Int) ∨ (ms[kv.1.toNat]?).join.isSome = true ∨
      (mIssuer.lookup kv.1).join = none) :
    ∃ why, blindLoop mIssuer L ms = .error why := by
  cases hb : blindLoop mIssuer L ms with
  | error why => exact ⟨why, rfl⟩
  | ok ms' =>
    obtain ⟨kv, hm, hkv⟩ := h
    obtain ⟨a1, a2, a3⟩ := ((blindLoop_eq_ok_iff mIssuer L ms ms' h0).mp hb).2.1 kv hm
    rcases hkv with h | h | h
    · exact absurd a1 (not_lt.mpr h)
    · rw [a2] at h; cases h
    · rw [h] at a3; cases a3

/-! ### after the loop -/

theorem constructTail_none (pk : PublicKey) (s : CLSignature) (ms : List (Option Int)) :
    constructTail pk s none ms = (ms.mapM (deref "attribute") >>= fun vals =>
      clVerify pk s vals >>= fun ok =>
        if !ok then pure (.rejected "signature") else pure (.credential s vals)) := rfl

theorem constructTail_some (pk : PublicKey) (s : CLSignature) (w : MsgWitness) (ms : List (Option Int)) :
    constructTail pk s (some w) ms =
      if !w.verify pk then pure (.rejected "witness") else
      (ms.mapM (deref "attribute") >>= fun vals =>
        clVerify pk s vals >>= fun ok =>
          if !ok then pure (.rejected "signature")
          else if !(vals.contains (w.e.getD 0)) then pure (.rejected "revocation attribute")
          else pure (.credential s vals)) := rfl

theorem constructTail_credential (pk : PublicKey) (s : CLSignature) (w : Option MsgWitness)
    (ms : List (Option Int)) (s' : CLSignature) (vals : List Int)
    (h : constructTail pk s w ms = .ok (.credential s' vals)) :
    s' = s ∧ ms.mapM (deref "attribute") = .ok vals ∧ clVerify pk s vals = .ok true ∧
      ∀ w', w = some w' → w'.verify pk = true ∧ vals.contains (w'.e.getD 0) = true := by
  cases w with
  | none =>
    rw [constructTail_none] at h
    obtain ⟨vs, hm, h⟩ := GoM.bind_ok h
    obtain ⟨ok, hv, h⟩ := GoM.bind_ok h
    cases ok
    · cases h
    · cases h
      exact ⟨rfl, hm, hv, nofun⟩
  | some w =>
    rw [constructTail_some] at h
    cases hw : w.verify pk
    · rw [hw] at h; cases h
    · rw [hw] at h
      obtain ⟨vs, hm, h⟩ := GoM.bind_ok h
      obtain ⟨ok, hv, h⟩ := GoM.bind_ok h
      cases ok
      · cases h
      · cases hc : vs.contains (w.e.getD 0)
        · simp only [hc] at h; cases h
        · simp only [hc] at h
          cases h
          exact ⟨rfl, hm, hv, fun w' hw' => by cases hw'; exact ⟨hw, hc⟩⟩

/-- every exit of the tail, when no nil entry is left and `CLSignature.Verify` does not panic. -/
theorem constructTail_eq (pk : PublicKey) (s : CLSignature) (w : Option MsgWitness)
    (ms : List (Option Int)) (vals : List Int) (ok : Bool)
    (hm : ms.mapM (deref "attribute") = .ok vals) (hv : clVerify pk s vals = .ok ok) :
    constructTail pk s w ms = .ok (
      if w.any (fun w => !w.verify pk) then .rejected "witness"
      else if !ok then .rejected "signature"
      else if w.any (fun w => !vals.contains (w.e.getD 0)) then .rejected "revocation attribute"
      else .credential s vals) := by
  cases w with
  | none =>
    rw [constructTail_none, hm]
    simp only [bind, Except.bind, hv]
    cases ok <;> rfl
  | some w =>
    rw [constructTail_some, hm]
    simp only [bind, Except.bind, hv, Option.any_some, apply_ite Except.ok]
    rfl

/-! ### `construct` after the loop failed or succeeded; the loop leaves no nil entry -/

theorem construct_of_blindLoop_error (pk : PublicKey) (b : CredBuilder) (ps : ProofS)
    (sg : CLSignature) (mIssuer : List (Int × Option Int)) (attributes : List (Option Int))
    (w : Option MsgWitness) (okS : Bool) (why : String)
    (hps : ps.verify pk sg b.context b.nonce2 = .ok okS)
    (hb : blindLoop mIssuer b.mUser (some b.secret :: attributes) = .error why) :
    ∃ why', b.construct pk (some ps) (some sg) mIssuer attributes w = .ok (.rejected why') := by
  rw [construct_eq, hps]
  cases okS with
  | false => exact ⟨_, rfl⟩
  | true =>
    simp only [bind, Except.bind, Bool.not_true, Bool.false_eq_true, if_false, hb]
    exact ⟨_, rfl⟩

theorem construct_of_blindLoop_ok (pk : PublicKey) (b : CredBuilder) (ps : ProofS)
    (sg : CLSignature) (mIssuer : List (Int × Option Int)) (attributes : List (Option Int))
    (w : Option MsgWitness) (ms : List (Option Int))
    (hps : ps.verify pk sg b.context b.nonce2 = .ok true)
    (hb : blindLoop mIssuer b.mUser (some b.secret :: attributes) = .ok ms) :
    b.construct pk (some ps) (some sg) mIssuer attributes w =
      constructTail pk { a := sg.a, e := sg.e, v := sg.v + b.vPrime, keyshareP := b.keyshareP } w ms := by
  rw [construct_eq, hps]
  simp only [bind, Except.bind, Bool.not_true, Bool.false_eq_true, if_false, hb]

theorem isSome_of_not_blind {attributes : List (Option Int)} {L : List (Int × Int)}
    (hnil : ∀ j : ℕ, attributes[j]? = some none → ∃ kv ∈ L, kv.1 = (j : Int) + 1) {k : ℕ}
    (hne : ∀ kv ∈ L, kv.1 ≠ ((k + 1 : ℕ) : Int)) {o : Option Int} (ho : attributes[k]? = some o) :
    o.isSome = true := by
  cases o with
  | some a => rfl
  | none =>
    obtain ⟨kv, hm, heq⟩ := hnil k ho
    exact absurd (by rw [heq]; push_cast; ring) (hne kv hm)

theorem blindLoop_all_some (mIssuer : List (Int × Option Int)) (L : List (Int × Int))
    (secret : Int) (attributes : List (Option Int)) (ms : List (Option Int))
    (hnil : ∀ j : Nat, attributes[j]? = some none → ∃ kv ∈ L, kv.1 = (j : Int) + 1)
    (hb : blindLoop mIssuer L (some secret :: attributes) = .ok ms) :
    ∀ o ∈ ms, o.isSome = true := by
  obtain ⟨hnd, hkv, rfl⟩ := (blindLoop_eq_ok_iff mIssuer L (some secret :: attributes) ms (Nat.succ_pos _)).mp hb
  intro o ho
  obtain ⟨j, hj⟩ := List.getElem?_of_mem ho
  by_cases hex : ∃ kv ∈ L, kv.1.toNat = j
  · obtain ⟨kv, hm, rfl⟩ := hex
    have hlt : kv.1.toNat < (some secret :: attributes).length := by
      have := (hkv kv hm).1
      rw [List.length_cons] at this ⊢
      omega
    rw [getElem?_foldl_set_of_mem _ _ L hnd kv hm _ hlt] at hj
    obtain rfl := Option.some.inj hj
    rfl
  · have hne : ∀ kv ∈ L, kv.1.toNat ≠ j := fun kv hm heq => hex ⟨kv, hm, heq⟩
    rw [getElem?_foldl_set_of_ne _ _ L j _ hne] at hj
    cases j with
    | zero =>
      obtain rfl := Option.some.inj hj
      rfl
    | succ k =>
      rw [List.getElem?_cons_succ] at hj
      exact isSome_of_not_blind hnil (fun kv hm heq => hne kv hm (by omega)) hj

/-! ### the holder's block as a product over positions: `SharesCombine`, `repU_shares` -/

section algebra
variable {n : ℕ} {G : Type*} [CommGroup G]

theorem rep_single (R : ℕ → G) (k x : Int) {l : List ℕ} (hl : l.Nodup)
    (hk0 : 0 ≤ k) (hk : k.toNat ∈ l) :
    Alg.rep R (fun j => if k = (j : Int) then x else 0) l = R k.toNat ^ x := by
  rw [← Alg.rep_single R k.toNat x hl hk]
  exact Alg.rep_congr _ fun j _ => if_congr (by omega) rfl rfl

/-- the total user share attached to position `j`. -/
def sumAt (L : List (Int × Int)) (j : ℕ) : Int :=
  (L.map fun kv => if kv.1 = (j : Int) then kv.2 else 0).sum

theorem sumAt_cons (kv : Int × Int) (L : List (Int × Int)) (j : ℕ) :
    sumAt (kv :: L) j = (if kv.1 = (j : Int) then kv.2 else 0) + sumAt L j := by
  simp [sumAt]

theorem sumAt_eq_zero (L : List (Int × Int)) (j : ℕ) (h : ∀ kv ∈ L, kv.1 ≠ (j : Int)) :
    sumAt L j = 0 := by
  induction L with
  | nil => rfl
  | cons kv L ih =>
    rw [sumAt_cons, if_neg (h kv (List.mem_cons_self ..)),
      ih (fun kv' h' => h kv' (List.mem_cons_of_mem _ h')), add_zero]

theorem sumAt_of_mem (L : List (Int × Int)) (hnd : (L.map (·.1)).Nodup) (kv : Int × Int)
    (hm : kv ∈ L) (j : ℕ) (hj : kv.1 = (j : Int)) : sumAt L j = kv.2 := by
  induction L with
  | nil => cases hm
  | cons kv' L ih =>
    rw [List.map_cons, List.nodup_cons] at hnd
    rw [sumAt_cons]
    rcases List.mem_cons.mp hm with rfl | hm'
    · rw [if_pos hj, sumAt_eq_zero, add_zero]
      intro kv' h' heq
      exact hnd.1 (List.mem_map.mpr ⟨kv', h', by rw [heq, hj]⟩)
    · rw [if_neg, zero_add, ih hnd.2 hm']
      intro heq
      exact hnd.1 (List.mem_map.mpr ⟨kv, hm', by rw [heq, hj]⟩)

theorem rep_sumAt (R : ℕ → G) {l : List ℕ} (hl : l.Nodup)
    (L : List (Int × Int)) (hL : ∀ kv ∈ L, 0 ≤ kv.1 ∧ kv.1.toNat ∈ l) :
    Alg.rep R (sumAt L) l = Alg.rep (fun kv : Int × Int => R kv.1.toNat) (fun kv => kv.2) L := by
  induction L with
  | nil => exact Alg.rep_zero _ _ _ (fun j _ => rfl)
  | cons kv L ih =>
    have : sumAt (kv :: L) = fun j => (fun j : ℕ => if kv.1 = (j : Int) then kv.2 else 0) j + sumAt L j := by
      funext j; exact sumAt_cons kv L j
    rw [this, Alg.rep_add, rep_single R kv.1 kv.2 hl (hL kv (List.mem_cons_self ..)).1
      (hL kv (List.mem_cons_self ..)).2, ih (fun kv' h' => hL kv' (List.mem_cons_of_mem _ h')),
      Alg.rep_cons]

/-- `msI` is the block the issuer signs (`0` for the secret, its own shares at the random-blind
    positions, the attributes elsewhere) and `msH` the block the holder ends up with (the secret,
    the sums of the shares at the random-blind positions, the same attributes elsewhere).
    `mUser` maps the random-blind positions (distinct, in `[1, len)`) to the user's shares.
    Sizes: the secret has at most `lm` bits, each share is below `2^(lm-1)` (so that no sum is
    longer than `lm` bits and none of these exponents is hashed by `RepresentToBases`). -/
structure SharesCombine (lm : ℕ) (secret : Int) (mUser : List (Int × Int)) (msI msH : List Int) :
    Prop where
  len : msI.length = msH.length
  zero : msI[0]? = some 0
  sec : msH[0]? = some secret
  sec_nonneg : 0 ≤ secret
  sec_lt : secret < 2 ^ lm
  nodup : (mUser.map (·.1)).Nodup
  blind : ∀ kv ∈ mUser, 1 ≤ kv.1 ∧ kv.1 < msI.length ∧ 0 ≤ kv.2 ∧ kv.2 < 2 ^ (lm - 1) ∧
    ∃ mi, 0 ≤ mi ∧ mi < 2 ^ (lm - 1) ∧ msI[kv.1.toNat]? = some mi ∧
      msH[kv.1.toNat]? = some (mi + kv.2)
  other : ∀ j : ℕ, 1 ≤ j → (∀ kv ∈ mUser, kv.1 ≠ (j : Int)) → msH[j]? = msI[j]?

theorem SharesCombine.length_pos {lm : ℕ} {secret : Int} {mUser : List (Int × Int)}
    {msI msH : List Int} (h : SharesCombine lm secret mUser msI msH) : 0 < msH.length := by
  by_contra h0
  have := h.sec
  rw [List.getElem?_eq_none (by omega)] at this
  cases this

theorem SharesCombine.keys_lt {lm : ℕ} {secret : Int} {mUser : List (Int × Int)}
    {msI msH : List Int} (h : SharesCombine lm secret mUser msI msH) {N : ℕ} (hN : msH.length ≤ N) :
    ∀ kv ∈ mUser, 0 ≤ kv.1 ∧ kv.1 < N := by
  intro kv hm
  obtain ⟨a1, a2, _⟩ := h.blind kv hm
  rw [h.len] at a2
  omega

theorem two_shares_lt (lm : ℕ) (a b : Int) (ha0 : 0 ≤ a) (hb0 : 0 ≤ b) (ha : a < 2 ^ (lm - 1))
    (hb : b < 2 ^ (lm - 1)) :
    a < 2 ^ lm ∧ a + b < 2 ^ lm := by
  cases lm with
  | zero => simp only [Nat.zero_sub, pow_zero] at ha hb ⊢; omega
  | succ k =>
    simp only [Nat.add_sub_cancel] at ha hb
    rw [pow_succ]
    omega

/-- the guard of `RepresentToPublicKey` passes on the holder's block when it passes on the
    issuer's block: the secret and the sums of the shares are non-negative, the other messages
    are the same. -/
theorem SharesCombine.any_negOversized {lm : ℕ} {secret : Int} {mUser : List (Int × Int)}
    {msI msH : List Int} (h : SharesCombine lm secret mUser msI msH)
    (hI : msI.any (negOversized lm) = false) : msH.any (negOversized lm) = false := by
  rw [any_negOversized_eq_false_iff] at hI ⊢
  intro m hm
  obtain ⟨j, hj⟩ := List.getElem?_of_mem hm
  rcases Nat.eq_zero_or_pos j with rfl | hpos
  · rw [h.sec] at hj
    obtain rfl := Option.some.inj hj
    have := h.sec_nonneg
    omega
  · by_cases hex : ∃ kv ∈ mUser, kv.1 = (j : Int)
    · obtain ⟨kv, hkv, heq⟩ := hex
      obtain ⟨_, _, h2, _, mi, hmi0, _, _, hH⟩ := h.blind kv hkv
      have : kv.1.toNat = j := by omega
      rw [this, hj] at hH
      obtain rfl := Option.some.inj hH
      omega
    · have := h.other j hpos (fun kv hkv heq => hex ⟨kv, hkv, heq⟩)
      rw [hj] at this
      exact hI m (List.mem_of_getElem? this.symm)

/-- the holder's block is the issuer's block times `R_0^secret · ∏ R_i^{mUser_i}`. -/
theorem repU_shares (lm : ℕ) (bases : List Int) (secret : Int) (mUser : List (Int × Int))
    (msI msH : List Int) (h : SharesCombine lm secret mUser msI msH)
    (hlen : msH.length ≤ bases.length) :
    repU n lm bases msH =
      repU n lm bases msI * (baseU n bases 0 ^ secret * repKV n bases (fun kv => kv.2) mUser) := by
  rw [repU_eq_range lm bases msH hlen, repU_eq_range lm bases msI (h.len ▸ hlen), h.len]
  have key : ∀ j ∈ List.range msH.length, attrExp lm (msH.getD j 0) =
      attrExp lm (msI.getD j 0) + ((if (0 : Int) = (j : Int) then secret else 0) + sumAt mUser j) := by
    intro j _
    rw [List.getD_eq_getElem?_getD, List.getD_eq_getElem?_getD]
    cases j with
    | zero =>
      rw [h.zero, h.sec, Option.getD_some, Option.getD_some, attrExp_small lm secret h.sec_nonneg h.sec_lt,
        attrExp_small lm 0 (le_refl _) (by positivity), sumAt_eq_zero]
      · simp
      · intro kv hm heq
        have := (h.blind kv hm).1
        rw [heq] at this; simp at this
    | succ k =>
      rw [if_neg (by omega), zero_add]
      by_cases hex : ∃ kv ∈ mUser, kv.1 = ((k + 1 : ℕ) : Int)
      · obtain ⟨kv, hm, heq⟩ := hex
        obtain ⟨_, _, u0, u1, mi, i0, i1, hI, hH⟩ := h.blind kv hm
        have hk : kv.1.toNat = k + 1 := by omega
        rw [hk] at hI hH
        rw [hI, hH, Option.getD_some, Option.getD_some, sumAt_of_mem mUser h.nodup kv hm _ heq]
        obtain ⟨a1, a2⟩ := two_shares_lt lm mi kv.2 i0 u0 i1 u1
        rw [attrExp_small lm _ (by omega) a2, attrExp_small lm _ i0 a1]
      · have hne : ∀ kv ∈ mUser, kv.1 ≠ ((k + 1 : ℕ) : Int) := fun kv hm heq => hex ⟨kv, hm, heq⟩
        rw [h.other (k + 1) (by omega) hne, sumAt_eq_zero mUser _ hne, add_zero]
  have h0 : (0 : Int).toNat ∈ List.range msH.length := List.mem_range.mpr h.length_pos
  rw [Alg.rep_congr _ key, Alg.rep_add, Alg.rep_add,
    rep_single (baseN n bases) 0 secret List.nodup_range (le_refl _) h0,
    rep_sumAt (baseN n bases) List.nodup_range mUser fun kv hm =>
      ⟨(h.keys_lt le_rfl kv hm).1, List.mem_range.mpr (by have := h.keys_lt le_rfl kv hm; omega)⟩]
  rfl

end algebra

/-! ### the two blocks of an honest run -/

/-- the block the issuer signs (`signCommitmentAndAttributes`): `0` for the secret, then the
    attributes with the issuer's share at the nil (random-blind) positions. -/
def issuerMsgs (attributes : List (Option Int)) (mIssuer : List (Int × Option Int)) : List Int :=
  0 :: attributes.mapIdx fun j a => a.getD (issuerShare mIssuer ((j : Int) + 1))

/-- the holder's final block: the secret, then the attributes with the sum of the two shares at
    the nil (random-blind) positions. -/
def holderMsgs (secret : Int) (attributes : List (Option Int)) (mIssuer : List (Int × Option Int))
    (mUser : List (Int × Int)) : List Int :=
  secret :: attributes.mapIdx fun j a =>
    a.getD (issuerShare mIssuer ((j : Int) + 1) + (mUser.lookup ((j : Int) + 1)).getD 0)

theorem issuerMsgs_length (attributes : List (Option Int)) (mIssuer : List (Int × Option Int)) :
    (issuerMsgs attributes mIssuer).length = attributes.length + 1 := by
  simp [issuerMsgs]

theorem holderMsgs_length (secret : Int) (attributes : List (Option Int))
    (mIssuer : List (Int × Option Int)) (mUser : List (Int × Int)) :
    (holderMsgs secret attributes mIssuer mUser).length = attributes.length + 1 := by
  simp [holderMsgs]

theorem issuerMsgs_succ (attributes : List (Option Int)) (mIssuer : List (Int × Option Int)) (k : ℕ) :
    (issuerMsgs attributes mIssuer)[k + 1]? =
      (attributes[k]?).map fun a => a.getD (issuerShare mIssuer ((k : Int) + 1)) := by
  simp [issuerMsgs, List.getElem?_mapIdx]

theorem holderMsgs_succ (secret : Int) (attributes : List (Option Int))
    (mIssuer : List (Int × Option Int)) (mUser : List (Int × Int)) (k : ℕ) :
    (holderMsgs secret attributes mIssuer mUser)[k + 1]? =
      (attributes[k]?).map fun a =>
        a.getD (issuerShare mIssuer ((k : Int) + 1) + (mUser.lookup ((k : Int) + 1)).getD 0) := by
  simp [holderMsgs, List.getElem?_mapIdx]

theorem issuerMsgs_toNat (attributes : List (Option Int)) (mIssuer : List (Int × Option Int))
    {i : Int} (h : 1 ≤ i) :
    (issuerMsgs attributes mIssuer)[i.toNat]? =
      (attributes[i.toNat - 1]?).map fun a => a.getD (issuerShare mIssuer i) := by
  rw [issuerMsgs, getElem?_cons_toNat _ _ h, List.getElem?_mapIdx,
    show ((i.toNat - 1 : ℕ) : Int) + 1 = i by omega]

theorem holderMsgs_toNat (secret : Int) (attributes : List (Option Int))
    (mIssuer : List (Int × Option Int)) (mUser : List (Int × Int)) {i : Int} (h : 1 ≤ i) :
    (holderMsgs secret attributes mIssuer mUser)[i.toNat]? =
      (attributes[i.toNat - 1]?).map fun a =>
        a.getD (issuerShare mIssuer i + (mUser.lookup i).getD 0) := by
  rw [holderMsgs, getElem?_cons_toNat _ _ h, List.getElem?_mapIdx,
    show ((i.toNat - 1 : ℕ) : Int) + 1 = i by omega]

theorem holderMsgs_blind (secret : Int) (attributes : List (Option Int))
    (mIssuer : List (Int × Option Int)) (mUser : List (Int × Int))
    (hnd : (mUser.map (·.1)).Nodup) (kv : Int × Int) (hm : kv ∈ mUser) (h1 : 1 ≤ kv.1)
    (hnil : attributes[kv.1.toNat - 1]? = some none) (mi : Int)
    (hmi : (mIssuer.lookup kv.1).join = some mi) :
    (holderMsgs secret attributes mIssuer mUser)[kv.1.toNat]? = some (mi + kv.2) := by
  rw [holderMsgs_toNat _ _ _ _ h1, hnil, lookup_of_mem_nodup hnd (show (kv.1, kv.2) ∈ mUser from hm),
    issuerShare, hmi]
  rfl

theorem holderMsgs_plain (secret : Int) (attributes : List (Option Int))
    (mIssuer : List (Int × Option Int)) (mUser : List (Int × Int)) (k : ℕ) (a : Int)
    (h : attributes[k]? = some (some a)) :
    (holderMsgs secret attributes mIssuer mUser)[k + 1]? = some a := by
  rw [holderMsgs_succ, h]; rfl

/-- the hypotheses on an honest run: `attributes` is nil exactly at the random-blind positions
    (the keys of `mUser`, distinct), and both parties' shares are below `2^(lm-1)`. -/
structure HonestShares (lm : ℕ) (attributes : List (Option Int)) (mIssuer : List (Int × Option Int))
    (mUser : List (Int × Int)) : Prop where
  nodup : (mUser.map (·.1)).Nodup
  blind : ∀ kv ∈ mUser, 1 ≤ kv.1 ∧ kv.1 ≤ attributes.length ∧
    attributes[kv.1.toNat - 1]? = some none ∧ 0 ≤ kv.2 ∧ kv.2 < 2 ^ (lm - 1) ∧
    ∃ mi, (mIssuer.lookup kv.1).join = some mi ∧ 0 ≤ mi ∧ mi < 2 ^ (lm - 1)
  nil_blind : ∀ j : ℕ, attributes[j]? = some none → ∃ kv ∈ mUser, kv.1 = (j : Int) + 1

theorem sharesCombine_msgs (lm : ℕ) (secret : Int) (attributes : List (Option Int))
    (mIssuer : List (Int × Option Int)) (mUser : List (Int × Int))
    (hs0 : 0 ≤ secret) (hs1 : secret < 2 ^ lm) (hh : HonestShares lm attributes mIssuer mUser) :
    SharesCombine lm secret mUser (issuerMsgs attributes mIssuer)
      (holderMsgs secret attributes mIssuer mUser) := by
  refine ⟨by rw [issuerMsgs_length, holderMsgs_length], rfl, rfl, hs0, hs1, hh.nodup, ?_, ?_⟩
  · intro kv hm
    obtain ⟨a1, a2, a3, a4, a5, mi, b1, b2, b3⟩ := hh.blind kv hm
    refine ⟨a1, by rw [issuerMsgs_length]; omega, a4, a5, mi, b2, b3, ?_,
      holderMsgs_blind secret attributes mIssuer mUser hh.nodup kv hm a1 a3 mi b1⟩
    rw [issuerMsgs_toNat _ _ a1, a3, issuerShare, b1]
    rfl
  · intro j hj hne
    obtain ⟨k, rfl⟩ : ∃ k, j = k + 1 := ⟨j - 1, by omega⟩
    rw [issuerMsgs_succ, holderMsgs_succ]
    cases hk : attributes[k]? with
    | none => rfl
    | some o =>
      obtain ⟨a, rfl⟩ := Option.isSome_iff_exists.mp (isSome_of_not_blind hh.nil_blind hne hk)
      rfl

theorem blindLoop_honest (lm : ℕ) (secret : Int) (attributes : List (Option Int))
    (mIssuer : List (Int × Option Int)) (mUser : List (Int × Int))
    (hh : HonestShares lm attributes mIssuer mUser) :
    blindLoop mIssuer mUser (some secret :: attributes) =
      .ok ((holderMsgs secret attributes mIssuer mUser).map some) := by
  have hnd : (mUser.map (·.1.toNat)).Nodup :=
    (List.Nodup.of_map _ hh.nodup).map_on fun x hx y hy h =>
      List.inj_on_of_nodup_map hh.nodup hx hy (by
        have := (hh.blind x hx).1
        have := (hh.blind y hy).1
        omega)
  rw [blindLoop_eq_ok_iff mIssuer mUser (some secret :: attributes) _ (Nat.succ_pos _)]
  refine ⟨hnd, ?_, ?_⟩
  · intro kv hm
    obtain ⟨a1, a2, a3, _, _, mi, b1, _⟩ := hh.blind kv hm
    exact ⟨by rw [List.length_cons]; push_cast; omega,
      by rw [getElem?_cons_toNat _ _ a1, a3]; rfl, by rw [b1]; rfl⟩
  apply List.ext_getElem?
  intro j
  rw [List.getElem?_map]
  by_cases hex : ∃ kv ∈ mUser, kv.1.toNat = j
  · obtain ⟨kv, hm, rfl⟩ := hex
    obtain ⟨a1, a2, a3, _, _, mi, b1, _⟩ := hh.blind kv hm
    rw [getElem?_foldl_set_of_mem _ _ mUser hnd kv hm _ (by rw [List.length_cons]; omega),
      holderMsgs_blind secret attributes mIssuer mUser hh.nodup kv hm a1 a3 mi b1, issuerShare, b1]
    rfl
  · have hne : ∀ kv ∈ mUser, kv.1.toNat ≠ j := fun kv hm heq => hex ⟨kv, hm, heq⟩
    rw [getElem?_foldl_set_of_ne _ _ mUser j _ hne]
    cases j with
    | zero => rfl
    | succ k =>
      rw [List.getElem?_cons_succ, holderMsgs_succ]
      cases hk : attributes[k]? with
      | none => rfl
      | some o =>
        obtain ⟨a, rfl⟩ := Option.isSome_iff_exists.mp
          (isSome_of_not_blind hh.nil_blind (fun kv hm heq => hne kv hm (by omega)) hk)
        rfl

/-- the block the issuer signs passes the guard of `RepresentToPublicKey` when none of the supplied
    attributes is negative and longer than `lm` bits: the first message is `0` and the issuer's
    shares at the random-blind positions are non-negative. -/
theorem issuerMsgs_guard (lm : ℕ) (attributes : List (Option Int))
    (mIssuer : List (Int × Option Int)) (mUser : List (Int × Int))
    (hh : HonestShares lm attributes mIssuer mUser)
    (hattr : ∀ a, some a ∈ attributes → ¬ (a < 0 ∧ bitLen a > lm)) :
    ∀ m ∈ issuerMsgs attributes mIssuer, ¬ (m < 0 ∧ bitLen m > lm) := by
  intro m hm
  obtain ⟨j, hj⟩ := List.getElem?_of_mem hm
  cases j with
  | zero =>
    have h0 : (issuerMsgs attributes mIssuer)[0]? = some 0 := rfl
    rw [h0] at hj
    obtain rfl := Option.some.inj hj
    omega
  | succ k =>
    rw [issuerMsgs_succ] at hj
    cases hk : attributes[k]? with
    | none => rw [hk] at hj; cases hj
    | some o =>
      rw [hk] at hj
      cases o with
      | some a =>
        obtain rfl : a = m := Option.some.inj hj
        exact hattr a (List.mem_of_getElem? hk)
      | none =>
        obtain ⟨kv, hkv, heq⟩ := hh.nil_blind k hk
        obtain ⟨_, _, _, _, _, mi, b1, b2, _⟩ := hh.blind kv hkv
        have hm' : issuerShare mIssuer ((k : Int) + 1) = m := Option.some.inj hj
        rw [← heq, issuerShare, b1] at hm'
        have : mi = m := hm'
        omega

/-- non-vacuity of `HonestShares` on the toy key (`Lm = 8`): attributes `[3, ⊥]`, issuer share
    `6` and user share `4` for position `2`. -/
theorem toy_honestShares : HonestShares toyKey.params.Lm [some 3, none] [(2, some 6)] [(2, 4)] := by
  refine ⟨by decide, ?_, ?_⟩
  · intro kv hm
    obtain rfl : kv = (2, 4) := by simpa using hm
    exact ⟨by decide, by decide, by decide, by decide, by decide, 6, by decide, by decide, by decide⟩
  · intro j hj
    match j, hj with
    | 0, hj => simp at hj
    | 1, _ => exact ⟨(2, 4), by simp, by decide⟩
    | (k + 2), hj => simp at hj

end Gabi
