/-
  GabiProofs.ParamsC01 — parameter arithmetic used by property C01 (soundness of the
  disclosure proof): the response / attribute ranges are so far below the group order that
  knowing the order does not let a holder move a response or a disclosed value to another
  representative of its class. `order_shift_excluded(_e)` and
  `disclosed_shift_excluded` are restated in GabiProps.C01.
-/
import GabiProofs.Params

namespace Gabi

/-! ### representatives of a class modulo the order -/

/-- two non-negative values below the modulus that are congruent are equal. -/
theorem eq_of_emod_eq_of_lt {a a' ord : Int} (h0 : 0 ≤ a) (h0' : 0 ≤ a') (h : a < ord) (h' : a' < ord)
    (hc : a % ord = a' % ord) : a = a' := by
  rwa [Int.emod_eq_of_lt h0 h, Int.emod_eq_of_lt h0' h'] at hc

/-- two integers of either sign that are congruent and less than the modulus apart are equal. -/
theorem eq_of_emod_eq_of_abs_sub_lt {a a' ord : Int} (hc : a % ord = a' % ord)
    (h : |a - a'| < ord) : a = a' :=
  sub_eq_zero.mp (Int.eq_zero_of_abs_lt_dvd
    (Int.dvd_of_emod_eq_zero (Int.emod_eq_emod_iff_emod_sub_eq_zero.mp hc)) h)

theorem shift_out_of_range {B ord s k : Int} (hB : B ≤ ord) (hs0 : 0 ≤ s) (hs : s < B) (hk : k ≠ 0) :
    ¬ (0 ≤ s + k * ord ∧ s + k * ord < B) := by
  rintro ⟨h1, h2⟩
  have h := eq_of_emod_eq_of_lt hs0 h1 (hs.trans_le hB) (h2.trans_le hB)
    (Int.add_mul_emod_self_right ..).symm
  rcases mul_eq_zero.mp (by omega : k * ord = 0) with h | h
  · exact hk h
  · omega

/-! ### the group order of a key with `Ln/2`-bit safe primes -/

theorem half_le_of_safe {p p' : Int} {k : Nat} (hp : p = 2 * p' + 1) (h : 2 ^ (k + 1) ≤ p) :
    2 ^ k ≤ p' := by
  rw [pow_succ] at h; omega

theorem safe_prime_order_ge {k : Nat} {p q p' q' : Int} (hp : p = 2 * p' + 1) (hq : q = 2 * q' + 1)
    (hpb : 2 ^ (k + 1) ≤ p) (hqb : 2 ^ (k + 1) ≤ q) : 2 ^ (k + k) ≤ p' * q' := by
  have hk : (0 : Int) ≤ 2 ^ k := by positivity
  rw [pow_add]
  exact mul_le_mul (half_le_of_safe hp hpb) (half_le_of_safe hq hqb) hk
    (hk.trans (half_le_of_safe hp hpb))

/-- `p = 2p'+1`, `q = 2q'+1` with `p, q ≥ 2^(Ln/2-1)` (i.e. of `Ln/2` bits) have
    `p'·q' ≥ 2^(Ln-4)`. -/
theorem order_lower_bound {P : SysParams} (hP : ParamsSound P) {p q p' q' : Int}
    (hp : p = 2 * p' + 1) (hq : q = 2 * q' + 1)
    (hpb : 2 ^ (P.Ln / 2 - 1) ≤ p) (hqb : 2 ^ (P.Ln / 2 - 1) ≤ q) :
    2 ^ (P.Ln - 4) ≤ p' * q' := by
  have hev := hP.Ln_even
  have h8 := hP.Ln_ge
  generalize P.Ln / 2 = m at hev hpb hqb
  -- `Ln = 2m`, `m = k + 2`: the primes are at least `2^(k+1)` and `Ln - 4 = k + k`
  obtain ⟨k, rfl⟩ : ∃ k, m = k + 2 := ⟨m - 2, by omega⟩
  rw [← hev, show 2 * (k + 2) - 4 = k + k by omega]
  exact safe_prime_order_ge hp hq hpb hqb

/-- `order_lower_bound` with `p' = (p-1)/2`, `q' = (q-1)/2` for odd `p`, `q` (primes of that size
    are odd). -/
theorem order_lower_bound_div {P : SysParams} (hP : ParamsSound P) {p q : Int}
    (hpo : p % 2 = 1) (hqo : q % 2 = 1)
    (hpb : 2 ^ (P.Ln / 2 - 1) ≤ p) (hqb : 2 ^ (P.Ln / 2 - 1) ≤ q) :
    2 ^ (P.Ln - 4) ≤ ((p - 1) / 2) * ((q - 1) / 2) :=
  order_lower_bound hP (p' := (p - 1) / 2) (q' := (q - 1) / 2) (by omega) (by omega) hpb hqb

/-- oddness is needed: for even `p = q = 2^(k-1)` the bound fails (here `Ln = 8`, `k = 4`). -/
example : ¬ ((2 : Int) ^ (8 - 4) ≤ (((2 : Int) ^ (8 / 2 - 1) - 1) / 2) * (((2 : Int) ^ (8 / 2 - 1) - 1) / 2)) := by
  decide

theorem privateKey_order_ge {P : SysParams} (hP : ParamsSound P) {sk : PrivateKey}
    (hp : sk.p = 2 * sk.pPrime + 1) (hq : sk.q = 2 * sk.qPrime + 1)
    (hpb : 2 ^ (P.Ln / 2 - 1) ≤ sk.p) (hqb : 2 ^ (P.Ln / 2 - 1) ≤ sk.q) :
    2 ^ (P.Ln - 4) ≤ sk.order :=
  order_lower_bound hP hp hq hpb hqb

/-- the bound on `p = 23 = 2·11+1`, `q = 11 = 2·5+1` for `Ln = 8`. -/
example : (2 : Int) ^ (8 - 4) ≤ 11 * 5 := by decide

/-- `ParamsSound` is satisfiable. -/
example : ∃ P, ParamsSound P := by
  obtain ⟨P, hP⟩ := default_sets_exist.1
  exact ⟨P, default_params_sound (isDefaultParams_of_lookup hP)⟩

/-! ### responses: at most one representative of a class modulo the order is in range -/

/-- a range `[0, 2^(L+1))` with `L + 1 < Ln - 4` ends below every order `≥ 2^(Ln-4)`; the
    attribute and `e` responses are the cases `L = LmCommit`, `L = LeCommit`. -/
theorem two_pow_le_order {Ln L : Nat} {ord : Int} (hL : L + 1 < Ln - 4) (hord : 2 ^ (Ln - 4) ≤ ord) :
    2 ^ (L + 1) ≤ ord :=
  (pow_le_pow_right₀ one_le_two hL.le).trans hord

/-- attribute responses: if `s` passes the range check `[0, 2^(LmCommit+1))` then no other
    representative `s + k·ord` (`k ≠ 0`) of its class modulo the group order does. -/
theorem order_shift_excluded {P : SysParams} (hP : ParamsSound P) {ord s k : Int}
    (hord : 2 ^ (P.Ln - 4) ≤ ord) (hs0 : 0 ≤ s) (hs : s < 2 ^ (P.LmCommit + 1)) (hk : k ≠ 0) :
    ¬ (0 ≤ s + k * ord ∧ s + k * ord < 2 ^ (P.LmCommit + 1)) :=
  shift_out_of_range (two_pow_le_order hP.mResp_lt hord) hs0 hs hk

/-- `e`-responses: if `s` passes the range check `[0, 2^(LeCommit+1))` then no other
    representative `s + k·ord` (`k ≠ 0`) of its class modulo the group order does. -/
theorem order_shift_excluded_e {P : SysParams} (hP : ParamsSound P) {ord s k : Int}
    (hord : 2 ^ (P.Ln - 4) ≤ ord) (hs0 : 0 ≤ s) (hs : s < 2 ^ (P.LeCommit + 1)) (hk : k ≠ 0) :
    ¬ (0 ≤ s + k * ord ∧ s + k * ord < 2 ^ (P.LeCommit + 1)) :=
  shift_out_of_range (two_pow_le_order hP.eResp_lt hord) hs0 hs hk

/-- two attribute responses in range that are congruent modulo the order are equal. -/
theorem response_class_unique {P : SysParams} (hP : ParamsSound P) {ord s s' : Int}
    (hord : 2 ^ (P.Ln - 4) ≤ ord)
    (hs0 : 0 ≤ s) (hs : s < 2 ^ (P.LmCommit + 1)) (hs0' : 0 ≤ s') (hs' : s' < 2 ^ (P.LmCommit + 1))
    (hc : s % ord = s' % ord) : s = s' :=
  have hB := two_pow_le_order hP.mResp_lt hord
  eq_of_emod_eq_of_lt hs0 hs0' (hs.trans_le hB) (hs'.trans_le hB) hc

/-- two `e`-responses in range that are congruent modulo the order are equal. -/
theorem response_class_unique_e {P : SysParams} (hP : ParamsSound P) {ord s s' : Int}
    (hord : 2 ^ (P.Ln - 4) ≤ ord)
    (hs0 : 0 ≤ s) (hs : s < 2 ^ (P.LeCommit + 1)) (hs0' : 0 ≤ s') (hs' : s' < 2 ^ (P.LeCommit + 1))
    (hc : s % ord = s' % ord) : s = s' :=
  have hB := two_pow_le_order hP.eResp_lt hord
  eq_of_emod_eq_of_lt hs0 hs0' (hs.trans_le hB) (hs'.trans_le hB) hc

/-- without the margin the exclusion fails: if the range `[0, 2^(L+1))` is not below `2^(Ln-4)`,
    then for `ord = 2^(Ln-4)` both `0` and `0 + 1·ord` are in range. -/
theorem order_shift_fails {Ln L : Nat} (h : Ln - 4 < L + 1) :
    ∃ ord s k : Int, 2 ^ (Ln - 4) ≤ ord ∧ 0 ≤ s ∧ s < 2 ^ (L + 1) ∧ k ≠ 0 ∧
      0 ≤ s + k * ord ∧ s + k * ord < 2 ^ (L + 1) :=
  ⟨2 ^ (Ln - 4), 0, 1, le_refl _, le_refl _, by positivity, one_ne_zero, by positivity,
    by rw [zero_add, one_mul]; exact pow_lt_pow_right₀ one_lt_two h⟩

/-- **fails for the toy set** (`Ln = 256`, `LmCommit = 592`): with `ord = 2^252`, the responses
    `s = 0` and `s + 1·ord` are both inside `[0, 2^593)`. -/
theorem order_shift_toy_fails :
    ∃ ord s k : Int, 2 ^ (toyParams.Ln - 4) ≤ ord ∧ 0 ≤ s ∧ s < 2 ^ (toyParams.LmCommit + 1) ∧ k ≠ 0 ∧
      0 ≤ s + k * ord ∧ s + k * ord < 2 ^ (toyParams.LmCommit + 1) :=
  order_shift_fails (by decide)

/-- **fails for the toy set**, `e`-response range (`LeCommit = 456`): `s = 0` and `s + 1·ord` with
    `ord = 2^252` are both inside `[0, 2^457)`. -/
theorem order_shift_toy_fails_e :
    ∃ ord s k : Int, 2 ^ (toyParams.Ln - 4) ≤ ord ∧ 0 ≤ s ∧ s < 2 ^ (toyParams.LeCommit + 1) ∧ k ≠ 0 ∧
      0 ≤ s + k * ord ∧ s + k * ord < 2 ^ (toyParams.LeCommit + 1) :=
  order_shift_fails (by decide)

/-! ### disclosed values -/

/-- A disclosed value `a` of at most `Lm` bits (used un-hashed as exponent): every *other*
    integer `a'` (of either sign) in the same class modulo the group order has more than `Lm` bits. -/
theorem disclosed_shift_excluded {P : SysParams} (hP : ParamsSound P) {ord a a' : Int}
    (hord : 2 ^ (P.Ln - 4) ≤ ord) (ha0 : 0 ≤ a) (ha : bitLen a ≤ P.Lm)
    (hc : a % ord = a' % ord) (hne : a ≠ a') : bitLen a' > P.Lm := by
  by_contra hcon
  -- otherwise `a` and `a'` are less than `2^(Lm+1) ≤ ord` apart, hence equal
  have h1 : |a| < 2 ^ P.Lm := bitLen_le_iff.mp ha
  have h2 : |a'| < 2 ^ P.Lm := bitLen_le_iff.mp (not_lt.mp hcon)
  refine hne (eq_of_emod_eq_of_abs_sub_lt hc (lt_of_lt_of_le ?_
    ((pow_le_pow_right₀ one_le_two (Nat.succ_le_of_lt hP.Lm_lt)).trans hord)))
  calc |a - a'| ≤ |a| + |a'| := abs_sub a a'
    _ < 2 ^ P.Lm + 2 ^ P.Lm := add_lt_add h1 h2
    _ = 2 ^ (P.Lm + 1) := by ring

/-- Shifting a disclosed value `a` of at most `Lm` bits by a multiple of the order changes the
    exponent to an (unrelated) 256-bit hash value: `a` is used as it is, while the shifted `a'` has
    more than `Lm` bits, so the verifier uses the SHA-256 of its bytes instead of `a'` itself. -/
theorem disclosed_shift_hashed {P : SysParams} (hP : ParamsSound P) {ord a a' : Int}
    (hord : 2 ^ (P.Ln - 4) ≤ ord) (ha0 : 0 ≤ a) (ha : bitLen a ≤ P.Lm)
    (hc : a % ord = a' % ord) (hne : a ≠ a') :
    attrExp P.Lm a = a ∧ attrExp P.Lm a' = (intHashSha256 (intBytes a') : Int) ∧
      attrExp P.Lm a' < 2 ^ 256 := by
  have h := disclosed_shift_excluded hP hord ha0 ha hc hne
  have h2 : attrExp P.Lm a' = (intHashSha256 (intBytes a') : Int) := by unfold attrExp; rw [if_pos h]
  refine ⟨attrExp_of_bitLen_le ha, h2, ?_⟩
  rw [h2]; exact_mod_cast intHashSha256_lt _

/-- **fails for the toy set** (`Lm = 256 = Ln`): `a = 0` and `a' = 2^252 = a + ord` are both
    at most `Lm` bits long. -/
theorem disclosed_shift_toy_fails :
    ∃ ord a a' : Int, 2 ^ (toyParams.Ln - 4) ≤ ord ∧ 0 ≤ a ∧ bitLen a ≤ toyParams.Lm ∧
      a % ord = a' % ord ∧ a ≠ a' ∧ ¬ (bitLen a' > toyParams.Lm) := by
  refine ⟨2 ^ 252, 0, 2 ^ 252, ?_⟩
  rw [toy_values.1, toy_values.2.1]
  refine ⟨by norm_num, le_refl _, ?_, by norm_num, by norm_num, ?_⟩
  · exact bitLen_le_of_lt_two_pow (le_refl _) (by norm_num)
  · have := bitLen_le_of_lt_two_pow (a := 2 ^ 252) (k := 256) (by norm_num) (by norm_num)
    omega

/-- non-vacuity of `disclosed_shift_excluded` on the 1024-bit set: `a = 5`, `a' = 5 + 2^1020`. -/
example : ∃ P ord a a', ParamsSound P ∧ (2 : Int) ^ (P.Ln - 4) ≤ ord ∧ 0 ≤ a ∧ bitLen a ≤ P.Lm ∧
    a % ord = a' % ord ∧ a ≠ a' := by
  obtain ⟨P, hP⟩ := default_sets_exist.1
  have hs := default_params_sound (isDefaultParams_of_lookup hP)
  refine ⟨P, 2 ^ (P.Ln - 4), 5, 5 + 2 ^ (P.Ln - 4), hs, le_refl _, by norm_num, ?_, ?_, ?_⟩
  · refine bitLen_le_of_lt_two_pow (by norm_num) ?_
    calc (5 : Int) < 2 ^ 256 := by norm_num
      _ ≤ 2 ^ P.Lm := pow_le_pow_right₀ one_le_two hs.Lm_ge
  · simp
  · have : (0 : Int) < 2 ^ (P.Ln - 4) := by positivity
    omega

end Gabi

#print axioms Gabi.order_lower_bound
#print axioms Gabi.order_lower_bound_div
#print axioms Gabi.privateKey_order_ge
#print axioms Gabi.order_shift_excluded
#print axioms Gabi.order_shift_excluded_e
#print axioms Gabi.response_class_unique
#print axioms Gabi.response_class_unique_e
#print axioms Gabi.order_shift_toy_fails
#print axioms Gabi.order_shift_toy_fails_e
#print axioms Gabi.disclosed_shift_excluded
#print axioms Gabi.disclosed_shift_hashed
#print axioms Gabi.disclosed_shift_toy_fails
