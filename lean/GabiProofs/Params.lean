/-
  GabiProofs.Params — what GabiProps/C04.lean rests on: the inequalities between the system
  parameters (`ParamsSound`, proved for the default sets from their base parameters), the ranges
  of honest responses, `getUndisclosedAttributes` / `CreateProof` / `CreateDisclosureProof` as
  closed expressions, and the counting bound behind statistical hiding.
-/
import GabiModel.Keys
import GabiModel.HashTool
import GabiModel.Prover
import GabiProofs.NumLemmas
import GabiProofs.DerLemmas
import GabiProofs.GoMonad
import GabiProofs.ListLemmas
import Mathlib.Tactic.Ring
import Mathlib.Tactic.NormNum
import Mathlib.Data.Finset.Card
import Mathlib.Data.Finset.Image
import Mathlib.Order.Interval.Finset.Nat
import Mathlib.Algebra.BigOperators.Group.Finset.Basic
import Mathlib.Algebra.Order.Field.Basic

namespace Gabi

/-! ## the parameter sets -/

/-- `P` is one of the parameter sets of `DefaultSystemParameters` (1024, 2048, 4096). -/
def IsDefaultParams (P : SysParams) : Prop :=
  ∃ kb ∈ Gen.defaultBaseParameters, P = SysParams.ofBase kb.2

/-- the toy parameter set that `TestGenerateKeyPair` (gabi_test.go) installs for speed
    (`Ln = 256 = Lm`). -/
def toyParams : SysParams := SysParams.ofBase toyBase

/-- conditions on the *base* parameters from which every derived inequality follows. Decidable:
    `default_base_ok` evaluates them on each entry of `Gen.defaultBaseParameters`, the table that is
    extracted from gabikeys/sysparams.go. -/
abbrev BaseOK (b : Gen.BaseParams) : Prop :=
  b.Lh = 256 ∧ 256 ≤ b.Lm ∧ 1 ≤ b.LePrime ∧ b.Ln % 2 = 0 ∧
    b.Lm + b.Lstatzk + b.Lh + 1 < b.Ln - 4 ∧ b.LePrime + b.Lstatzk + b.Lh + 1 < b.Ln - 4 ∧
    b.LePrime < b.Lstatzk + b.Lh + b.Lm + 5

/-- Everything the range / soundness arguments use about a parameter set. -/
structure ParamsSound (P : SysParams) : Prop where
  /-- the challenge length is the SHA-256 output length -/
  Lh_eq : P.Lh = 256
  /-- hashed attributes (256 bits) fit into `Lm` bits -/
  Lm_ge : 256 ≤ P.Lm
  LePrime_pos : 1 ≤ P.LePrime
  Ln_even : 2 * (P.Ln / 2) = P.Ln
  Ln_ge : 8 ≤ P.Ln
  -- the derived parameters as `MakeDerivedParameters` computes them
  Le_eq : P.Le = P.Lstatzk + P.Lh + P.Lm + 5
  LeCommit_eq : P.LeCommit = P.LePrime + P.Lstatzk + P.Lh
  LmCommit_eq : P.LmCommit = P.Lm + P.Lstatzk + P.Lh
  LRA_eq : P.LRA = P.Ln + P.Lstatzk
  LsCommit_eq : P.LsCommit = P.LmCommit + 1
  Lv_eq : P.Lv = P.Ln + 2 * P.Lstatzk + P.Lh + P.Lm + 4
  LvCommit_eq : P.LvCommit = P.Lv + P.Lstatzk + P.Lh
  LvPrime_eq : P.LvPrime = P.Ln + P.Lstatzk
  LvPrimeCommit_eq : P.LvPrimeCommit = P.Ln + 2 * P.Lstatzk + P.Lh
  -- `c·m` is absorbed by the randomiser: no overflow of the response range
  hm_le : P.Lh + P.Lm ≤ P.LmCommit
  he_le : P.Lh + P.LePrime - 1 + 1 ≤ P.LeCommit + 1
  hv_le : P.LvPrime + P.Lh + 1 ≤ P.LvPrimeCommit + 1
  -- the response ranges are far below the group order (`≥ 2^(Ln-4)`)
  mResp_lt : P.LmCommit + 1 < P.Ln - 4
  eResp_lt : P.LeCommit + 1 < P.Ln - 4
  Lm_lt : P.Lm < P.Ln - 4
  LePrime_lt : P.LePrime < P.Le

theorem ofBase_sound {b : Gen.BaseParams} (h : BaseOK b) : ParamsSound (SysParams.ofBase b) := by
  obtain ⟨h1, h2, h3, h4, h5, h6, h7⟩ := h
  -- the nine definitions of derived lengths hold by `rfl`; what is left is linear in the base
  -- lengths once `ofBase` is unfolded
  refine ⟨h1, h2, h3, ?_, ?_, rfl, rfl, rfl, rfl, rfl, rfl, rfl, rfl, rfl, ?_, ?_, ?_, ?_, ?_, ?_, ?_⟩ <;>
    simp only [SysParams.ofBase, Gen.makeDerivedParameters] <;> omega

theorem default_base_ok : ∀ kb ∈ Gen.defaultBaseParameters, BaseOK kb.2 := by decide

theorem default_params_sound {P : SysParams} (h : IsDefaultParams P) : ParamsSound P := by
  obtain ⟨kb, hkb, rfl⟩ := h
  exact ofBase_sound (default_base_ok kb hkb)

/-- the fields of `ParamsSound` that `C04.derived_params_consistent` states for the default sets. -/
theorem derived_params_consistent {P : SysParams} (h : IsDefaultParams P) :
    P.Lh + P.Lm ≤ P.LmCommit ∧ P.Lh + P.LePrime - 1 + 1 ≤ P.LeCommit + 1 ∧
    P.LmCommit + 1 < P.Ln - 4 ∧ P.LeCommit + 1 < P.Ln - 4 ∧ P.Lm < P.Ln - 4 ∧
    P.LePrime < P.Le ∧ P.LvPrime + P.Lh + 1 ≤ P.LvPrimeCommit + 1 ∧
    P.Lv = P.Ln + 2 * P.Lstatzk + P.Lh + P.Lm + 4 := by
  have s := default_params_sound h
  exact ⟨s.hm_le, s.he_le, s.mResp_lt, s.eResp_lt, s.Lm_lt, s.LePrime_lt, s.hv_le, s.Lv_eq⟩

theorem isDefaultParams_of_lookup {bits : Nat} {P : SysParams} (h : defaultSysParams bits = some P) :
    IsDefaultParams P := by
  obtain ⟨b, hl, rfl⟩ := Option.map_eq_some_iff.mp h
  exact ⟨(bits, b), lookup_mem hl, rfl⟩

/-- the three default sets exist (non-vacuity of `IsDefaultParams`). -/
theorem default_sets_exist :
    (∃ P, defaultSysParams 1024 = some P) ∧ (∃ P, defaultSysParams 2048 = some P) ∧
    (∃ P, defaultSysParams 4096 = some P) := ⟨⟨_, rfl⟩, ⟨_, rfl⟩, ⟨_, rfl⟩⟩

/-- the values of the toy set that the counterexamples of GabiProofs.ParamsC01 rest on. -/
theorem toy_values : toyParams.Ln = 256 ∧ toyParams.Lm = 256 ∧ toyParams.Lh = 256 ∧
    toyParams.LmCommit = 592 ∧ toyParams.LeCommit = 456 ∧ toyParams.Le = 597 := by decide

/-! ## bit lengths and response ranges -/

theorem bitLen_le_iff {a : Int} {k : Nat} : bitLen a ≤ k ↔ |a| < 2 ^ k := by
  rw [bitLen_eq_natBitLen, natBitLen_le_iff, Int.abs_eq_natAbs]
  exact_mod_cast Iff.rfl

theorem bitLen_gt_of_two_pow_le {a : Int} {k : Nat} (h : 2 ^ k ≤ a) : k < bitLen a :=
  not_le.mp fun hc => (h.trans (le_abs_self a)).not_gt (bitLen_le_iff.mp hc)

theorem lt_two_pow_of_bitLen_le {a : Int} {k : Nat} (h : bitLen a ≤ k) : a < 2 ^ k :=
  (le_abs_self a).trans_lt (bitLen_le_iff.mp h)

theorem bitLen_le_of_lt_two_pow {a : Int} {k : Nat} (h0 : 0 ≤ a) (h : a < 2 ^ k) : bitLen a ≤ k :=
  bitLen_le_iff.mpr (by rwa [abs_of_nonneg h0])

theorem intHashSha256_lt (bs : List UInt8) : intHashSha256 bs < 2 ^ 256 :=
  ofBytesBE_hash_lt bs

theorem attrExp_range {lm : Nat} {a : Int} (ha : 0 ≤ a) :
    0 ≤ attrExp lm a ∧ attrExp lm a < 2 ^ (max lm 256) := by
  unfold attrExp
  split
  · exact ⟨Int.natCast_nonneg _, lt_of_lt_of_le (by exact_mod_cast intHashSha256_lt _)
      (pow_le_pow_right₀ one_le_two (le_max_right _ _))⟩
  · next h =>
    exact ⟨ha, lt_of_lt_of_le (lt_two_pow_of_bitLen_le (not_lt.mp h))
      (pow_le_pow_right₀ one_le_two (le_max_left _ _))⟩

theorem attrExp_lt_Lm {lm : Nat} (hlm : 256 ≤ lm) {a : Int} (ha : 0 ≤ a) :
    0 ≤ attrExp lm a ∧ attrExp lm a < 2 ^ lm := by
  have h := attrExp_range (lm := lm) ha
  rwa [max_eq_left hlm] at h

theorem attrExp_of_bitLen_le {lm : ℕ} {a : Int} (h : bitLen a ≤ lm) : attrExp lm a = a :=
  if_neg (not_lt.mpr h)

theorem attrExp_small (lm : ℕ) (a : Int) (h0 : 0 ≤ a) (h1 : a < 2 ^ lm) : attrExp lm a = a :=
  attrExp_of_bitLen_le (bitLen_le_of_lt_two_pow h0 h1)

/-- a response `r + c·m`: the product `c·m < 2^(H+M)` is absorbed by a randomiser range `2^R`
    with `H + M ≤ R`, at the price of one bit. -/
theorem response_range {R H M : Nat} (hHM : H + M ≤ R) {r c m : Int}
    (hr0 : 0 ≤ r) (hr : r < 2 ^ R) (hc0 : 0 ≤ c) (hc : c < 2 ^ H) (hm0 : 0 ≤ m) (hm : m ≤ 2 ^ M) :
    0 ≤ r + c * m ∧ r + c * m < 2 ^ (R + 1) := by
  refine ⟨add_nonneg hr0 (mul_nonneg hc0 hm0), ?_⟩
  calc r + c * m < 2 ^ R + 2 ^ H * 2 ^ M :=
        add_lt_add_of_lt_of_le hr (mul_le_mul hc.le hm hm0 (by positivity))
    _ ≤ 2 ^ R + 2 ^ R := by rw [← pow_add]; exact add_le_add_right (pow_le_pow_right₀ one_le_two hHM) _
    _ = 2 ^ (R + 1) := by ring

/-! ## `getUndisclosedAttributes`, `CreateProof`, `CreateDisclosureProof` as closed expressions -/

theorem forIn_guard {ε : Type} (D : List Int) (p : Int → Prop) [DecidablePred p] (e : ε) :
    (forIn D (PUnit.unit : PUnit.{1}) (fun v _ =>
        if p v then (do throw e; pure (ForInStep.yield PUnit.unit))
        else pure (ForInStep.yield PUnit.unit)) : Except ε PUnit.{1}) =
      if ∃ v ∈ D, p v then .error e else .ok PUnit.unit := by
  induction D with
  | nil => rw [if_neg (by simp)]; rfl
  | cons a D ih =>
    rw [List.forIn_cons]
    by_cases h : p a
    · rw [if_pos h, if_pos ⟨a, List.mem_cons_self, h⟩]; rfl
    · rw [if_neg h]
      refine ih.trans ?_
      simp only [List.exists_mem_cons_iff, h, false_or]

/-- the ascending complement of `D` in `[0, n)`. -/
def complementList (D : List Int) (n : Nat) : List Int :=
  (List.range n).filterMap fun (i : Nat) => if D.contains (Int.ofNat i) then none else some (Int.ofNat i)

theorem mem_complementList (D : List Int) (n : Nat) (i : Int) :
    i ∈ complementList D n ↔ (0 ≤ i ∧ i < n ∧ i ∉ D) := by
  unfold complementList
  simp only [List.mem_filterMap, List.mem_range, List.contains_iff_mem, Int.ofNat_eq_natCast]
  constructor
  · rintro ⟨k, hk, h⟩
    split at h
    · cases h
    · next hn => cases h; exact ⟨by omega, by omega, hn⟩
  · rintro ⟨h0, hn, hD⟩
    refine ⟨i.toNat, by omega, ?_⟩
    rw [Int.toNat_of_nonneg h0, if_neg hD]

theorem complementList_sorted (D : List Int) (n : Nat) :
    (complementList D n).Pairwise (· < ·) := by
  unfold complementList
  refine List.Pairwise.filterMap _ ?_ List.pairwise_lt_range
  intro a a' haa' b hb b' hb'
  split at hb <;> simp at hb
  split at hb' <;> simp at hb'
  subst hb hb'
  exact_mod_cast haa'

theorem getUndisclosed_eq (D : List Int) (n : Nat) : getUndisclosedAttributes D n =
    if ∃ v ∈ D, v < 0 ∨ v ≥ (n : Int) then .error (GoPanic.indexOutOfRange "check[v]")
    else .ok (complementList D n) := by
  unfold getUndisclosedAttributes
  have := forIn_guard D (fun v => v < 0 ∨ v ≥ (n : Int)) (GoPanic.indexOutOfRange "check[v]")
  simp only [ge_iff_le] at this ⊢
  rw [this]
  split <;> rfl

theorem getUndisclosed_ok {D : List Int} {n : Nat} {U : List Int}
    (h : getUndisclosedAttributes D n = .ok U) :
    U = complementList D n ∧ ∀ v ∈ D, 0 ≤ v ∧ v < (n : Int) := by
  rw [getUndisclosed_eq] at h
  split at h
  · cases h
  · next hn =>
    cases h
    refine ⟨rfl, fun v hv => ?_⟩
    by_contra hc
    exact hn ⟨v, hv, by omega⟩

theorem getUndisclosed_of_bounds {D : List Int} {n : Nat} (h : ∀ v ∈ D, 0 ≤ v ∧ v < (n : Int)) :
    getUndisclosedAttributes D n = .ok (complementList D n) := by
  rw [getUndisclosed_eq, if_neg]
  rintro ⟨v, hv, hvr⟩
  have := h v hv
  omega

theorem mapM_idx_eq {β : Type} (what : String) (attrs : List Int) (f : Int → Int → β) (l : List Int) :
    (l.mapM (fun v => do let m ← idx what attrs v; pure (f v m)) : GoM (List β)) =
      if ∀ v ∈ l, 0 ≤ v ∧ v.toNat < attrs.length then .ok (l.map fun v => f v (attrs.getD v.toNat 0))
      else .error (GoPanic.indexOutOfRange what) :=
  Except.mapM_eq_ite _ _ _ _ (fun v => by rw [idx_eq _ _ _ 0]; split <;> rfl) l

/-- the proof `CreateProof` returns when no index is outside `attrs`. -/
def honestProofD (pk : PublicKey) (attrs D U : List Int) (sigR : CLSignature)
    (rnd : DisclosureRandomness) (c : Int) : ProofD :=
  { c := some c, a := some sigR.a,
    eResponse := some (rnd.eCommit + c * (sigR.e - 2 ^ (pk.params.Le - 1))),
    vResponse := some (rnd.vCommit + c * sigR.v),
    aResponses := U.map fun v =>
      (v, some (rnd.attrRand v + c * attrExp pk.params.Lm (attrs.getD v.toNat 0))),
    aDisclosed := D.map fun v => (v, some (attrs.getD v.toNat 0)),
    nonrev := none, rangeProofs := none }

theorem disclosureCreateProof_eq (pk : PublicKey) (attrs D U : List Int)
    (sigR : CLSignature) (rnd : DisclosureRandomness) (c : Int) :
    disclosureCreateProof pk attrs D U sigR rnd c =
      if (∀ v ∈ U, 0 ≤ v ∧ v.toNat < attrs.length) ∧ (∀ v ∈ D, 0 ≤ v ∧ v.toNat < attrs.length) then
        .ok (honestProofD pk attrs D U sigR rnd c)
      else .error (GoPanic.indexOutOfRange "attributes[v]") := by
  unfold disclosureCreateProof
  simp only []  -- reduces the `let`s of the model definition, here and below
  rw [mapM_idx_eq "attributes[v]" attrs (fun v m => (v, some (rnd.attrRand v + c * attrExp pk.params.Lm m))),
      mapM_idx_eq "attributes[v]" attrs (fun v m => (v, some m))]
  by_cases hU : ∀ v ∈ U, 0 ≤ v ∧ v.toNat < attrs.length
  · by_cases hD : ∀ v ∈ D, 0 ≤ v ∧ v.toNat < attrs.length
    · rw [if_pos hU, if_pos hD, if_pos ⟨hU, hD⟩]; rfl
    · rw [if_pos hU, if_neg hD, if_neg (mt And.right hD)]; rfl
  · rw [if_neg hU, if_neg (mt And.left hU)]; rfl

theorem disclosureCreateProof_ok {pk : PublicKey} {attrs D U : List Int} {sigR : CLSignature}
    {rnd : DisclosureRandomness} {c : Int} {p : ProofD}
    (h : disclosureCreateProof pk attrs D U sigR rnd c = .ok p) :
    ((∀ v ∈ U, 0 ≤ v ∧ v.toNat < attrs.length) ∧ ∀ v ∈ D, 0 ≤ v ∧ v.toNat < attrs.length) ∧
      p = honestProofD pk attrs D U sigR rnd c := by
  rw [disclosureCreateProof_eq] at h
  split at h
  · next hidx => exact ⟨hidx, (Except.ok.inj h).symm⟩
  · cases h

theorem createDisclosureProof_ok {pk : PublicKey} {sig : CLSignature} {attrs D : List Int}
    {rnd : DisclosureRandomness} {context nonce : Int} {issig : Bool} {p : ProofD}
    (h : createDisclosureProof pk sig attrs D rnd context nonce issig = .ok p) :
    ∃ commit, (∀ v ∈ D, 0 ≤ v ∧ v < (attrs.length : Int)) ∧
      disclosureCommit pk (clRandomize pk sig rnd.r) rnd (complementList D attrs.length) = .ok commit ∧
      disclosureCreateProof pk attrs D (complementList D attrs.length) (clRandomize pk sig rnd.r) rnd
        (createChallenge context nonce commit issig) = .ok p := by
  unfold createDisclosureProof at h
  obtain ⟨U, hU, h⟩ := GoM.bind_ok_iff.mp h
  obtain ⟨rfl, hD⟩ := getUndisclosed_ok hU
  obtain ⟨commit, hc, h⟩ := GoM.bind_ok_iff.mp h
  exact ⟨commit, hD, hc, h⟩

/-! ## counting bound behind statistical hiding -/

section Counting
open Finset

theorem image_add_range (N x : Nat) : (range N).image (· + x) = Ico x (N + x) := by
  ext y
  simp only [mem_image, mem_range, mem_Ico]
  constructor
  · rintro ⟨r, hr, rfl⟩; omega
  · rintro ⟨h1, h2⟩; exact ⟨y - x, by omega, by omega⟩

theorem image_add_range_card (N x : Nat) : ((range N).image (· + x)).card = N := by
  rw [card_image_of_injective _ (add_left_injective x), card_range]

/-- shifted windows of length `N` with offsets `x, x' ≤ B` differ in at most `B` points. -/
theorem shifted_range_sdiff_card_le (N B x x' : Nat) (hx : x ≤ B) (hx' : x' ≤ B) :
    ((range N).image (· + x) \ (range N).image (· + x')).card ≤ B := by
  rw [image_add_range, image_add_range]
  have hsub : Ico x (N + x) \ Ico x' (N + x') ⊆ Ico x x' ∪ Ico (N + x') (N + x) := by
    intro y
    simp only [mem_sdiff, mem_Ico, mem_union]
    omega
  calc (Ico x (N + x) \ Ico x' (N + x')).card
      ≤ (Ico x x').card + (Ico (N + x') (N + x)).card := (card_le_card hsub).trans (card_union_le _ _)
    _ ≤ B := by rw [Nat.card_Ico, Nat.card_Ico]; omega

/-- statistical (total-variation) distance between the uniform distributions on two finite sets
    `A`, `A'` of `N` naturals each: `½ · Σ_y |Pr[y ∈ A] − Pr[y ∈ A']|`. -/
def uniformStatDist (A A' : Finset Nat) (N : Nat) : ℚ :=
  (1 / 2) * ∑ y ∈ A ∪ A', |(if y ∈ A then (1 : ℚ) / N else 0) - (if y ∈ A' then (1 : ℚ) / N else 0)|

theorem uniformStatDist_eq (A A' : Finset Nat) (N : Nat) :
    uniformStatDist A A' N = (((A \ A').card + (A' \ A).card : Nat) : ℚ) / (2 * N) := by
  -- each point of the symmetric difference contributes `1/N`, every other point `0`
  have hterm : ∀ y ∈ A ∪ A',
      |(if y ∈ A then (1 : ℚ) / N else 0) - (if y ∈ A' then (1 : ℚ) / N else 0)| =
      if y ∈ A \ A' ∪ A' \ A then (1 : ℚ) / N else 0 := by
    intro y _
    by_cases h1 : y ∈ A <;> by_cases h2 : y ∈ A' <;> simp [h1, h2]
  rw [uniformStatDist, sum_congr rfl hterm, ← sum_filter, filter_mem_eq_inter,
    inter_eq_right.mpr (union_subset_union sdiff_subset sdiff_subset), sum_const,
    card_union_of_disjoint disjoint_sdiff_sdiff, nsmul_eq_mul]
  ring

end Counting

/-! ## the honest prover's responses pass `correctResponseSizes` -/

theorem mResponse_in_range {P : SysParams} (hP : ParamsSound P) {r c m : Int}
    (hr0 : 0 ≤ r) (hr : r < 2 ^ P.LmCommit) (hc0 : 0 ≤ c) (hc : c < 2 ^ P.Lh)
    (hm0 : 0 ≤ m) (hm : m < 2 ^ P.Lm) :
    0 ≤ r + c * m ∧ r + c * m < 2 ^ (P.LmCommit + 1) :=
  response_range hP.hm_le hr0 hr hc0 hc hm0 hm.le

theorem eResponse_in_range {P : SysParams} (hP : ParamsSound P) {eCommit c e : Int}
    (hr0 : 0 ≤ eCommit) (hr : eCommit < 2 ^ P.LeCommit) (hc0 : 0 ≤ c) (hc : c < 2 ^ P.Lh)
    (he0 : 2 ^ (P.Le - 1) ≤ e) (he : e ≤ 2 ^ (P.Le - 1) + 2 ^ (P.LePrime - 1)) :
    0 ≤ eCommit + c * (e - 2 ^ (P.Le - 1)) ∧ eCommit + c * (e - 2 ^ (P.Le - 1)) < 2 ^ (P.LeCommit + 1) :=
  have hHM : P.Lh + (P.LePrime - 1) ≤ P.LeCommit := by
    have := hP.he_le
    have := hP.LePrime_pos
    omega
  response_range hHM hr0 hr hc0 hc (sub_nonneg.mpr he0) (sub_le_iff_le_add'.mpr he)

theorem eInInterval_iff (P : SysParams) (e : Int) :
    eInInterval P e = true ↔ 2 ^ (P.Le - 1) ≤ e ∧ e ≤ 2 ^ (P.Le - 1) + 2 ^ (P.LePrime - 1) := by
  simp [eInInterval]

theorem attrRand_range {P : SysParams} {rnd : DisclosureRandomness} (h : rnd.InRange P) (v : Int) :
    0 ≤ rnd.attrRand v ∧ rnd.attrRand v < 2 ^ P.LmCommit := by
  unfold DisclosureRandomness.attrRand
  cases hl : rnd.attr.lookup v with
  | none => exact ⟨le_refl _, by positivity⟩
  | some x => exact h.2.2.2.2.2.2 (v, x) (lookup_mem hl)

theorem foldlM_sizes_ok (maxA : Int) (l : IntMap)
    (h : ∀ kv ∈ l, ∃ r, kv.2 = some r ∧ 0 ≤ r ∧ r ≤ maxA) :
    (l.foldlM (fun (ok : Bool) (kv : Int × Option Int) => do
        let r ← deref "AResponse" kv.2
        pure (ok && !(decide (r < 0) || decide (r > maxA)))) true : GoM Bool) = .ok true := by
  induction l with
  | nil => rfl
  | cons kv l ih =>
    obtain ⟨r, hr, h0, h1⟩ := h kv List.mem_cons_self
    rw [List.foldlM_cons, hr]
    have : (decide (r < 0) || decide (r > maxA)) = false := by
      rw [Bool.or_eq_false_iff, decide_eq_false_iff_not, decide_eq_false_iff_not]
      omega
    show List.foldlM _ (true && !(decide (r < 0) || decide (r > maxA))) l = _
    rw [this]
    exact ih fun kv' hkv' => h kv' (List.mem_cons_of_mem _ hkv')

theorem correctResponseSizes_of_ranges {pk : PublicKey} {p : ProofD} {e : Int}
    (hA : ∀ kv ∈ p.aResponses, ∃ r, kv.2 = some r ∧ 0 ≤ r ∧ r ≤ 2 ^ (pk.params.LmCommit + 1) - 1)
    (he : p.eResponse = some e) (he0 : 0 ≤ e) (he1 : e ≤ 2 ^ (pk.params.LeCommit + 1) - 1) :
    p.correctResponseSizes pk = .ok true := by
  unfold ProofD.correctResponseSizes
  simp only []
  rw [foldlM_sizes_ok _ _ hA, he]
  show (Except.ok (decide _ && decide _) : GoM Bool) = _
  rw [decide_eq_true he0, decide_eq_true he1]; rfl

end Gabi
