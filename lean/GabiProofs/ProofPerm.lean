/-
  GabiProofs.ProofPerm — verification (`ProofD.Verify`, `ProofList.Verify`) does not depend on the
  order in which the association lists that model Go maps (`AResponses`, `ADisclosed`,
  `MUserResponses`, the responses of the non-revocation proof, the range-proof map) are listed, as
  long as keys that are looked up are distinct.
-/
import GabiProofs.OmittedFields

namespace Gabi

/-! ## lookups and folds over permuted lists -/

theorem IntMap.get_perm {m m' : IntMap} (hp : m.Perm m') (hnd : (m.map (·.1)).Nodup) (k : Int) :
    m.get k = m'.get k := by
  unfold IntMap.get
  rw [lookup_perm hp hnd]

theorem IntMap.has_perm {m m' : IntMap} (hp : m.Perm m') (hnd : (m.map (·.1)).Nodup) (k : Int) :
    m.has k = m'.has k := by
  unfold IntMap.has
  rw [lookup_perm hp hnd]

/-- a product accumulated in `GoM`, one factor per member, panicking with `e` where there is
    none: the four ways two steps can go commute. -/
theorem foldlM_mul_perm {α} {f : Int → α → GoM Int} {fac : α → Option Int} {e : GoPanic} {l l' : List α}
    (hp : l.Perm l')
    (hf : ∀ a ∈ l, ∀ num, f num a = match fac a with
      | some t => .ok (num * t)
      | none => .error e) (num0 : Int) :
    l.foldlM f num0 = l'.foldlM f num0 := by
  apply foldlM_perm hp
  intro a ha b hb s
  simp only [hf a ha, hf b hb]
  cases fac a with
  | none => cases fac b <;> rfl
  | some ta => cases fac b with
    | none => rfl
    | some tb => exact congrArg Except.ok (mul_right_comm s ta tb)

/-! ## proofs that are equal up to the order of their maps -/

structure NonRevProof.PermEq (p q : NonRevProof) : Prop where
  cr : p.cr = q.cr
  cu : p.cu = q.cu
  nu : p.nu = q.nu
  challenge : p.challenge = q.challenge
  responses : p.responses.Perm q.responses
  sacc : p.sacc = q.sacc

/-- same scalar members, every map a permutation of its counterpart. -/
structure ProofD.PermEq (p q : ProofD) : Prop where
  c : p.c = q.c
  a : p.a = q.a
  eResponse : p.eResponse = q.eResponse
  vResponse : p.vResponse = q.vResponse
  aResponses : p.aResponses.Perm q.aResponses
  aDisclosed : p.aDisclosed.Perm q.aDisclosed
  nonrev : OptRel NonRevProof.PermEq p.nonrev q.nonrev
  rangeProofs : OptRel List.Perm p.rangeProofs q.rangeProofs

/-- the keys that verification looks up are distinct: hidden-attribute indices, response names
    (other than "alpha", which `SetExpected` replaces), range-proof indices. `ADisclosed` is only
    ever traversed, so it needs no such condition. -/
structure ProofD.KeysNodup (p : ProofD) : Prop where
  aResponses : (p.aResponses.map (·.1)).Nodup
  nonrev : ∀ nr, p.nonrev = some nr → ((nr.responses.filter (·.1 ≠ "alpha")).map (·.1)).Nodup
  rangeProofs : ∀ m, p.rangeProofs = some m → (m.map (·.1)).Nodup

theorem OptRel.getD_perm {α} {x y : Option (List α)} (h : OptRel List.Perm x y) :
    (x.getD []).Perm (y.getD []) := by
  rcases h.cases with ⟨rfl, rfl⟩ | ⟨a, b, rfl, rfl, hab⟩
  · exact List.Perm.refl _
  · exact hab

theorem ProofD.wellFormed_perm (pk : PublicKey) {p q : ProofD} (h : p.PermEq q)
    (hnd : (p.aResponses.map (·.1)).Nodup) : p.wellFormed pk = q.wellFormed pk := by
  have hhas : p.aResponses.has = q.aResponses.has := funext (IntMap.has_perm h.aResponses hnd)
  unfold ProofD.wellFormed
  rw [h.c, h.a, h.eResponse, h.vResponse, IntMap.get_perm h.aResponses hnd 0, h.aResponses.all_eq, hhas,
    h.aDisclosed.all_eq, (OptRel.getD_perm h.rangeProofs).all_eq]

/-! ## `reconstructZ`: two commutative products -/

/-- the factor a disclosed attribute contributes to the numerator. -/
def discFactor (pk : PublicKey) (kv : Int × Option Int) : Option Int :=
  match kv.2, pk.r[kv.1.toNat]? with
  | some attr, some b => goExp b (attrExp pk.params.Lm attr) pk.n
  | _, _ => none

theorem ProofD.disclosedStep_eq (pk : PublicKey) (kv : Int × Option Int)
    (h : kv.2.isSome ∧ 0 ≤ kv.1 ∧ kv.1 < pk.r.length) (num : Int) :
    ProofD.disclosedStep pk num kv =
      match discFactor pk kv with
      | some t => .ok (num * t)
      | none => .error (.nilDeref "Exp") := by
  obtain ⟨i, v⟩ := kv
  obtain ⟨attr, rfl⟩ := Option.isSome_iff_exists.mp h.1
  obtain ⟨b, hb, hb'⟩ := idx_eq_getElem? "R[i]" h.2.1 h.2.2
  simp only [ProofD.disclosedStep, deref_some, GoM.ok_bind, hb, discFactor, hb']
  cases goExp b (attrExp pk.params.Lm attr) pk.n <;> rfl

/-- the factor a hidden attribute's response contributes. -/
def respFactor (pk : PublicKey) (kv : Int × Option Int) : Option Int :=
  match kv.2, pk.r[kv.1.toNat]? with
  | some r, some b => modPow b r pk.n
  | _, _ => none

/-- one step of a product over responses, `op` combining accumulator and factor (`none`: the
    error return of `ModPow`). -/
def accStep (op : Int → Int → Int) (pk : PublicKey) (acc : Option Int) (kv : Int × Option Int) : Option Int :=
  match acc, respFactor pk kv with
  | some a, some t => some (op a t)
  | _, _ => none

theorem accStep_foldl_none (op : Int → Int → Int) (pk : PublicKey) (l : IntMap) :
    l.foldl (accStep op pk) none = none := by
  induction l with
  | nil => rfl
  | cons kv l ih => exact ih

theorem accStep_comm {op : Int → Int → Int} (hop : ∀ a x y, op (op a x) y = op (op a y) x) (pk : PublicKey)
    (acc : Option Int) (a b : Int × Option Int) :
    accStep op pk (accStep op pk acc a) b = accStep op pk (accStep op pk acc b) a := by
  unfold accStep
  cases acc with
  | none => rfl
  | some x => cases respFactor pk a with
    | none => cases respFactor pk b <;> rfl
    | some ta => cases respFactor pk b with
      | none => rfl
      | some tb => exact congrArg some (hop x ta tb)

/-- a loop of the shape of `reconstructZ.go` and `reconstructUcommit.go` (`w`: what the nil check
    is called, `op`: how a factor enters the product) over entries that are non-nil and index a
    base is the fold of `accStep op`; if `op` commutes in this sense, the order of the entries does
    not matter. -/
theorem go_perm (pk : PublicKey) (w : String) {op : Int → Int → Int}
    (hop : ∀ a x y, op (op a x) y = op (op a y) x) {go : IntMap → Int → GoM (Option Int)}
    (hnil : ∀ acc, go [] acc = pure (some acc))
    (hcons : ∀ i r rest acc, go ((i, r) :: rest) acc = do
      let b ← idx "R[i]" pk.r i
      let r ← deref w r
      match modPow b r pk.n with
      | some t => go rest (op acc t)
      | none => pure none)
    {l l' : IntMap} (hp : l.Perm l') (h : ∀ kv ∈ l, kv.2.isSome ∧ 0 ≤ kv.1 ∧ kv.1 < pk.r.length)
    (acc : Int) : go l acc = go l' acc := by
  have key : ∀ l : IntMap, (∀ kv ∈ l, kv.2.isSome ∧ 0 ≤ kv.1 ∧ kv.1 < pk.r.length) → ∀ acc,
      go l acc = .ok (l.foldl (accStep op pk) (some acc)) := by
    intro l h
    induction l with
    | nil => exact hnil
    | cons kv rest ih =>
      intro acc
      obtain ⟨i, v⟩ := kv
      obtain ⟨hv, h0, h1⟩ := h (i, v) (List.mem_cons_self ..)
      obtain ⟨r, rfl⟩ := Option.isSome_iff_exists.mp hv
      obtain ⟨b, hb, hb'⟩ := idx_eq_getElem? "R[i]" h0 h1
      rw [hcons]
      simp only [hb, deref_some, GoM.ok_bind, List.foldl_cons, accStep, respFactor, hb']
      cases modPow b r pk.n with
      | none =>
        simp only []
        rw [accStep_foldl_none]
        rfl
      | some t =>
        simp only []
        exact ih (fun kv' hkv' => h kv' (List.mem_cons_of_mem _ hkv')) _
  rw [key l h, key l' (fun kv hkv => h kv (hp.symm.subset hkv))]
  congr 1
  exact hp.foldl_eq' (fun a _ b _ acc => accStep_comm hop pk acc a b) _

/-- `reconstructZ` of a well-formed proof does not depend on the order of `ADisclosed` and
    `AResponses` (no distinctness needed: both are only traversed, the products commute). For
    proofs that are not well-formed the statement is false — which panic is hit first depends on
    the order — but `ChallengeContribution` checks `wellFormed` first. -/
theorem ProofD.reconstructZ_perm (pk : PublicKey) {p q : ProofD} (h : p.PermEq q)
    (hw : p.wellFormed pk = true) : p.reconstructZ pk = q.reconstructZ pk := by
  rw [ProofD.wellFormed_iff] at hw
  obtain ⟨_, _, hA, hD, _⟩ := hw
  have hfold := foldlM_mul_perm h.aDisclosed fun kv hkv =>
    ProofD.disclosedStep_eq pk kv ⟨(hD kv hkv).1, (hD kv hkv).2.1, (hD kv hkv).2.2.1⟩
  have hgo := go_perm pk "AResponse" mul_right_comm (go := ProofD.reconstructZ.go pk) (fun _ => rfl)
    (fun _ _ _ _ => rfl) h.aResponses hA 1
  rw [ProofD.reconstructZ_eq, ProofD.reconstructZ_eq, h.a, h.c, h.eResponse, h.vResponse, hgo]
  -- the fold stands under the binder of its initial value
  simp only [hfold]

/-! ## the non-revocation proof: responses are read by name -/

theorem NonRevProof.response_perm {p q : NonRevProof} (h : p.responses.Perm q.responses)
    (hnd : (p.responses.map (·.1)).Nodup) : p.response = q.response := by
  funext name
  unfold NonRevProof.response
  rw [lookup_perm h hnd]

theorem NonRevProof.structureOk_perm {p q : NonRevProof} (h : p.PermEq q)
    (hnd : (p.responses.map (·.1)).Nodup) : p.structureOk = q.structureOk := by
  unfold NonRevProof.structureOk
  rw [NonRevProof.response_perm h.responses hnd, h.cr, h.cu, h.nu, h.challenge]

theorem NonRevProof.basesAreUnits_perm (pk : PublicKey) {p q : NonRevProof} (h : p.PermEq q) :
    p.basesAreUnits pk = q.basesAreUnits pk := by
  unfold NonRevProof.basesAreUnits
  rw [h.cr, h.cu, h.responses.all_eq]

theorem Misc.setExpectedResult_perm {p q : NonRevProof} (h : p.PermEq q) (nu c r : Int) :
    (Misc.setExpectedResult p nu c r).PermEq (Misc.setExpectedResult q nu c r) :=
  ⟨h.cr, h.cu, rfl, rfl, List.Perm.cons _ (h.responses.filter _), h.sacc⟩

theorem Misc.setExpectedResult_nodup {p : NonRevProof}
    (hnd : ((p.responses.filter (·.1 ≠ "alpha")).map (·.1)).Nodup) (nu c r : Int) :
    ((Misc.setExpectedResult p nu c r).responses.map (·.1)).Nodup := by
  show (("alpha" :: (p.responses.filter (·.1 ≠ "alpha")).map (·.1))).Nodup
  rw [List.nodup_cons]
  refine ⟨?_, hnd⟩
  intro hm
  obtain ⟨x, hx, hxa⟩ := List.mem_map.mp hm
  have := (List.mem_filter.mp hx).2
  simp [hxa] at this

theorem NonRevProof.setExpected_perm (o : SigOracle) (kid : String) (pk : PublicKey) {p q : NonRevProof}
    (h : p.PermEq q) (hnd : ((p.responses.filter (·.1 ≠ "alpha")).map (·.1)).Nodup) (c r : Int) :
    OptRel (fun p' q' => p'.PermEq q' ∧ (p'.responses.map (·.1)).Nodup)
      (p.setExpected o kid pk c r) (q.setExpected o kid pk c r) := by
  rw [NonRevProof.setExpected_eq, NonRevProof.setExpected_eq, ← h.cr, ← h.cu, ← h.sacc]
  by_cases h1 : (p.cr.isNone || p.cu.isNone) = true
  · rw [if_pos h1, if_pos h1]
    trivial
  rw [if_neg h1, if_neg h1]
  cases p.sacc with
  | none => trivial
  | some sacc =>
    simp only [Option.bind_some]
    by_cases h2 : (pk.g.isNone || pk.h.isNone || !pk.hasEcdsa) = true
    · rw [if_pos h2, if_pos h2]
      trivial
    rw [if_neg h2, if_neg h2]
    cases sacc.unmarshalVerify o kid pk with
    | none => trivial
    | some acc =>
      simp only [Option.bind_some]
      cases acc.nu with
      | none => trivial
      | some nu =>
        simp only [Option.bind_some]
        have hpe := Misc.setExpectedResult_perm h nu c r
        have hnd' := Misc.setExpectedResult_nodup hnd nu c r
        rw [← NonRevProof.structureOk_perm hpe hnd', ← NonRevProof.basesAreUnits_perm pk hpe]
        split
        · trivial
        · exact ⟨hpe, hnd'⟩

theorem NonRevProof.challengeContributions_perm (pk : PublicKey) {p q : NonRevProof} (h : p.PermEq q)
    (hnd : (p.responses.map (·.1)).Nodup) : p.challengeContributions pk = q.challengeContributions pk := by
  have hb : revBases pk p = revBases pk q := by
    funext name
    unfold revBases
    rw [h.cu, h.cr, h.nu]
  unfold NonRevProof.challengeContributions
  rw [h.cr, h.cu, h.nu, h.challenge, NonRevProof.response_perm h.responses hnd, hb]

theorem NonRevProof.verifyWithChallenge_perm (o : SigOracle) (kid : String) (pk : PublicKey)
    {p q : NonRevProof} (h : p.PermEq q) (hnd : (p.responses.map (·.1)).Nodup) (c' : Int) :
    p.verifyWithChallenge o kid pk c' = q.verifyWithChallenge o kid pk c' := by
  unfold NonRevProof.verifyWithChallenge
  rw [h.sacc, NonRevProof.structureOk_perm h hnd, NonRevProof.basesAreUnits_perm pk h,
    NonRevProof.response_perm h.responses hnd, h.nu, h.challenge]

/-! ## range proofs: structures and contributions are looked up by attribute index -/

/-- traversing a permuted list with a function that does not panic yields a permuted result (or
    the error return in both cases). -/
theorem GoE.mapM_perm {α β} (g : α → GoE β) {l l' : List α} (hp : l.Perm l')
    (hok : ∀ a ∈ l, GoE.IsOk (g a)) : GoE.Rel List.Perm (l.mapM g) (l'.mapM g) := by
  induction hp with
  | nil => exact GoE.Rel.pure (List.Perm.refl _)
  | cons x _ ih =>
    rw [List.mapM_cons, List.mapM_cons]
    apply GoE.Rel.bind_same
    intro b
    apply GoE.Rel.bind (ih (fun a ha => hok a (List.mem_cons_of_mem _ ha)))
    intro bs bs' hbs
    exact GoE.Rel.pure (List.Perm.cons b hbs)
  | swap x y l =>
    simp only [List.mapM_cons, bind_assoc, pure_bind]
    apply GoE.Rel.swap (hok y (List.mem_cons_self ..)) (hok x (List.mem_cons_of_mem _ (List.mem_cons_self ..)))
    intro b b'
    apply GoE.Rel.bind_same
    intro bs
    exact GoE.Rel.pure (List.Perm.swap b' b bs)
  | trans h1 _ ih1 ih2 =>
    exact GoE.Rel.trans (ih1 hok) (ih2 (fun a ha => hok a (h1.symm.subset ha))) (fun _ _ _ => List.Perm.trans)

theorem ProofD.maxAttribute_perm {p q : ProofD} (h : p.aResponses.Perm q.aResponses) :
    p.maxAttribute = q.maxAttribute := by
  unfold ProofD.maxAttribute
  apply h.foldl_eq'
  intro x _ y _ m
  simp only [gt_iff_lt, ← max_def_lt]
  exact max_right_comm m x.1 y.1

theorem ProofD.rangeIndices_perm {p q : ProofD} (h : p.aResponses.Perm q.aResponses) :
    p.rangeIndices = q.rangeIndices := by
  unfold ProofD.rangeIndices
  rw [ProofD.maxAttribute_perm h]

theorem extractAll_perm (pk : PublicKey) {rps rps' : RPMap} (hp : rps.Perm rps')
    (hsome : ∀ kv ∈ rps, ∀ rp ∈ kv.2, rp.isSome) :
    GoE.Rel List.Perm (extractAll pk rps) (extractAll pk rps') := by
  unfold extractAll
  apply GoE.mapM_perm _ hp
  intro kv hkv
  apply GoE.isOk_bind
  · apply GoE.mapM_isOk
    intro rp hrp
    exact extractStep_isOk pk kv.1 (hsome kv hkv rp hrp)
  · intro _ _; exact GoE.isOk_pure _

theorem extractAll_keys {pk : PublicKey} {rps : RPMap} {structs : List (Int × List RangeStructure)}
    (h : (extractAll pk rps).run = .ok (some structs)) : structs.map (·.1) = rps.map (·.1) := by
  have := extractAll_ok_some h
  clear h
  induction this with
  | nil => rfl
  | cons hab _ ih => simp only [List.map_cons, ih, hab.1]

theorem rangeOuter_perm (pk : PublicKey) {p q : ProofD} (hget : p.aResponses.get = q.aResponses.get) (c : Int)
    {structs structs' : List (Int × List RangeStructure)} {rps rps' : RPMap}
    (hs : ∀ k, structs.lookup k = structs'.lookup k) (hr : ∀ k, rps.lookup k = rps'.lookup k) (index : Int)
    (st st' : List Int × RPMap) (hst : st.1 = st'.1 ∧ st.2.Perm st'.2) :
    GoE.Rel (StepRel (fun s s' : List Int × RPMap => s.1 = s'.1 ∧ s.2.Perm s'.2))
      (rangeOuter pk p c structs rps index st) (rangeOuter pk q c structs' rps' index st') := by
  unfold rangeOuter
  rw [← hs index, ← hr index, ← hget]
  cases structs.lookup index with
  | none => exact GoE.Rel.pure hst
  | some ss =>
    cases rps.lookup index with
    | none => exact GoE.Rel.pure hst
    | some proofs =>
      simp only []
      apply GoE.Rel.bind_same
      intro mresp
      rw [hst.1]
      apply GoE.Rel.bind_same
      intro st1
      exact GoE.Rel.pure ⟨rfl, hst.2.map _⟩

/-- the range-proof part of `ChallengeContribution` under permutation of `AResponses` and of the
    range-proof map: same contributions, permuted updated map. -/
theorem ProofD.rangeContributions_perm (pk : PublicKey) {p q : ProofD} (c : Int)
    (har : p.aResponses.Perm q.aResponses) (hnd : (p.aResponses.map (·.1)).Nodup)
    (hrp : OptRel List.Perm p.rangeProofs q.rangeProofs)
    (hrnd : ∀ m, p.rangeProofs = some m → (m.map (·.1)).Nodup)
    (hsome : ∀ m, p.rangeProofs = some m → ∀ kv ∈ m, ∀ rp ∈ kv.2, rp.isSome) :
    GoE.Rel (fun r r' => r.1 = r'.1 ∧ OptRel List.Perm r.2 r'.2)
      (p.rangeContributions pk c) (q.rangeContributions pk c) := by
  rw [ProofD.rangeContributions_eq, ProofD.rangeContributions_eq, ← ProofD.rangeIndices_perm har]
  have hget : p.aResponses.get = q.aResponses.get := funext (IntMap.get_perm har hnd)
  rcases hrp.cases with ⟨hp, hq⟩ | ⟨rps, rps', hp, hq, hperm⟩
  · rw [hp, hq]
    exact GoE.Rel.pure ⟨rfl, trivial⟩
  · rw [hp, hq]
    simp only []
    apply GoE.Rel.bind ((extractAll_perm pk hperm (hsome rps hp)).and_left (fun s hs => extractAll_keys hs))
    rintro structs structs' ⟨hsp, hkeys⟩
    have hs : ∀ k, structs.lookup k = structs'.lookup k :=
      lookup_perm hsp (by rw [hkeys]; exact hrnd rps hp)
    have hr : ∀ k, rps.lookup k = rps'.lookup k := lookup_perm hperm (hrnd rps hp)
    apply GoE.Rel.bind (Q := fun st st' : List Int × RPMap => st.1 = st'.1 ∧ st.2.Perm st'.2)
    · apply forIn_rel GoE.Rel GoE.Rel.pure GoE.Rel.bind (Q := Eq) (List.forall₂_eq_eq_eq ▸ rfl)
      · intro a a' haa' s s' hss'
        subst haa'
        exact rangeOuter_perm pk hget c hs hr a s s' hss'
      · exact ⟨rfl, hperm⟩
    · intro st st' hst
      exact GoE.Rel.pure ⟨hst.1, hst.2⟩

/-! ## `ProofD.Verify` -/

theorem ProofD.correctResponseSizes_perm (pk : PublicKey) {p q : ProofD} (h : p.PermEq q)
    (hsome : ∀ kv ∈ p.aResponses, kv.2.isSome) : p.correctResponseSizes pk = q.correctResponseSizes pk := by
  unfold ProofD.correctResponseSizes
  simp only []
  rw [← h.eResponse]
  congr 1
  apply foldlM_perm h.aResponses
  intro a ha b hb s
  obtain ⟨ra, hra⟩ := Option.isSome_iff_exists.mp (hsome a ha)
  obtain ⟨rb, hrb⟩ := Option.isSome_iff_exists.mp (hsome b hb)
  simp only [hra, hrb, deref_some, GoM.ok_bind, GoM.pure_eq_ok]
  rw [Bool.and_right_comm]

/-- the lookups of a proof are unambiguous (as after `SetExpected`): hidden-attribute indices
    and all response names are distinct. -/
structure ProofD.RespNodup (p : ProofD) : Prop where
  aResponses : (p.aResponses.map (·.1)).Nodup
  nonrev : ∀ nr, p.nonrev = some nr → (nr.responses.map (·.1)).Nodup

theorem ProofD.verifyWithChallenge_perm (o : SigOracle) (kid : String) (pk : PublicKey) {p q : ProofD}
    (h : p.PermEq q) (hnd : p.RespNodup) (i c' : Int) :
    p.verifyWithChallenge o kid pk i c' = q.verifyWithChallenge o kid pk i c' := by
  unfold ProofD.verifyWithChallenge
  rw [← ProofD.wellFormed_perm pk h hnd.aResponses]
  by_cases hw : p.wellFormed pk = true
  · have hsome : ∀ kv ∈ p.aResponses, kv.2.isSome := by
      rw [ProofD.wellFormed_iff] at hw
      exact fun kv hkv => (hw.2.2.1 kv hkv).1
    simp only [hw, Bool.not_true, Bool.false_eq_true, if_false]
    rw [← ProofD.correctResponseSizes_perm pk h hsome, ← h.c, ← IntMap.get_perm h.aResponses hnd.aResponses]
    rcases h.nonrev.cases with ⟨hp, hq⟩ | ⟨nr, nr', hp, hq, hpe⟩
    · rw [hp, hq]
    · rw [hp, hq]
      simp only []
      rw [← NonRevProof.verifyWithChallenge_perm o kid pk hpe (hnd.nonrev nr hp),
        ← NonRevProof.response_perm hpe.responses (hnd.nonrev nr hp)]
  · simp only [hw, Bool.not_false, if_true]

/-- `ChallengeContribution` of two proofs that are equal up to order: same contributions; the
    updated proofs are equal up to order and have unambiguous lookups. -/
theorem ProofD.challengeContribution_perm (o : SigOracle) (kid : String) (pk : PublicKey) {p q : ProofD}
    (h : p.PermEq q) (hnd : p.KeysNodup) (i : Int) :
    GoE.Rel (fun r r' => r.1 = r'.1 ∧ r.2.PermEq r'.2 ∧ r.2.RespNodup)
      (p.challengeContribution o kid pk i) (q.challengeContribution o kid pk i) := by
  unfold ProofD.challengeContribution
  simp only []
  rw [← ProofD.wellFormed_perm pk h hnd.aResponses]
  by_cases hw : p.wellFormed pk = true
  · simp only [hw, Bool.not_true, Bool.false_eq_true, if_false]
    rw [← ProofD.reconstructZ_perm pk h hw, ← h.a, ← h.c, ← IntMap.get_perm h.aResponses hnd.aResponses]
    have hrsome : ∀ m, p.rangeProofs = some m → ∀ kv ∈ m, ∀ rp ∈ kv.2, rp.isSome := by
      intro m hm kv hkv
      rw [ProofD.wellFormed_iff] at hw
      exact (hw.2.2.2.2.1 kv (by rw [hm]; exact hkv)).2
    apply GoE.Rel.bind_same; intro z
    apply GoE.Rel.bind_same; intro a
    apply GoE.Rel.bind_same; intro c
    rcases h.nonrev.cases with ⟨hp, hq⟩ | ⟨nr, nr', hp, hq, hpe⟩
    · rw [hp, hq]
      simp only []
      apply GoE.Rel.bind (ProofD.rangeContributions_perm pk c h.aResponses hnd.aResponses h.rangeProofs
        hnd.rangeProofs hrsome)
      intro r r' hr
      apply GoE.Rel.pure
      refine ⟨by rw [hr.1], ⟨rfl, rfl, h.eResponse, h.vResponse, h.aResponses, h.aDisclosed, trivial, hr.2⟩,
        hnd.aResponses, ?_⟩
      rintro nr ⟨⟩
    · rw [hp, hq]
      simp only []
      apply GoE.Rel.bind_same; intro resp
      rcases (NonRevProof.setExpected_perm o kid pk hpe (hnd.nonrev nr hp) c resp).cases with
        ⟨hs, hs'⟩ | ⟨x, x', hs, hs', hxe, hxnd⟩
      · rw [hs, hs']
        exact GoE.Rel.failure_bind _ _
      · rw [hs, hs']
        simp only []
        rw [← NonRevProof.challengeContributions_perm pk hxe hxnd]
        apply GoE.Rel.bind_same; intro contrib
        apply GoE.Rel.bind (ProofD.rangeContributions_perm pk
          (p := { p with nonrev := some x }) (q := { q with nonrev := some x' }) c h.aResponses
          hnd.aResponses h.rangeProofs hnd.rangeProofs hrsome)
        intro r r' hr
        apply GoE.Rel.pure
        refine ⟨by rw [hr.1], ⟨rfl, rfl, h.eResponse, h.vResponse, h.aResponses, h.aDisclosed, hxe, hr.2⟩,
          hnd.aResponses, ?_⟩
        rintro nr2 ⟨⟩
        exact hxnd
  · simp only [hw, Bool.not_false, if_true]
    exact GoE.Rel.failure_bind _ _

/-- `ProofD.Verify` does not depend on the order in which the maps of the proof are
    listed, provided the keys that are looked up are distinct; a panic, if any, is the same too. -/
theorem ProofD.verifyWith_perm (o : SigOracle) (kid : String) (pk : PublicKey) {p q : ProofD}
    (h : p.PermEq q) (hnd : p.KeysNodup) (ctx nonce : Int) (issig : Bool) (i1 i2 : Int) :
    p.verifyWith o kid pk ctx nonce issig i1 i2 = q.verifyWith o kid pk ctx nonce issig i1 i2 :=
  ProofD.verifyWith_congr o kid pk (R := fun a b => a.PermEq b ∧ a.RespNodup) i1 i2
    (ProofD.challengeContribution_perm o kid pk h hnd i1)
    (fun _ _ h' => funext (ProofD.verifyWithChallenge_perm o kid pk h'.1 h'.2 i2)) ctx nonce issig

theorem ProofD.revChoices_perm {p q : ProofD} (h : p.PermEq q) : p.revChoices.Perm q.revChoices := by
  have hc : p.revocationCandidates.Perm q.revocationCandidates := by
    unfold ProofD.revocationCandidates
    exact h.aResponses.filterMap _
  unfold ProofD.revChoices
  rcases h.nonrev.cases with ⟨hp, hq⟩ | ⟨nr, nr', hp, hq, _⟩
  · rw [hp, hq]
  · rw [hp, hq]
    simp only []
    cases hpc : p.revocationCandidates with
    | nil =>
      rw [hpc] at hc
      rw [hc.symm.eq_nil]
    | cons a l =>
      cases hqc : q.revocationCandidates with
      | nil => rw [hpc, hqc] at hc; exact absurd hc.symm (by simp)
      | cons b l' => rw [hpc, hqc] at hc; exact hc

/-! ## issuance commitment proofs and `ProofList.Verify` -/

structure ProofU.PermEq (p q : ProofU) : Prop where
  u : p.u = q.u
  c : p.c = q.c
  vPrimeResponse : p.vPrimeResponse = q.vPrimeResponse
  sResponse : p.sResponse = q.sResponse
  mUserResponses : p.mUserResponses.Perm q.mUserResponses

theorem ProofU.wellFormed_perm (pk : PublicKey) {p q : ProofU} (h : p.PermEq q) :
    p.wellFormed pk = q.wellFormed pk := by
  unfold ProofU.wellFormed
  rw [h.u, h.c, h.vPrimeResponse, h.sResponse, h.mUserResponses.all_eq]

theorem ProofU.reconstructUcommit_perm (pk : PublicKey) {p q : ProofU} (h : p.PermEq q)
    (hw : p.wellFormed pk = true) : p.reconstructUcommit pk = q.reconstructUcommit pk := by
  rw [ProofU.wellFormed_iff] at hw
  obtain ⟨_, _, _, _, _, hm⟩ := hw
  have hgo := go_perm pk "MUserResponse" (mul_emod_mul_emod_comm pk.n) (go := ProofU.reconstructUcommit.go pk)
    (fun _ => rfl) (fun _ _ _ _ => rfl) h.mUserResponses
    (fun kv hkv => ⟨(hm kv hkv).1, le_trans zero_le_one (hm kv hkv).2.1, (hm kv hkv).2.2⟩)
  unfold ProofU.reconstructUcommit
  simp only [h.u, h.c, h.vPrimeResponse, h.sResponse, hgo]

theorem ProofU.challengeContribution_perm (pk : PublicKey) {p q : ProofU} (h : p.PermEq q) :
    p.challengeContribution pk = q.challengeContribution pk := by
  unfold ProofU.challengeContribution
  rw [← ProofU.wellFormed_perm pk h]
  by_cases hw : p.wellFormed pk = true
  · simp only [hw, Bool.not_true, Bool.false_eq_true, if_false]
    rw [← ProofU.reconstructUcommit_perm pk h hw, ← h.u]
  · simp only [hw, Bool.not_false, if_true]

theorem ProofU.verifyWithChallenge_perm (pk : PublicKey) {p q : ProofU} (h : p.PermEq q) (c' : Int) :
    p.verifyWithChallenge pk c' = q.verifyWithChallenge pk c' := by
  unfold ProofU.verifyWithChallenge ProofU.correctResponseSizes
  rw [← ProofU.wellFormed_perm pk h, h.vPrimeResponse, h.c]

/-- members of two proof lists that differ in the order of their maps only (before verification). -/
def ProofPermRel0 : Proof → Proof → Prop
  | .d p, .d q => p.PermEq q ∧ p.KeysNodup
  | .u p, .u q => p.PermEq q
  | _, _ => False

theorem proofListVerifyWith_perm (o : SigOracle) (keys : List (String × PublicKey)) {pl pl' : List Proof}
    (h : List.Forall₂ ProofPermRel0 pl pl') (ctx nonce : Int) (issig : Bool) (kss : List String)
    (choices : List (Int × Int)) :
    proofListVerifyWith o keys pl ctx nonce issig kss choices =
      proofListVerifyWith o keys pl' ctx nonce issig kss choices :=
  proofListVerifyWith_congr o keys (RD0 := fun p q => p.PermEq q ∧ p.KeysNodup)
    (RD1 := fun p q => p.PermEq q ∧ p.RespNodup) (RU := ProofU.PermEq)
    (fun kid pk i _ _ h => ProofD.challengeContribution_perm o kid pk h.1 h.2 i)
    (fun pk _ _ h => ProofU.challengeContribution_perm pk h)
    (fun kid pk i _ _ h => ⟨funext (ProofD.verifyWithChallenge_perm o kid pk h.1 h.2 i),
      IntMap.get_perm h.1.aResponses h.2.aResponses 0⟩)
    (fun pk _ _ h => ⟨funext (ProofU.verifyWithChallenge_perm pk h), h.sResponse⟩)
    (h.imp fun pr pr' hr => by cases pr <;> cases pr' <;> exact hr) ctx nonce issig kss choices

end Gabi
