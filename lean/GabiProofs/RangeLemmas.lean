/-
  GabiProofs.RangeLemmas — range (inequality) proofs (rangeproof/proof.go,
  rangeproof/splitutils.go, the range-proof loop of `ProofD.ChallengeContribution` in proofs.go)
  for GabiProps.C12 / GabiProps.C13: what the descriptor functions of the model compute, the
  algebra of `QrStructure` proofs in a commutative group and its transport to the model's
  integers through `(ZMod n)ˣ`, and the shape of the contributions of a disclosure proof's range
  proofs to the challenge.
-/
import GabiModel.Proofs
import GabiModel.Prover
import GabiProofs.NumLemmas
import GabiProofs.MathUtilLemmas
import GabiProofs.VerifyLogic
import GabiProofs.GroupAlgebra
import GabiProofs.Bridge
import GabiProofs.MiscLemmas
import Mathlib.Algebra.Group.Basic
import Mathlib.Algebra.BigOperators.Group.List.Basic
import Mathlib.NumberTheory.SumFourSquares
import Mathlib.Tactic.Ring

namespace Gabi

/-! ## `rangeProvable` -/

/-- the sign test of `newWithParams`, `ProvesStatement` and the prover. -/
theorem sign_ok_iff {sign : Int} : ¬(sign ≠ 1 ∧ sign ≠ -1) ↔ sign = 1 ∨ sign = -1 := by omega

theorem rangeProvable_four_iff (sign : Int) (factor : Nat) (bound m : Int) :
    rangeProvable sign factor bound m 0 = true ↔
      (sign = 1 ∨ sign = -1) ∧ factor ≤ 2 ^ 63 - 1 ∧
      0 ≤ sign * ((factor : Int) * m - bound) ∧ sign * ((factor : Int) * m - bound) < 2 ^ 256 := by
  simp only [rangeProvable, if_true, Bool.if_false_left, Bool.and_eq_true, Bool.not_eq_true',
    decide_eq_false_iff_not, decide_eq_true_eq, sign_ok_iff]
  omega

/-- with the three-square table `≤` is provable for `m ≤ bound − 1` only, not for `m = bound`: Go
    rescales `bound` to `4·bound − 2` for both signs. The residue condition `≡ 2 (mod 4)` of the
    table holds for every rescaled difference, so it does not show on the right. -/
theorem rangeProvable_table_iff (sign : Int) (bound m : Int) (table : Nat) (ht : 0 < table) :
    rangeProvable sign 1 bound m table = true ↔
      (sign = 1 ∧ bound ≤ m ∧ 4 * (m - bound) + 2 < (table : Int)) ∨
      (sign = -1 ∧ m ≤ bound - 1 ∧ 4 * (bound - m) - 2 < (table : Int)) := by
  simp only [rangeProvable, Nat.ne_of_gt ht, ne_eq, not_true, if_false, Bool.if_false_left,
    Bool.and_eq_true, Bool.not_eq_true', decide_eq_false_iff_not, decide_eq_true_eq, sign_ok_iff]
  by_cases h1 : sign = 1
  · subst h1
    simp only [one_mul, true_and, show ¬(1 : Int) = -1 by decide, false_and, or_false]
    omega
  by_cases h2 : sign = -1
  · subst h2
    simp only [neg_one_mul, or_true, true_and, show ¬(-1 : Int) = 1 by decide, false_and, false_or]
    omega
  · simp only [h1, h2, or_self, false_and]

/-! ## the `int64` exponent of `rangeNewWithParams` -/

/-- Go computes the exponent as `-int64(a) * int64(sign)`; below the guard `a ≤ MaxInt64` of
    `newWithParams` neither conversion nor product wraps. -/
theorem power_exact (a : Nat) (sign : Int) (ha : a ≤ 2 ^ 63 - 1) (hs : sign = 1 ∨ sign = -1) :
    wrap64 (-(wrap64 (a : Int)) * wrap64 sign) = -(a : Int) * sign := by
  have hs' : wrap64 sign = sign := by rcases hs with rfl | rfl <;> rfl
  rw [hs', wrap64_id (x := (a : Int)) (by omega) (by omega)]
  rcases hs with rfl | rfl <;> exact wrap64_id (by omega) (by omega)

/-- the structure built by `rangeNewWithParams`, with the mathematically intended exponent
    `-a·sign` of the attribute base. -/
theorem rangeNewWithParams_some {index sign : Int} {a : Nat} {k : Int} {nSplit ld : Nat}
    {s : RangeStructure} (h : rangeNewWithParams index sign a k nSplit ld = some s) :
    nSplit ≤ 4 ∧ (sign = 1 ∨ sign = -1) ∧ a ≤ 2 ^ 63 - 1 ∧
    s = { mCorrect := {
            lhs := [⟨"R" ++ toString index, if sign = 1 then -k else k⟩],
            rhs := [⟨"S", "v5", -1⟩, ⟨"R" ++ toString index, "m", -(a : Int) * sign⟩] ++
              (List.range nSplit).map (fun i => ⟨"C" ++ toString i, "d" ++ toString i, 1⟩) },
          cRep := (List.range nSplit).map (fun i =>
            { lhs := [⟨"C" ++ toString i, 1⟩],
              rhs := [⟨"R" ++ toString index, "d" ++ toString i, 1⟩, ⟨"S", "v" ++ toString i, 1⟩] }),
          index := index, sign := sign, a := a, k := k, ld := ld } := by
  simp only [rangeNewWithParams, Option.ite_none_left_eq_some, sign_ok_iff, gt_iff_lt, not_lt,
    Option.some.injEq] at h
  obtain ⟨h1, h2, h3, rfl⟩ := h
  rw [power_exact a sign h3 h2]
  exact ⟨h1, h2, h3, rfl⟩

theorem rangeNewWithParams_bases {P : String → Prop} {index sign : Int} {a : Nat} {k : Int}
    {n ld : Nat} {s : RangeStructure} (h : rangeNewWithParams index sign a k n ld = some s)
    (hS : P "S") (hR : P ("R" ++ toString index)) (hC : ∀ j < n, P ("C" ++ toString j)) :
    ∀ q ∈ s.mCorrect :: s.cRep, (∀ l ∈ q.lhs, P l.base) ∧ ∀ r ∈ q.rhs, P r.base := by
  obtain ⟨_, _, _, rfl⟩ := rangeNewWithParams_some h
  simp only [List.forall_mem_cons, List.forall_mem_map, List.forall_mem_append, List.mem_range,
    List.not_mem_nil, false_imp_iff, implies_true, and_true, hS, hR, true_and]
  exact ⟨hC, hC⟩

/-! ## `extractStructure` -/

theorem RangeProof.extractStructure_of_k {p : RangeProof} {k : Int} (hk : p.k = some k)
    (index : Int) (pk : PublicKey) :
    p.extractStructure index pk =
      if p.ld > pk.params.Lm ∨ p.cs.length < 3 ∨ p.cs.length > 4 ∨ bitLen k > pk.params.Lm + 64 ∨
          (p.cs.length = 3 ∧ p.a ≠ 4)
      then none else rangeNewWithParams index p.sign p.a k p.cs.length p.ld := by
  unfold RangeProof.extractStructure
  rw [hk]
  simp only [Option.bind_eq_bind, Option.bind_some, Bool.or_eq_true, Bool.and_eq_true,
    decide_eq_true_eq, or_assoc]
  split <;> rfl

theorem RangeProof.extractStructure_some {p : RangeProof} {index : Int} {pk : PublicKey}
    {s : RangeStructure} (h : p.extractStructure index pk = some s) :
    ∃ k, p.k = some k ∧ p.ld ≤ pk.params.Lm ∧ (p.cs.length = 3 ∨ p.cs.length = 4) ∧
      bitLen k ≤ pk.params.Lm + 64 ∧ (p.cs.length = 3 → p.a = 4) ∧
      rangeNewWithParams index p.sign p.a k p.cs.length p.ld = some s := by
  cases hk : p.k with
  | none => simp [RangeProof.extractStructure, hk] at h
  | some k =>
    rw [RangeProof.extractStructure_of_k hk, Option.ite_none_left_eq_some] at h
    obtain ⟨hc, hnew⟩ := h
    simp only [not_or, not_lt, not_and, ne_eq, Decidable.not_not] at hc
    exact ⟨k, rfl, hc.1, by omega, hc.2.2.2.1, hc.2.2.2.2, hnew⟩

/-! ## `provesStatement` / `provenStatement` -/

/-- the comparison `k = b ∨ k > b` (resp. `k < b`) of `ProvesStatement`. -/
theorem sign_cmp_iff {sign : Int} (hs : sign = 1 ∨ sign = -1) (k b : Int) :
    (decide (k = b) || if sign = 1 then decide (k > b) else decide (k < b)) = true ↔
      0 ≤ sign * (k - b) := by
  rcases hs with rfl | rfl
  · rw [if_pos rfl, Bool.or_eq_true, decide_eq_true_eq, decide_eq_true_eq, one_mul, sub_nonneg,
      le_iff_eq_or_lt, eq_comm]
  · rw [if_neg (by decide), Bool.or_eq_true, decide_eq_true_eq, decide_eq_true_eq, neg_one_mul,
      neg_sub, sub_nonneg, le_iff_eq_or_lt]

/-- `ProvesStatement(sign, factor, bound)` accepts exactly the descriptors `(sign, a, k)` with
    `sign·(k − bound) ≥ 0` and `a = factor`; with three squares both are compared after the
    rescaling `factor ↦ 4·factor`, `bound ↦ 4·bound − 2`, which must not overflow. -/
theorem RangeProof.provesStatement_iff {p : RangeProof} {k : Int} (hk : p.k = some k)
    {sign : Int} {factor : Nat} {bound : Int} :
    p.provesStatement sign factor bound = true ↔
      (sign = 1 ∨ sign = -1) ∧
        if p.cs.length = 3 then
          factor ≤ (2 ^ 64 - 1) / 4 ∧ (p.sign = sign ∧ p.a = factor * 4) ∧
            0 ≤ sign * (k - (bound * 4 - 2))
        else (p.sign = sign ∧ p.a = factor) ∧ 0 ≤ sign * (k - bound) := by
  unfold RangeProof.provesStatement
  rw [hk]
  dsimp only
  by_cases hs : sign = 1 ∨ sign = -1
  · rw [if_neg (sign_ok_iff.mpr hs), and_iff_right hs]
    split <;> simp only [Bool.if_false_left, Bool.and_eq_true, sign_cmp_iff hs, Bool.not_eq_true',
      decide_eq_false_iff_not, decide_eq_true_eq, not_lt, gt_iff_lt]
  · rw [if_pos (by omega)]
    exact ⟨fun h => absurd h Bool.false_ne_true, fun h => absurd h.1 hs⟩

theorem sign_mul_trans {s x k b : Int} (h1 : 0 ≤ s * (x - k)) (h2 : 0 ≤ s * (k - b)) :
    0 ≤ s * (x - b) := by
  have := add_nonneg h1 h2
  rwa [← mul_add, sub_add_sub_cancel] at this

/-- undoing the three-square rescaling: `s·(x − b)` is an integer with `4·s·(x − b) ≥ −2`. -/
theorem sign_mul_descale {s : Int} (hs : s = 1 ∨ s = -1) {x b : Int}
    (h : 0 ≤ s * (4 * x - (b * 4 - 2))) : 0 ≤ s * (x - b) := by
  rw [show s * (4 * x - (b * 4 - 2)) = 4 * (s * (x - b)) + 2 * s by ring] at h
  generalize s * (x - b) = y at h ⊢
  omega

/-- the bound `⌊(k+2)/4⌋` that `ProvenStatement` reports for three squares: `k ↦ ⌊(k+2)/4⌋` is
    monotone and sends `4x` to `x`, so `4x ≥ k` gives `x ≥ ⌊(k+2)/4⌋` and `4x ≤ k` gives
    `x ≤ ⌊(k+2)/4⌋`. -/
theorem sign_mul_floor {s : Int} (hs : s = 1 ∨ s = -1) {x k : Int}
    (h : 0 ≤ s * (4 * x - k)) : 0 ≤ s * (x - (k + 2) / 4) := by
  rcases hs with rfl | rfl <;> omega

theorem RangeProof.proves_sound {p : RangeProof} {m k : Int} {sign : Int} {factor : Nat} {bound : Int}
    (hk : p.k = some k) (hfact : p.sign * ((p.a : Int) * m - k) ≥ 0)
    (h : p.provesStatement sign factor bound = true) :
    sign * ((factor : Int) * m - bound) ≥ 0 := by
  obtain ⟨hs, hcase⟩ := (RangeProof.provesStatement_iff hk).mp h
  split at hcase
  · obtain ⟨_, ⟨rfl, ha⟩, hb⟩ := hcase
    rw [ha, Nat.cast_mul, Nat.cast_ofNat, mul_right_comm, mul_comm _ 4] at hfact
    exact sign_mul_descale hs (sign_mul_trans hfact hb)
  · obtain ⟨⟨rfl, ha⟩, hb⟩ := hcase
    rw [ha] at hfact
    exact sign_mul_trans hfact hb

theorem RangeProof.provenStatement_eq {p : RangeProof} {k : Int} (hk : p.k = some k) :
    p.provenStatement =
      some (p.sign, if p.cs.length = 3 then (p.a / 4, (k + 2) / 4) else (p.a, k)) := by
  rw [RangeProof.provenStatement, hk]
  rfl

/-- what `ProvenStatement` reports follows from the established fact `hfact`. `h3`: with three
    squares `extractStructure` accepts the factor 4 only. -/
theorem RangeProof.proven_statement_sound {p : RangeProof} {m k : Int} {sgn : Int} {f : Nat} {b : Int}
    (hk : p.k = some k) (hsign : p.sign = 1 ∨ p.sign = -1) (h3 : p.cs.length = 3 → p.a = 4)
    (hfact : p.sign * ((p.a : Int) * m - k) ≥ 0)
    (h : p.provenStatement = some (sgn, f, b)) :
    sgn * ((f : Int) * m - b) ≥ 0 := by
  rw [RangeProof.provenStatement_eq hk] at h
  by_cases hl : p.cs.length = 3
  · rw [if_pos hl, h3 hl] at h
    cases h
    rw [h3 hl] at hfact
    rw [show ((4 / 4 : Nat) : Int) * m = m from one_mul m]
    exact sign_mul_floor hsign hfact
  · rw [if_neg hl] at h
    cases h
    exact hfact

/-! ## the roots of a square decomposition pass the size check `bitLen dᵢ ≤ l_d` -/

theorem natBitLen_le_of_sq_le {x d n : Nat} (h : x ^ 2 ≤ d) (hd : d < 2 ^ (2 * n)) :
    natBitLen x ≤ n := by
  rw [natBitLen_le_iff]
  refine lt_of_pow_lt_pow_left₀ 2 (Nat.zero_le _) ?_
  rw [← pow_mul, mul_comm]
  omega

theorem bitLen_le_of_sq_le {x : Int} {d n : Nat} (h : x ^ 2 ≤ (d : Int)) (hd : d < 2 ^ (2 * n)) :
    bitLen x ≤ n :=
  natBitLen_le_of_sq_le (Int.ofNat_le.mp (by rw [Nat.cast_pow, Int.natAbs_sq]; exact h)) hd

theorem split_exists_nat (d n : Nat) (hd : d < 2 ^ (2 * n)) :
    ∃ a b c e : Nat, a ^ 2 + b ^ 2 + c ^ 2 + e ^ 2 = d ∧
      natBitLen a ≤ n ∧ natBitLen b ≤ n ∧ natBitLen c ≤ n ∧ natBitLen e ≤ n := by
  obtain ⟨a, b, c, e, h⟩ := Nat.sum_four_squares d
  obtain ⟨ha, hb, hc, he⟩ : a ^ 2 ≤ d ∧ b ^ 2 ≤ d ∧ c ^ 2 ≤ d ∧ e ^ 2 ≤ d := by omega
  exact ⟨a, b, c, e, h, natBitLen_le_of_sq_le ha hd, natBitLen_le_of_sq_le hb hd,
    natBitLen_le_of_sq_le hc hd, natBitLen_le_of_sq_le he hd⟩

theorem quadOk_small {d n : Nat} {q : Quad} (h : QuadOk d q) (hd : d < 2 ^ (2 * n)) :
    bitLen q.1 ≤ n ∧ bitLen q.2.1 ≤ n ∧ bitLen q.2.2.1 ≤ n ∧ bitLen q.2.2.2 ≤ n := by
  obtain ⟨_, _, _, _, hsum⟩ := h
  have h1 := sq_nonneg q.1
  have h2 := sq_nonneg q.2.1
  have h3 := sq_nonneg q.2.2.1
  have h4 := sq_nonneg q.2.2.2
  obtain ⟨h1, h2, h3, h4⟩ :
      q.1 ^ 2 ≤ (d : Int) ∧ q.2.1 ^ 2 ≤ (d : Int) ∧ q.2.2.1 ^ 2 ≤ (d : Int) ∧ q.2.2.2 ^ 2 ≤ (d : Int) := by
    omega
  exact ⟨bitLen_le_of_sq_le h1 hd, bitLen_le_of_sq_le h2 hd, bitLen_le_of_sq_le h3 hd,
    bitLen_le_of_sq_le h4 hd⟩

/-- for the three-square table `l_d` is `SquaresTable.Ld()`, whose loop counts the base-4 digits
    of the table length: one more than the bits of any root of an entry. -/
theorem tableLd_go_spec (fuel l ld : Nat) (h : l < fuel) :
    ∃ k, tableLd.go fuel l ld = ld + k ∧ l < 4 ^ k := by
  induction fuel generalizing l ld with
  | zero => omega
  | succ fuel ih =>
    unfold tableLd.go
    split
    · obtain ⟨k, hk, hlt⟩ := ih (l / 4) (ld + 1) (by omega)
      exact ⟨k + 1, by omega, by rw [pow_succ]; exact (Nat.div_lt_iff_lt_mul (by decide)).mp hlt⟩
    · exact ⟨0, rfl, by omega⟩

/-! ## algebra of `QrStructure` proofs and of the range-proof relation

  `G` is any commutative group (for the model: the unit group of `ZMod n`), `B` interprets base
  names, `val` interprets secret / response / randomiser names. The two sides of a structure
  are `Alg.rep` over its contribution lists, so completeness and special soundness are
  `Misc.repr_complete` and `Misc.repr_special_soundness` with bases and exponents looked up by
  name. -/

namespace QrAlg
open Gabi.Alg

variable {G : Type*} [CommGroup G]

/-- `∏ base^power` over the left-hand side. -/
def lhsProd (s : QrStructure) (B : String → G) : G :=
  (s.lhs.map fun l => B l.base ^ l.power).prod

/-- `∏ base^(power · val secret)` over the right-hand side. -/
def rhsProd (s : QrStructure) (B : String → G) (val : String → ℤ) : G :=
  rep (fun r : RhsContribution => B r.base) (fun r => r.power * val r.secret) s.rhs

/-- the relation a `QrStructure` proof is about: `∏ lhs = ∏ base^(power·secret)`. -/
def Holds (s : QrStructure) (B : String → G) (secret : String → ℤ) : Prop :=
  lhsProd s B = rhsProd s B secret

/-- shape of `commitmentFromProof`: `(∏ lhs)⁻¹ ^ c · ∏ base^(power·response)`. -/
def fromProof (s : QrStructure) (B : String → G) (c : ℤ) (resp : String → ℤ) : G :=
  (lhsProd s B)⁻¹ ^ c * rhsProd s B resp

/-- shape of `commitmentFromSecrets`: `∏ base^(power·randomiser)`. -/
def fromSecrets (s : QrStructure) (B : String → G) (rand : String → ℤ) : G :=
  rhsProd s B rand

theorem rhsProd_congr (s : QrStructure) (B : String → G) {v w : String → ℤ}
    (h : ∀ r ∈ s.rhs, v r.secret = w r.secret) : rhsProd s B v = rhsProd s B w :=
  rep_congr _ (fun r hr => by rw [h r hr])

theorem rhsProd_const_mul (s : QrStructure) (B : String → G) (c : ℤ) (v : String → ℤ) :
    rhsProd s B (fun n => c * v n) = rhsProd s B v ^ c := by
  unfold rhsProd
  rw [← rep_const_mul]
  exact rep_congr _ fun r _ => mul_left_comm _ _ _

theorem qr_complete (s : QrStructure) (B : String → G) (c : ℤ) (secret rand resp : String → ℤ)
    (hrel : Holds s B secret)
    (hresp : ∀ r ∈ s.rhs, resp r.secret = rand r.secret + c * secret r.secret) :
    fromProof s B c resp = fromSecrets s B rand := by
  unfold fromProof fromSecrets
  rw [rhsProd_congr s B (w := fun n => rand n + c * secret n) hresp]
  exact Misc.repr_complete (fun r : RhsContribution => B r.base) (fun r => r.power)
    (fun r => secret r.secret) (fun r => rand r.secret) s.rhs c _ hrel

theorem qr_special_soundness (s : QrStructure) (B : String → G) (c c' : ℤ) (resp resp' : String → ℤ)
    (h : fromProof s B c resp = fromProof s B c' resp') :
    lhsProd s B ^ (c - c') = rhsProd s B (fun n => resp n - resp' n) :=
  Misc.repr_special_soundness (fun r : RhsContribution => B r.base) (fun r => r.power)
    (fun r => resp r.secret) (fun r => resp' r.secret) s.rhs c c' _ _ h rfl

/-- **extraction**: if the response differences are multiples of the challenge difference
    (`resp − resp' = (c−c')·w`; this divisibility is what the strong-RSA argument provides), the
    witness `w` satisfies the relation up to an element of order dividing `c − c'`; in a group
    without such elements it satisfies the relation. -/
theorem qr_extract (s : QrStructure) (B : String → G) (c c' : ℤ) (resp resp' w : String → ℤ)
    (h : fromProof s B c resp = fromProof s B c' resp')
    (hdiv : ∀ r ∈ s.rhs, resp r.secret - resp' r.secret = (c - c') * w r.secret) :
    (lhsProd s B / rhsProd s B w) ^ (c - c') = 1 := by
  rw [div_zpow, qr_special_soundness s B c c' resp resp' h,
    rhsProd_congr s B (w := fun n => (c - c') * w n) hdiv, rhsProd_const_mul, div_self']

theorem qr_extract_holds (s : QrStructure) (B : String → G) (c c' : ℤ) (resp resp' w : String → ℤ)
    (h : fromProof s B c resp = fromProof s B c' resp')
    (hdiv : ∀ r ∈ s.rhs, resp r.secret - resp' r.secret = (c - c') * w r.secret)
    (htors : ∀ g : G, g ^ (c - c') = 1 → g = 1) : Holds s B w :=
  div_eq_one.mp (htors _ (qr_extract s B c c' resp resp' w h hdiv))

/-! ### the range-proof relation -/

theorem rep_commitments {R S : G} (C : ℕ → G) (d v : ℕ → ℤ) (l : List ℕ)
    (hC : ∀ i ∈ l, C i = R ^ d i * S ^ v i) :
    rep C d l = R ^ (l.map fun i => d i ^ 2).sum * S ^ (l.map fun i => d i * v i).sum := by
  induction l with
  | nil => simp
  | cons i l ih =>
    rw [rep_cons, ih (fun j hj => hC j (List.mem_cons_of_mem _ hj)), hC i (List.mem_cons_self ..),
      List.map_cons, List.map_cons, List.sum_cons, List.sum_cons, zpow_add, zpow_add, mul_zpow,
      ← zpow_mul, ← zpow_mul, sq, mul_comm (v i), mul_mul_mul_comm]

/-- the relation `mCorrect` encodes, with `∏Cᵢ^{dᵢ} = R^D·S^V`, is a relation between `R` and `S`
    alone. -/
theorem range_relation_iff {R S : G} (e x D V v5 : ℤ) :
    R ^ e = S ^ (-v5) * R ^ x * (R ^ D * S ^ V) ↔ R ^ (e - x - D) = S ^ (V - v5) := by
  rw [zpow_sub, zpow_sub, zpow_sub, mul_inv_eq_iff_eq_mul, mul_inv_eq_iff_eq_mul, zpow_neg,
    show S ^ V * (S ^ v5)⁻¹ * R ^ D * R ^ x = (S ^ v5)⁻¹ * R ^ x * (R ^ D * S ^ V) by ac_rfl]

/-- the exponents `rangeNewWithParams` uses for `sign = ±1`. -/
theorem range_exponent_identity {sign : ℤ} (hs : sign = 1 ∨ sign = -1) (a k m D : ℤ) :
    (if sign = 1 then -k else k) - (-a * sign) * m - D = sign * (a * m - k) - D := by
  rcases hs with rfl | rfl
  · rw [if_pos rfl]; ring
  · rw [if_neg (by decide)]; ring

theorem relation_implies_inequality_or_relation {R S : G} (C : ℕ → G) (d v : ℕ → ℤ) (n : ℕ)
    {sign : ℤ} (hs : sign = 1 ∨ sign = -1) (a k m v5 : ℤ)
    (hC : ∀ i < n, C i = R ^ d i * S ^ v i)
    (hrel : R ^ (if sign = 1 then -k else k) =
      S ^ (-v5) * R ^ ((-a * sign) * m) * rep C d (List.range n)) :
    (((List.range n).map fun i => d i ^ 2).sum = sign * (a * m - k) ∧ 0 ≤ sign * (a * m - k)) ∨
    (∃ x y : ℤ, x ≠ 0 ∧ R ^ x = S ^ y ∧
      x = sign * (a * m - k) - ((List.range n).map fun i => d i ^ 2).sum ∧
      y = ((List.range n).map fun i => d i * v i).sum - v5) := by
  rw [rep_commitments C d v _ (fun i hi => hC i (List.mem_range.mp hi)), range_relation_iff,
    range_exponent_identity hs] at hrel
  by_cases hx : sign * (a * m - k) - ((List.range n).map fun i => d i ^ 2).sum = 0
  · rw [sub_eq_zero.mp hx]
    exact Or.inl ⟨rfl, List.sum_nonneg (List.forall_mem_map.mpr fun i _ => sq_nonneg (d i))⟩
  · exact Or.inr ⟨_, _, hx, hrel, rfl, rfl⟩

/-- witnesses of the range relation satisfy `Σdᵢ² = sign·(a·m − k)`, hence the inequality. `hindep`:
    `R` and `S` have no non-trivial relation with a left exponent of absolute value at most `bnd`,
    the size of the extracted exponents. -/
theorem relation_implies_inequality {R S : G} (C : ℕ → G) (d v : ℕ → ℤ) (n : ℕ)
    {sign : ℤ} (hs : sign = 1 ∨ sign = -1) (a k m v5 : ℤ) (bnd : ℤ)
    (hindep : ∀ x y : ℤ, |x| ≤ bnd → R ^ x = S ^ y → x = 0)
    (hsize : |sign * (a * m - k) - ((List.range n).map fun i => d i ^ 2).sum| ≤ bnd)
    (hC : ∀ i < n, C i = R ^ d i * S ^ v i)
    (hrel : R ^ (if sign = 1 then -k else k) =
      S ^ (-v5) * R ^ ((-a * sign) * m) * rep C d (List.range n)) :
    ((List.range n).map fun i => d i ^ 2).sum = sign * (a * m - k) ∧ 0 ≤ sign * (a * m - k) := by
  rcases relation_implies_inequality_or_relation C d v n hs a k m v5 hC hrel with h | ⟨x, y, hx, hxy, ex, _⟩
  · exact h
  · exact absurd (hindep x y (by rw [ex]; exact hsize) hxy) hx

/-! ### the structures built by `rangeNewWithParams`, interpreted -/

section model
variable (B : String → G) (val : String → ℤ)

theorem holds_mCorrect_iff {index sign : Int} {a : Nat} {k : Int} {n ld : Nat} {s : RangeStructure}
    (h : rangeNewWithParams index sign a k n ld = some s) :
    Holds s.mCorrect B val ↔
      B ("R" ++ toString index) ^ (if sign = 1 then -k else k) =
        B "S" ^ (-(val "v5")) * B ("R" ++ toString index) ^ ((-(a : ℤ) * sign) * val "m") *
          rep (fun i : ℕ => B ("C" ++ toString i)) (fun i => val ("d" ++ toString i)) (List.range n) := by
  obtain ⟨_, _, _, rfl⟩ := rangeNewWithParams_some h
  unfold Holds lhsProd rhsProd
  simp only [List.map_cons, List.map_nil, List.prod_cons, List.prod_nil, mul_one,
    List.cons_append, List.nil_append, rep_cons, rep_map, neg_mul, one_mul, mul_assoc]

theorem holds_commitment_iff (c r s d v : String) :
    Holds { lhs := [⟨c, 1⟩], rhs := [⟨r, d, 1⟩, ⟨s, v, 1⟩] } B val ↔
      B c = B r ^ val d * B s ^ val v := by
  simp only [Holds, lhsProd, rhsProd, List.map_cons, List.map_nil, List.prod_cons, List.prod_nil,
    rep_cons, rep_nil, mul_one, one_mul, zpow_one]

theorem holds_cRep_iff {index sign : Int} {a : Nat} {k : Int} {n ld : Nat} {s : RangeStructure}
    (h : rangeNewWithParams index sign a k n ld = some s) :
    (∀ q ∈ s.cRep, Holds q B val) ↔
      ∀ i < n, B ("C" ++ toString i) =
        B ("R" ++ toString index) ^ val ("d" ++ toString i) * B "S" ^ val ("v" ++ toString i) := by
  obtain ⟨_, _, _, rfl⟩ := rangeNewWithParams_some h
  simp only [List.forall_mem_map, List.mem_range, holds_commitment_iff]

end model

end QrAlg

/-! ## bridge: the model's `commitmentFromProof` / `commitmentFromSecrets` return the
  representatives in `[0, n)` of `fromProof` / `fromSecrets` computed in the unit group of `ZMod n` -/

namespace QrBridge
open QrAlg Gabi.Alg

variable {n : ℕ}

/-- interpretation of base names in `(ZMod n)ˣ` (junk `1` for unknown names). -/
noncomputable def unitBases (n : ℕ) (bases : String → Option Int) : String → (ZMod n)ˣ :=
  fun name => zunit n ((bases name).getD 1)

/-- interpretation of response / randomiser names (junk `0` for unknown names). -/
def intVals (results : String → Option Int) : String → ℤ := fun name => (results name).getD 0

/-- every base the structure mentions is known and invertible modulo `n`. -/
def BasesOk (n : ℕ) (s : QrStructure) (bases : String → Option Int) : Prop :=
  (∀ l ∈ s.lhs, ∃ b, bases l.base = some b ∧ IsUnit (b : ZMod n)) ∧
  (∀ r ∈ s.rhs, ∃ b, bases r.base = some b ∧ IsUnit (b : ZMod n))

/-- a known invertible base, in the terms of `Misc.commitmentFromProof_unit` (`Misc.baseU` and
    `unitBases` differ in the junk value for unknown names only). -/
theorem unitBase_of_isUnit {bases : String → Option Int} {name : String}
    (h : ∃ b, bases name = some b ∧ IsUnit (b : ZMod n)) :
    Misc.UnitBase n bases name ∧ Misc.baseU n bases name = unitBases n bases name := by
  obtain ⟨b, hb, hu⟩ := h
  refine ⟨⟨b, hb, (isUnit_iff_gcd b).mp hu⟩, ?_⟩
  unfold Misc.baseU unitBases
  rw [hb]
  rfl

theorem lhsProd_eq_rep {s : QrStructure} {bases : String → Option Int} (hb : BasesOk n s bases) :
    rep (fun l : LhsContribution => Misc.baseU n bases l.base) (fun l => l.power) s.lhs =
      lhsProd s (unitBases n bases) :=
  rep_congr_base _ fun l hl => (unitBase_of_isUnit (hb.1 l hl)).2

theorem rhsProd_eq_rep {s : QrStructure} {bases : String → Option Int} (hb : BasesOk n s bases)
    (val : String → Option Int) :
    rep (fun x : RhsContribution => Misc.baseU n bases x.base)
        (fun x => x.power * (val x.secret).getD 0) s.rhs =
      rhsProd s (unitBases n bases) (intVals val) :=
  rep_congr_base _ fun r hr => (unitBase_of_isUnit (hb.2 r hr)).2

theorem commitmentFromProof_cast (hn : 1 < n) (s : QrStructure) (c : Int)
    (bases results : String → Option Int) (hb : BasesOk n s bases)
    (hres : ∀ r ∈ s.rhs, (results r.secret).isSome) :
    ∃ v, s.commitmentFromProof n c bases results = .ok v ∧
      Misc.RepU n v (fromProof s (unitBases n bases) c (intVals results)) := by
  obtain ⟨v, hv, hrep⟩ := Misc.commitmentFromProof_unit hn s c bases results
    (fun l hl => (unitBase_of_isUnit (hb.1 l hl)).1) (fun r hr => (unitBase_of_isUnit (hb.2 r hr)).1) hres
  rw [lhsProd_eq_rep hb, rhsProd_eq_rep hb] at hrep
  exact ⟨v, hv, hrep⟩

theorem commitmentFromSecrets_cast (hn : 1 < n) (s : QrStructure)
    (bases rnd : String → Option Int) (hb : BasesOk n s bases)
    (hres : ∀ r ∈ s.rhs, (rnd r.secret).isSome) :
    ∃ v, s.commitmentFromSecrets n bases rnd = .ok v ∧
      Misc.RepU n v (fromSecrets s (unitBases n bases) (intVals rnd)) := by
  obtain ⟨v, hv, hrep⟩ := Misc.commitmentFromSecrets_unit hn s bases rnd
    (fun r hr => (unitBase_of_isUnit (hb.2 r hr)).1) hres
  rw [rhsProd_eq_rep hb] at hrep
  exact ⟨v, hv, hrep⟩

theorem commitment_roundtrip (hn : 1 < n) (s : QrStructure) (c : Int)
    (bases rnd secrets results : String → Option Int) (hb : BasesOk n s bases)
    (hrnd : ∀ r ∈ s.rhs, (rnd r.secret).isSome)
    (hres : ∀ r ∈ s.rhs, (results r.secret).isSome)
    (hresp : ∀ r ∈ s.rhs, intVals results r.secret = intVals rnd r.secret + c * intVals secrets r.secret)
    (hrel : Holds s (unitBases n bases) (intVals secrets)) :
    ∃ v, s.commitmentFromSecrets n bases rnd = .ok v ∧ s.commitmentFromProof n c bases results = .ok v :=
  Misc.model_repr_complete hn s c bases rnd results (intVals secrets)
    (fun l hl => (unitBase_of_isUnit (hb.1 l hl)).1) (fun r hr => (unitBase_of_isUnit (hb.2 r hr)).1)
    hrnd hres hresp ((lhsProd_eq_rep hb).trans (hrel.trans (rhsProd_eq_rep hb secrets).symm))

/-- from equal integers to the hypothesis of `qr_special_soundness` and `qr_extract`. -/
theorem fromProof_eq_of_commitment_eq (hn : 1 < n) (s : QrStructure) (c c' : Int)
    (bases results results' : String → Option Int) (hb : BasesOk n s bases)
    (hres : ∀ r ∈ s.rhs, (results r.secret).isSome)
    (hres' : ∀ r ∈ s.rhs, (results' r.secret).isSome)
    (h : s.commitmentFromProof n c bases results = s.commitmentFromProof n c' bases results') :
    fromProof s (unitBases n bases) c (intVals results) =
      fromProof s (unitBases n bases) c' (intVals results') := by
  obtain ⟨v, hv, hrv⟩ := commitmentFromProof_cast hn s c bases results hb hres
  obtain ⟨w, hw, hrw⟩ := commitmentFromProof_cast hn s c' bases results' hb hres'
  rw [hv, hw] at h
  cases h
  exact hrv.inj hrw

end QrBridge

/-! ## `rangeBases`, and when they are invertible

  The group algebra applies to the model's integers through the bridge as soon as every base is
  invertible modulo `n`. For the key's bases this is a property of the key; for the
  prover-supplied `Cᵢ` it is the predicate `UnitCs` (which `verifyProofStructure` checks since
  Go commit 7f01777). -/

/-- names `X<i>` other than the four fixed base names are looked up as `R<i>`. -/
theorem PublicKey.base_indexed (pk : PublicKey) (c : Char)
    (hc : c ≠ 'Z' ∧ c ≠ 'S' ∧ c ≠ 'G' ∧ c ≠ 'H') (i : Nat) :
    pk.base (String.singleton c ++ toString i) =
      (parseIdx 'R' (String.singleton c ++ toString i)).bind (pk.r[·]?) := by
  unfold PublicKey.base
  split
  · next h => exact absurd h (name_ne_of_head c 'Z' hc.1 _ "")
  · next h => exact absurd h (name_ne_of_head c 'S' hc.2.1 _ "")
  · next h => exact absurd h (name_ne_of_head c 'G' hc.2.2.1 _ "")
  · next h => exact absurd h (name_ne_of_head c 'H' hc.2.2.2 _ "")
  · cases parseIdx 'R' (String.singleton c ++ toString i) <;> rfl

theorem rangeBases_S (pk : PublicKey) (p : RangeProof) : rangeBases pk p "S" = some pk.s := by
  simp [rangeBases, PublicKey.base]

theorem rangeBases_R (pk : PublicKey) (p : RangeProof) (i : Nat) {b : Int} (hb : pk.r[i]? = some b) :
    rangeBases pk p ("R" ++ toString (i : Int)) = some b := by
  have hbase : pk.base ("R" ++ toString (i : Int)) = some b :=
    (pk.base_indexed 'R' (by decide) i).trans (by rw [parseIdx_self 'R' i]; exact hb)
  unfold rangeBases
  rw [hbase]

theorem rangeBases_C (pk : PublicKey) (p : RangeProof) (i : Nat) :
    rangeBases pk p ("C" ++ toString i) = (p.cs[i]?).join := by
  have hb : pk.base ("C" ++ toString i) = none :=
    (pk.base_indexed 'C' (by decide) i).trans (by rw [parseIdx_other 'R' 'C' (by decide)]; rfl)
  have hi : parseIdx 'C' ("C" ++ toString i) = some i := parseIdx_self 'C' i
  unfold rangeBases
  rw [hb, hi]

/-- every commitment `Cᵢ` of the range proof is present, in `(0, n)` and invertible modulo `n`. -/
def UnitCs (pk : PublicKey) (p : RangeProof) : Prop :=
  ∀ c ∈ p.cs, ∃ x, c = some x ∧ 0 < x ∧ x < pk.n ∧ Int.gcd x pk.n = 1

/-! ## a structure check without invertibility of `Cᵢ` is void

  `verifyProofStructureOld` bounds the size of `Cᵢ` but does not ask that it is invertible. For
  `Cᵢ = 0` every reconstructed commitment is `0`, whatever `k`, `sign`, `a` and the responses. -/

/-- `verifyProofStructure` of /repo before commit 7f01777: no invertibility check on `Cᵢ`, no
    sign check on the responses. The counterexample `C12.forged_commitments_zero` is about it. -/
def RangeStructure.verifyProofStructureOld (s : RangeStructure) (pk : PublicKey) (p : RangeProof) : Bool :=
  let pr := pk.params
  if s.cRep.length ≠ p.cs.length || s.cRep.length ≠ p.ds.length || s.cRep.length ≠ p.vs.length then false else
  match p.v5, p.mResponse with
  | some v5, some m =>
    if bitLen v5 > pr.Lm + s.ld + 2 + pr.Lh + pr.Lstatzk + 1 || bitLen m > pr.Lm + pr.Lh + pr.Lstatzk + 1 then false
    else
      (List.range s.cRep.length).all fun i =>
        match p.cs[i]?, p.ds[i]?, p.vs[i]? with
        | some (some c), some (some d), some (some v) =>
          !(bitLen c > bitLen pk.n || bitLen d > s.ld + pr.Lh + pr.Lstatzk + 1 ||
            bitLen v > pr.Lm + pr.Lh + pr.Lstatzk + 1)
        | _, _, _ => false
  | _, _ => false

theorem RangeStructure.verifyProofStructureOld_true {s : RangeStructure} {pk : PublicKey} {p : RangeProof}
    (h : s.verifyProofStructureOld pk p = true) :
    p.v5.isSome ∧ p.mResponse.isSome ∧
      ∀ i, i < s.cRep.length → (p.ds[i]?).join.isSome ∧ (p.vs[i]?).join.isSome := by
  unfold RangeStructure.verifyProofStructureOld at h
  dsimp only at h
  split at h
  · cases h
  split at h
  · next v5 m hv5 hm =>
    split at h
    · cases h
    rw [List.all_eq_true] at h
    refine ⟨by rw [hv5]; rfl, by rw [hm]; rfl, fun i hi => ?_⟩
    have := h i (List.mem_range.mpr hi)
    split at this
    · next c d v hc hd hv => rw [hd, hv]; exact ⟨rfl, rfl⟩
    · cases this
  · cases h

/-! ## the statement is part of the challenge contributions (Go commit d9916c2) -/

/-- two contribution lists that start with the statements `Cᵢ, k, a, sign, l_d` of range proofs
    with equally many `Cᵢ`, placed after a common prefix, differ as soon as the statements do. -/
theorem statement_block_ne {pcs qcs : List (Option Int)} {cs cs' pre rest rest' post post' : List Int}
    {k k' sg sg' : Int} {a a' ld ld' : Nat} (hcs : pcs = cs.map some) (hcs' : qcs = cs'.map some)
    (hlen : pcs.length = qcs.length)
    (hne : pcs ≠ qcs ∨ k ≠ k' ∨ a ≠ a' ∨ sg ≠ sg' ∨ ld ≠ ld') :
    pre ++ (cs ++ [k, (a : Int), sg, (ld : Int)] ++ rest) ++ post ≠
      pre ++ (cs' ++ [k', (a' : Int), sg', (ld' : Int)] ++ rest') ++ post' := by
  intro h
  rw [hcs, hcs', List.length_map, List.length_map] at hlen
  simp only [List.append_assoc, List.append_cancel_left_eq] at h
  obtain ⟨h1, h2⟩ := List.append_inj h hlen
  simp only [List.cons_append, List.cons.injEq, Nat.cast_inj] at h2
  rcases hne with h | h | h | h | h
  · exact h (by rw [hcs, hcs', h1])
  · exact h h2.1
  · exact h h2.2.1
  · exact h h2.2.2.1
  · exact h h2.2.2.2.1

/-! ## what acceptance of a disclosure proof says about its range proofs -/

theorem ProofD.wellFormed_rangeEntry {pk : PublicKey} {p : ProofD} {rps : RPMap}
    (hw : p.wellFormed pk = true) (hrps : p.rangeProofs = some rps)
    {kv : Int × List (Option RangeProof)} (hkv : kv ∈ rps) :
    p.aResponses.has kv.1 = true ∧ p.aDisclosed.has kv.1 = false ∧
      0 ≤ kv.1 ∧ kv.1 < pk.r.length ∧ none ∉ kv.2 := by
  obtain ⟨_, _, hA, hD, hR, _⟩ := (ProofD.wellFormed_iff pk p).mp hw
  rw [hrps] at hR
  obtain ⟨hhas, hnn⟩ := hR kv hkv
  obtain ⟨v, hv⟩ := Option.isSome_iff_exists.mp hhas
  refine ⟨hhas, ?_, (hA _ (lookup_mem hv)).2.1, (hA _ (lookup_mem hv)).2.2,
    fun hn => absurd (hnn none hn) (by decide)⟩
  cases hd : p.aDisclosed.lookup kv.1 with
  | none => simp [IntMap.has, hd]
  | some w => exact absurd hhas (by rw [(hD _ (lookup_mem hd)).2.2.2]; decide)

theorem ProofD.rangeIndices_sorted (p : ProofD) : p.rangeIndices.Pairwise (· < ·) := by
  unfold ProofD.rangeIndices
  rw [List.pairwise_map]
  exact List.Pairwise.imp (fun h => by exact_mod_cast h) List.pairwise_lt_range

/-- **acceptance ⇒ the challenge covers the range proofs**: the challenge of an accepted proof
    is the hash of context, `[A, Z]`, the non-revocation contributions `l1`, the range
    contributions `rc` and the nonce, where `rc` has the shape of `rangeContributions_shape`
    computed with the proof's own challenge `c` and hidden responses. -/
theorem ProofD.accept_range_shape {o : SigOracle} {kid : String} {pk : PublicKey} {p : ProofD}
    {ctx nonce : Int} {issig : Bool} {i1 i2 : Int} {rps : RPMap}
    (h : p.verifyWith o kid pk ctx nonce issig i1 i2 = .ok true) (hrps : p.rangeProofs = some rps) :
    ∃ a z c l1 rc structs parts, p.a = some a ∧ p.c = some c ∧
      c = ((createChallenge ctx nonce ([a, z] ++ l1 ++ rc) issig : Nat) : Int) ∧
      (extractAll pk rps).run = .ok (some structs) ∧
      List.Forall₂ (RangeIndexRel pk p c structs rps) p.rangeIndices parts ∧
      rc = parts.flatten := by
  obtain ⟨contrib, p', hc, hch⟩ := ProofD.verifyWith_challenge h
  obtain ⟨F⟩ := ProofD.challengeContribution_ok_some hc
  obtain ⟨hR, hA⟩ := F.nonrev.frame
  obtain ⟨structs, parts, hst, hF, hflat⟩ := ProofD.rangeContributions_shape F.range (hR.trans hrps)
  unfold RangeIndexRel ProofD.rangeIndices ProofD.maxAttribute at hF
  rw [hA] at hF
  refine ⟨F.a, F.z, F.c, F.nonrevContrib, F.rangeContrib, structs, parts, F.a_eq, F.c_eq, ?_, hst, hF,
    hflat⟩
  rw [F.c_eq] at hch
  rw [← F.contrib_eq]
  exact Option.some.inj hch

end Gabi
