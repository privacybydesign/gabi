/-
  GabiProofs.MiscLemmas — the helper lemmas of three properties, one part each:
  C14 (the keyshare server's release rule, sizes of the joint response), C07 (randomiser reuse:
  the supply model, the freshness count) and C11 (non-revocation proofs: `SetExpected` and
  `VerifyWithChallenge`, `revocationAttrIndex`, the representation-proof interpreter on zero
  bases and in `(ZMod n)ˣ`, the table of the three relations, and a torsion-free group with two
  independent generators for the non-vacuity of the witness extraction).
-/
import GabiModel.Reuse
import GabiModel.Proofs
import GabiModel.Keyshare
import GabiProofs.NumLemmas
import GabiProofs.GroupAlgebra
import GabiProofs.VerifyLogic
import GabiProofs.Bridge
import Mathlib.Data.List.Nodup
import Mathlib.Data.List.Pairwise
import Mathlib.Tactic.Ring
import Mathlib.Tactic.NormNum
import Mathlib.Algebra.Group.Basic
import Mathlib.Algebra.Group.Prod
import Mathlib.Algebra.Group.TypeTags.Basic

namespace Gabi.Misc
open Gabi

/-! # C14: the keyshare server -/

/-! ## the keyshare server's release rule -/

/-- the body of the `mapM` in `keyshareResponse`: what one input contributes to the challenge. -/
def ksContrib (keys : List (String × PublicKey)) (rnd : Int) (i : KsInput) : Option (List Int) :=
  match i.keyId with
  | none => some (i.value :: i.commitment :: i.others)
  | some id => do
    let pk ← keys.lookup id
    let r0 ← pk.r[0]?
    let w ← goExp r0 rnd pk.n
    some (i.value :: (i.commitment * w % pk.n) :: i.others)

/-- the guard of `keyshareResponse`: some input names a key the server does not know. -/
def ksUnknownKey (keys : List (String × PublicKey)) (inputs : List KsInput) : Bool :=
  inputs.any (fun i => match i.keyId with
      | some id => (keys.lookup id).isNone
      | none => false)

/-- `KeyshareResponse` with its loop bodies named; `rfl`, hence tied to the exact shape of the
    model's do-block. -/
theorem keyshareResponse_eq (keys : List (String × PublicKey)) (secret rnd : Int) (hm : Bool)
    (ctx : Option Int) (nonce resp : Int) (issig : Bool) (inputs : List KsInput) :
    keyshareResponse keys secret rnd hm ctx nonce resp issig inputs =
      if ksUnknownKey keys inputs = true then none else
      (inputs.mapM (ksContrib keys rnd)).bind fun contribs =>
      if (!hm) = true then none else
      some (createChallenge (ctx.getD 1) nonce contribs.flatten issig,
            rnd + (createChallenge (ctx.getD 1) nonce contribs.flatten issig : Int) * secret + resp) :=
  rfl

theorem ksUnknownKey_eq_false_iff (keys : List (String × PublicKey)) (inputs : List KsInput) :
    ksUnknownKey keys inputs = false ↔
      ∀ i ∈ inputs, ∀ id, i.keyId = some id → (keys.lookup id).isSome = true := by
  unfold ksUnknownKey
  rw [List.any_eq_false]
  refine forall₂_congr fun i _ => ?_
  cases i.keyId <;> simp

theorem ksContrib_some_key {keys : List (String × PublicKey)} {rnd : Int} {i : KsInput} {id : String}
    {pk : PublicKey} {r0 w : Int} (hid : i.keyId = some id) (hk : keys.lookup id = some pk)
    (hr : pk.r[0]? = some r0) (hw : goExp r0 rnd pk.n = some w) :
    ksContrib keys rnd i = some (i.value :: (i.commitment * w % pk.n) :: i.others) := by
  unfold ksContrib
  rw [hid]
  simp only [hk, hr, hw, Option.bind_eq_bind, Option.bind_some]

theorem ksContrib_none_key {keys : List (String × PublicKey)} {rnd : Int} {i : KsInput}
    (hid : i.keyId = none) :
    ksContrib keys rnd i = some (i.value :: i.commitment :: i.others) := by
  unfold ksContrib
  rw [hid]

/-! ## sizes of the joint secret-key response -/

theorem mul_lt_two_pow {c m : Int} {a b : Nat} (hc0 : 0 ≤ c) (hm0 : 0 ≤ m) (hc : c < 2 ^ a)
    (hm : m < 2 ^ b) : c * m < 2 ^ (a + b) := by
  rw [pow_add]
  exact mul_lt_mul'' hc hm hc0 hm0

/-- the joint response `(rnd + c·ks) + (ru + c·mu)` when both products are below `P` and the
    two randomisers leave `2P` of head-room below `Y`. -/
theorem total_response_lt {rnd c ks ru mu P Y : Int} (h1 : c * ks < P) (h2 : c * mu < P)
    (hsum : rnd + ru + P * 2 ≤ Y) : rnd + c * ks + (ru + c * mu) < Y := by
  omega

/-! # C07: randomiser reuse -/

/-! ## provenance of randomisers — a supply is a strictly increasing counter

  An idealisation, not a transcription of Go code: every call of the randomness source
  (`common.RandomBigInt`) is a `draw` returning a fresh index. That the CPRNG never repeats a
  value is the assumption this model encodes; it is not proved. -/

/-- `draw s`: hand out the current index, advance the counter. -/
def draw (s : Nat) : Nat × Nat := (s, s + 1)

/-- `k` consecutive draws from state `s`: the indices handed out and the final state. -/
def drawMany : Nat → Nat → List Nat × Nat
  | 0, s => ([], s)
  | k + 1, s => let (i, s') := draw s; let (is, s'') := drawMany k s'; (i :: is, s'')

/-- a schedule says which consumer draws next; `runSchedule` returns who got which index. -/
def runSchedule {κ} : List κ → Nat → List (κ × Nat) × Nat
  | [], s => ([], s)
  | k :: ks, s => let (i, s') := draw s; let (r, s'') := runSchedule ks s'; ((k, i) :: r, s'')

/-- the indices consumer `k` received. -/
def indicesOf {κ} [DecidableEq κ] (k : κ) (r : List (κ × Nat)) : List Nat :=
  (r.filter fun p => p.1 = k).map (·.2)

theorem runSchedule_eq {κ} (ks : List κ) (s : Nat) :
    runSchedule ks s = (ks.zip (List.range' s ks.length), s + ks.length) := by
  induction ks generalizing s with
  | nil => rfl
  | cons k ks ih =>
    simp only [runSchedule, draw, ih, List.length_cons, List.range'_succ, List.zip_cons_cons]
    congr 1; omega

theorem drawMany_eq (k s : Nat) : drawMany k s = (List.range' s k, s + k) := by
  induction k generalizing s with
  | zero => rfl
  | succ k ih =>
    simp only [drawMany, draw, ih, List.range'_succ]
    congr 1; omega

theorem runSchedule_indices {κ} (ks : List κ) (s : Nat) :
    ((runSchedule ks s).1.map (·.2)) = List.range' s ks.length := by
  rw [runSchedule_eq]
  simp only
  rw [List.map_snd_zip]
  simp

theorem indicesOf_sublist {κ} [DecidableEq κ] (k : κ) (r : List (κ × Nat)) :
    (indicesOf k r).Sublist (r.map (·.2)) :=
  List.Sublist.map _ List.filter_sublist

/-! ## the pairwise freshness count -/

theorem forall_allPairs_iff {α} (P : α → α → Prop) (l : List α) :
    (∀ p ∈ allPairs l, P p.1 p.2) ↔ l.Pairwise P := by
  induction l with
  | nil => simp [allPairs]
  | cons x xs ih =>
    rw [List.pairwise_cons, ← ih]
    simp only [allPairs, List.mem_append, List.mem_map]
    constructor
    · intro h
      exact ⟨fun y hy => h (x, y) (Or.inl ⟨y, hy, rfl⟩), fun p hp => h p (Or.inr hp)⟩
    · rintro ⟨h1, h2⟩ p (⟨y, hy, rfl⟩ | hp)
      · exact h1 y hy
      · exact h2 p hp

/-- `reusedPair a b = false`, as a proposition. -/
def FreshPair (a b : TranscriptValue) : Prop :=
  a.proof ≠ b.proof →
  ¬ (a.session = b.session ∧ a.slot = "secretkey" ∧ b.slot = "secretkey") →
    a.randomizer ≠ b.randomizer ∧ ¬ (extract a.c a.s b.c b.s = some a.m ∧ a.m = b.m)

theorem reusedPair_eq_false_iff (a b : TranscriptValue) : reusedPair a b = false ↔ FreshPair a b := by
  simp only [reusedPair, FreshPair, extractorSucceeds, Bool.and_eq_false_imp, Bool.and_eq_true,
    Bool.not_eq_true', Bool.or_eq_false_iff, decide_eq_true_eq, decide_eq_false_iff_not,
    beq_eq_false_iff_ne, beq_iff_eq, ne_eq, not_and, and_imp]

/-! # C11: non-revocation proofs -/

/-! ## `SetExpected` and `VerifyWithChallenge` of the non-revocation proof -/

theorem unmarshalVerify_eq_some_iff (o : SigOracle) (kid : String) (pk : PublicKey)
    (s : SignedAccumulator) (acc : Accumulator) :
    s.unmarshalVerify o kid pk = some acc ↔
      pk.counter = s.pkCounter ∧ o kid (s.data.getD []) = some acc := by
  unfold SignedAccumulator.unmarshalVerify
  by_cases h : pk.counter = s.pkCounter <;> simp [h]

theorem setExpectedResult_response_alpha (p : NonRevProof) (nu c resp : Int) :
    (setExpectedResult p nu c resp).response "alpha" = some resp := by
  simp [setExpectedResult, NonRevProof.response]

theorem setExpectedResult_response_other (p : NonRevProof) (nu c resp : Int) (name : String)
    (h : name ≠ "alpha") : (setExpectedResult p nu c resp).response name = p.response name := by
  have hb : ¬ (name == "alpha") = true := by simpa using h
  simp only [setExpectedResult, NonRevProof.response, List.lookup, hb]
  rw [lookup_filter_ne _ _ _ h]

theorem reject_else_eq_accept_iff {β} {P : Prop} [Decidable P] {x : Bool × Option β} {a : Option β} :
    (if P then (false, none) else x) = (true, a) ↔ ¬ P ∧ x = (true, a) := by
  by_cases h : P <;> simp [h]

/-- `VerifyWithChallenge` accepts exactly when it passes every early `return false`. -/
theorem verifyWithChallenge_true_iff (o : SigOracle) (kid : String) (pk : PublicKey) (p : NonRevProof)
    (c' : Int) (a : Option Accumulator) :
    p.verifyWithChallenge o kid pk c' = (true, a) ↔
      ∃ sacc acc nu, p.sacc = some sacc ∧ p.structureOk = true ∧ p.basesAreUnits pk = true ∧
        (p.response "alpha").getD 0 ≤ revBTwoZk ∧
        sacc.unmarshalVerify o kid pk = some acc ∧ acc.nu = some nu ∧ p.nu = some nu ∧
        p.challenge = some c' ∧ a = some acc := by
  unfold NonRevProof.verifyWithChallenge
  constructor
  · intro h
    split at h
    · cases h
    next sacc hs =>
    rw [reject_else_eq_accept_iff, reject_else_eq_accept_iff] at h
    obtain ⟨hchecks, hal, h⟩ := h
    split at h
    · cases h
    next acc hv =>
    split at h
    · next anu pnu ch hn hpn hc =>
      rw [reject_else_eq_accept_iff, not_not, Prod.mk.injEq, decide_eq_true_eq] at h
      obtain ⟨rfl, rfl, rfl⟩ := h
      rw [Bool.or_eq_true, not_or, Bool.not_eq_true', Bool.not_eq_true', Bool.not_eq_false,
        Bool.not_eq_false] at hchecks
      exact ⟨sacc, acc, pnu, hs, hchecks.1, hchecks.2, not_lt.mp hal, hv, hn, hpn, hc, rfl⟩
    · cases h
  · rintro ⟨sacc, acc, nu, hs, hst, hbu, hal, hv, hn, hpn, hc, rfl⟩
    simp only [hs, hst, hbu, hv, hn, hpn, hc]
    simp [not_lt.mpr hal]

theorem nonrev_challengeContributions_ok (pk : PublicKey) (p : NonRevProof) (l : List Int)
    (h : p.challengeContributions pk = .ok l) :
    ∃ cr cu nu ch cs, p.cr = some cr ∧ p.cu = some cu ∧ p.nu = some nu ∧ p.challenge = some ch ∧
      revStructures.mapM (fun s => s.commitmentFromProof pk.n ch (revBases pk p) p.response) = .ok cs ∧
      l = [cr, cu, nu] ++ cs := by
  unfold NonRevProof.challengeContributions at h
  obtain ⟨cr, hcr, h⟩ := GoM.bind_ok_iff.mp h
  obtain ⟨cu, hcu, h⟩ := GoM.bind_ok_iff.mp h
  obtain ⟨nu, hnu, h⟩ := GoM.bind_ok_iff.mp h
  obtain ⟨ch, hch, h⟩ := GoM.bind_ok_iff.mp h
  obtain ⟨cs, hcs, h⟩ := GoM.bind_ok_iff.mp h
  exact ⟨cr, cu, nu, ch, cs, (deref_ok_iff ..).mp hcr, (deref_ok_iff ..).mp hcu,
    (deref_ok_iff ..).mp hnu, (deref_ok_iff ..).mp hch, hcs, (Except.ok.inj h).symm⟩

/-! ## `revocationAttrIndex` -/

/-- the bound `2^(AttributeSize+ChallengeLength+ZkStat+1)` used by `revocationAttrIndex`. -/
def revIdxMax : Int := 2 ^ (Gen.revAttributeSize + Gen.revChallengeLength + Gen.revZkStat + 1)

/-- "this hidden response is a candidate of `revocationAttrIndex`": its index is not 0 (the secret
    key is never a candidate) and the response is below the bound. -/
def belowRevMax (kv : Int × Option Int) : Bool :=
  match kv.2 with
  | some r => decide (kv.1 ≠ 0) && decide (r < revIdxMax)
  | none => false

theorem belowRevMax_some (k r : Int) :
    belowRevMax (k, some r) = (decide (k ≠ 0) && decide (r < revIdxMax)) := rfl

theorem belowRevMax_none (k : Int) : belowRevMax (k, none) = false := rfl

theorem belowRevMax_fst_ne_zero {kv : Int × Option Int} (h : belowRevMax kv = true) : kv.1 ≠ 0 := by
  obtain ⟨k, v⟩ := kv
  rcases v with _ | r
  · simp [belowRevMax_none] at h
  · rw [belowRevMax_some] at h
    simp only [Bool.and_eq_true, decide_eq_true_eq] at h
    exact h.1

theorem revocationCandidates_eq (p : ProofD) :
    p.revocationCandidates = (p.aResponses.filter belowRevMax).map (·.1) := by
  unfold ProofD.revocationCandidates
  rw [← List.filterMap_eq_filter, List.map_filterMap]
  refine List.filterMap_congr fun kv _ => ?_
  obtain ⟨k, v⟩ := kv
  rcases v with _ | r
  · rfl
  · show (if k ≠ 0 ∧ r < revIdxMax then some k else none) = _
    by_cases h : k ≠ 0 ∧ r < revIdxMax <;> simp [Option.guard, belowRevMax_some, h]

/-- a choice of `revocationAttrIndex` is `-1` or a candidate. -/
theorem mem_revChoices {p : ProofD} {i : Int} (h : i ∈ p.revChoices) :
    i = -1 ∨ i ∈ p.revocationCandidates := by
  unfold ProofD.revChoices at h
  split at h
  · exact Or.inl (List.mem_singleton.mp h)
  · split at h
    · exact Or.inl (List.mem_singleton.mp h)
    · exact Or.inr h

/-! ## representation proofs in an abstract commutative group -/

section Algebra
open Gabi.Alg
variable {G : Type*} [CommGroup G] {ι : Type*}

theorem repr_complete (B : ι → G) (p sec rnd : ι → ℤ) (l : List ι) (c : ℤ) (lhs : G)
    (hl : lhs = rep B (fun j => p j * sec j) l) :
    (lhs⁻¹) ^ c * rep B (fun j => p j * (rnd j + c * sec j)) l = rep B (fun j => p j * rnd j) l := by
  subst hl
  have : (fun j => p j * (rnd j + c * sec j)) = fun j => p j * rnd j + c * (p j * sec j) := by
    funext j; ring
  rw [this, rep_add, rep_const_mul]
  to_additive_goal
  module

theorem repr_special_soundness (B : ι → G) (p s s' : ι → ℤ) (l : List ι) (c c' : ℤ) (lhs T : G)
    (h1 : (lhs⁻¹) ^ c * rep B (fun j => p j * s j) l = T)
    (h2 : (lhs⁻¹) ^ c' * rep B (fun j => p j * s' j) l = T) :
    lhs ^ (c - c') = rep B (fun j => p j * (s j - s' j)) l := by
  have : (fun j => p j * (s j - s' j)) = fun j => p j * s j - p j * s' j := by
    funext j; ring
  rw [this, rep_sub]
  rw [inv_zpow'] at h1 h2
  exact two_transcripts h1 h2

/-- the three relations of the non-revocation proof hold for an honest prover. -/
theorem nonrev_relations {g h u ν : G} {e r2 r3 : ℤ} (hw : u ^ e = ν) :
    let Cr := g ^ r2 * h ^ r3
    let Cu := u * h ^ r2
    Cr = g ^ r2 * h ^ r3 ∧ ν = Cu ^ e * h ^ (-(e * r2)) ∧
      1 = Cr ^ e * g ^ (-(e * r2)) * h ^ (-(e * r3)) := by
  subst hw
  refine ⟨rfl, ?_, ?_⟩
  · to_additive_goal; module
  · to_additive_goal; module

end Algebra

/-! ## the loops of `CommitmentsFromProof` (`cfp`) and `CommitmentsFromSecrets` (`cfs`)

  The two `go` loops over the rhs differ only in the message of a failed lookup; the value
  `cfpC0` is what the loop of `CommitmentsFromProof` starts from. -/

theorem cfp_go_nil (n : Int) (b r : String → Option Int) (c k : Int) :
    QrStructure.commitmentFromProof.go n b r [] c k = .ok c := rfl

theorem cfp_go_cons (n : Int) (b r : String → Option Int) (x : RhsContribution)
    (xs : List RhsContribution) (c k res : Int) (hres : r x.secret = some res) :
    QrStructure.commitmentFromProof.go n b r (x :: xs) c k =
      QrStructure.commitmentFromProof.go n b r xs
        (c * expInto k (b x.base) (x.power * res) n % n) (expInto k (b x.base) (x.power * res) n) := by
  show (deref _ (r x.secret) >>= _) = _
  rw [hres]; rfl

theorem cfs_go_cons (n : Int) (b r : String → Option Int) (x : RhsContribution)
    (xs : List RhsContribution) (c k rnd : Int) (hrnd : r x.secret = some rnd) :
    QrStructure.commitmentFromSecrets.go n b r (x :: xs) c k =
      QrStructure.commitmentFromSecrets.go n b r xs
        (c * expInto k (b x.base) (x.power * rnd) n % n) (expInto k (b x.base) (x.power * rnd) n) := by
  show (deref _ (r x.secret) >>= _) = _
  rw [hrnd]; rfl

/-- the lhs factor `(∏ lhs)^(-c)` of the reconstruction. -/
def cfpC0 (s : QrStructure) (n challenge : Int) (bases : String → Option Int) : Int :=
  let lhs := (s.lhs.foldl (fun (acc : Int × Int) l =>
      let tmp := expInto acc.2 (bases l.base) l.power n
      (acc.1 * tmp % n, tmp)) ((1 : Int), (0 : Int))).1
  let lhs := (goModInverse lhs n).getD lhs
  (goExp lhs challenge n).getD 0

theorem commitmentFromProof_eq (s : QrStructure) (n ch : Int) (b r : String → Option Int) :
    s.commitmentFromProof n ch b r =
      QrStructure.commitmentFromProof.go n b r s.rhs (cfpC0 s n ch b) 0 := rfl

/-! ## why `C_r`, `C_u` must be units — the zero-commitment forgery -/

/-- once the running commitment is `0` it stays `0`. -/
theorem cfp_go_zero (n : Int) (b r : String → Option Int) :
    ∀ (rs : List RhsContribution) (k : Int), (∀ x ∈ rs, (r x.secret).isSome = true) →
      QrStructure.commitmentFromProof.go n b r rs 0 k = .ok 0
  | [], k, _ => rfl
  | x :: xs, k, h => by
    obtain ⟨res, hres⟩ := Option.isSome_iff_exists.mp (h x (by simp))
    rw [cfp_go_cons n b r x xs 0 k res hres, Int.zero_mul, Int.zero_emod]
    exact cfp_go_zero n b r xs _ (fun y hy => h y (by simp [hy]))

theorem goExp_zero_base {e n : Int} (hn : 0 < n) (he : 0 < e) : goExp 0 e n = some 0 := by
  rw [goExp_nonneg 0 e n hn he.le, zero_pow (by omega : e.toNat ≠ 0), Int.zero_emod]

theorem expInto_zero_base (k e n : Int) (hn : 0 < n) (he : 0 < e) : expInto k (some 0) e n = 0 := by
  unfold expInto
  simp only
  rw [goExp_zero_base hn he]
  rfl

theorem cfp_go_hits_zero (n : Int) (b r : String → Option Int) (hn : 0 < n)
    (x : RhsContribution) (hb : b x.base = some 0) (res : Int)
    (hres : r x.secret = some res) (hpos : 0 < x.power * res) :
    ∀ (rs : List RhsContribution) (c k : Int), (∀ y ∈ rs, (r y.secret).isSome = true) → x ∈ rs →
      QrStructure.commitmentFromProof.go n b r rs c k = .ok 0
  | [], _, _, _, hx => absurd hx (by simp)
  | y :: ys, c, k, hall, hx => by
    obtain ⟨resy, hresy⟩ := Option.isSome_iff_exists.mp (hall y (by simp))
    rw [cfp_go_cons n b r y ys c k resy hresy]
    rcases List.mem_cons.mp hx with rfl | hx'
    · rw [hres] at hresy; cases hresy
      rw [hb, expInto_zero_base _ _ _ hn hpos, Int.mul_zero, Int.zero_emod]
      exact cfp_go_zero n b r ys _ (fun z hz => hall z (by simp [hz]))
    · exact cfp_go_hits_zero n b r hn x hb res hres hpos ys _ _ (fun z hz => hall z (by simp [hz])) hx'

theorem commitmentZero (s : QrStructure) (n ch : Int) (b r : String → Option Int) (hn : 0 < n)
    (hall : ∀ x ∈ s.rhs, (r x.secret).isSome = true)
    (x : RhsContribution) (hx : x ∈ s.rhs) (hb : b x.base = some 0) (res : Int)
    (hres : r x.secret = some res) (hpos : 0 < x.power * res) :
    s.commitmentFromProof n ch b r = .ok 0 := by
  rw [commitmentFromProof_eq]
  exact cfp_go_hits_zero n b r hn x hb res hres hpos _ _ _ hall hx

/-- a zero lhs base with exponent 1 makes the lhs factor `cfpC0`, hence the whole commitment, `0`
    when the challenge is non-zero: `0` is not invertible, `0^c = 0` (and a negative `c` makes
    `Exp` fail, leaving `0`). -/
theorem cfpC0_zero_lhs (name : String) (n ch : Int) (b : String → Option Int) (rhs : List RhsContribution)
    (hn : 1 < n) (hb : b name = some 0) (hch : ch ≠ 0) :
    cfpC0 ⟨[⟨name, 1⟩], rhs⟩ n ch b = 0 := by
  have hinv : goModInverse 0 n = none := by
    rw [goModInverse_none_iff 0 n (by omega), Int.gcd_zero_left]
    omega
  unfold cfpC0
  simp only [List.foldl, hb]
  rw [expInto_zero_base _ _ _ (by omega) one_pos, Int.mul_zero, Int.zero_emod, hinv,
    Option.getD_none]
  by_cases hneg : ch < 0
  · rw [goExp_neg 0 ch n (by omega) hneg, hinv]; rfl
  · rw [goExp_zero_base (by omega) (by omega)]; rfl

/-! ## `CommitmentsFromProof` / `CommitmentsFromSecrets` in the unit group of `ZMod n` -/

section BridgeQr
open Gabi.Alg
variable {n : ℕ}

/-- `v` is the canonical representative in `[0,n)` of the unit `u`. -/
def RepU (n : ℕ) (v : Int) (u : (ZMod n)ˣ) : Prop := 0 ≤ v ∧ v < n ∧ (v : ZMod n) = (u : ZMod n)

/-- the unit a base name denotes. -/
noncomputable def baseU (n : ℕ) (b : String → Option Int) (name : String) : (ZMod n)ˣ :=
  zunit n ((b name).getD 0)

/-- "the base `name` is present and invertible modulo `n`". -/
def UnitBase (n : ℕ) (b : String → Option Int) (name : String) : Prop :=
  ∃ x, b name = some x ∧ Int.gcd x n = 1

theorem RepU.unique {v w : Int} {u : (ZMod n)ˣ} (hv : RepU n v u) (hw : RepU n w u) : v = w :=
  eq_of_cast_eq hv.1 hv.2.1 hw.1 hw.2.1 (hv.2.2.trans hw.2.2.symm)

theorem RepU.congr {v : Int} {u w : (ZMod n)ˣ} (hv : RepU n v u) (h : u = w) : RepU n v w := h ▸ hv

theorem RepU.inj {v : Int} {u w : (ZMod n)ˣ} (hu : RepU n v u) (hw : RepU n v w) : u = w :=
  Units.ext (hu.2.2.symm.trans hw.2.2)

theorem RepU.one (hn : 1 < n) : RepU n 1 1 :=
  ⟨by norm_num, by exact_mod_cast hn, by simp⟩

theorem RepU.mul (hn : 1 < n) {a b : Int} {u w : (ZMod n)ˣ} (ha : RepU n a u) (hb : RepU n b w) :
    RepU n (a * b % (n : Int)) (u * w) :=
  mul_emod_unit (by omega) ha.2.2 hb.2.2

theorem baseU_eq {b : String → Option Int} {name : String} {x : Int} (h : b name = some x) :
    baseU n b name = zunit n x := by
  unfold baseU
  rw [h]
  rfl

theorem expInto_unit (hn : 1 < n) (b : String → Option Int) (name : String)
    (hu : UnitBase n b name) (prev e : Int) :
    RepU n (expInto prev (b name) e n) (baseU n b name ^ e) := by
  obtain ⟨x, hx, hg⟩ := hu
  obtain ⟨r, hr, h0, h1, hc⟩ := goExp_coprime hn hg e
  unfold expInto
  rw [baseU_eq hx, hx]
  simp only [hr, Option.getD_some]
  exact ⟨h0, h1, hc⟩

theorem lhs_fold_unit (hn : 1 < n) (b : String → Option Int) :
    ∀ (ls : List LhsContribution) (a t : Int) (u : (ZMod n)ˣ),
      (∀ l ∈ ls, UnitBase n b l.base) → RepU n a u →
      RepU n (ls.foldl (fun (acc : Int × Int) l =>
          let tmp := expInto acc.2 (b l.base) l.power n
          (acc.1 * tmp % n, tmp)) (a, t)).1
        (u * rep (fun l : LhsContribution => baseU n b l.base) (fun l => l.power) ls)
  | [], a, t, u, _, ha => by simpa using ha
  | l :: ls, a, t, u, hb, ha => by
    rw [List.foldl_cons, rep_cons, ← mul_assoc]
    exact lhs_fold_unit hn b ls _ _ _ (fun x hx => hb x (by simp [hx]))
      (RepU.mul hn ha (expInto_unit hn b l.base (hb l (by simp)) t l.power))

theorem cfpC0_unit (hn : 1 < n) (s : QrStructure) (c : Int) (b : String → Option Int)
    (hb : ∀ l ∈ s.lhs, UnitBase n b l.base) :
    RepU n (cfpC0 s n c b)
      (((rep (fun l : LhsContribution => baseU n b l.base) (fun l => l.power) s.lhs)⁻¹) ^ c) := by
  have hl := lhs_fold_unit hn b s.lhs 1 0 1 hb (RepU.one hn)
  rw [one_mul] at hl
  unfold cfpC0
  simp only
  generalize (s.lhs.foldl (fun (acc : Int × Int) l =>
          let tmp := expInto acc.2 (b l.base) l.power n
          (acc.1 * tmp % n, tmp)) ((1 : Int), (0 : Int))).1 = L at hl ⊢
  generalize rep (fun l : LhsContribution => baseU n b l.base) (fun l => l.power) s.lhs = u at hl ⊢
  -- `L` represents `u`, so `ModInverse` succeeds with a representative `inv` of `u⁻¹` …
  obtain ⟨inv, hinv, -, -, ic⟩ := goModInverse_unit (by omega) (isUnit_of_cast hl.2.2)
  rw [zunit_of_cast hl.2.2] at ic
  -- … and `Exp` with a representative of `(u⁻¹)^c`
  obtain ⟨r, hr, r0, r1, rc⟩ := goExp_unit hn (isUnit_of_cast ic) c
  rw [zunit_of_cast ic] at rc
  rw [hinv, Option.getD_some, hr, Option.getD_some]
  exact ⟨r0, r1, rc⟩

/-- the rhs product loop, for any `go` with the two equations that
    `commitmentFromProof.go` and `commitmentFromSecrets.go` share. -/
theorem rhs_go_unit (hn : 1 < n) (b r : String → Option Int)
    (go : List RhsContribution → Int → Int → GoM Int) (hnil : ∀ c k, go [] c k = .ok c)
    (hcons : ∀ x xs c k res, r x.secret = some res → go (x :: xs) c k =
      go xs (c * expInto k (b x.base) (x.power * res) n % n) (expInto k (b x.base) (x.power * res) n)) :
    ∀ (rs : List RhsContribution) (cm k : Int) (u : (ZMod n)ˣ),
      (∀ x ∈ rs, UnitBase n b x.base) → (∀ x ∈ rs, (r x.secret).isSome = true) → RepU n cm u →
      ∃ v, go rs cm k = .ok v ∧
        RepU n v (u * rep (fun x : RhsContribution => baseU n b x.base)
          (fun x => x.power * (r x.secret).getD 0) rs)
  | [], cm, k, u, _, _, hc => ⟨cm, hnil cm k, by simpa using hc⟩
  | x :: xs, cm, k, u, hb, hr, hc => by
    obtain ⟨res, hres⟩ := Option.isSome_iff_exists.mp (hr x (by simp))
    rw [hcons x xs cm k res hres, rep_cons, ← mul_assoc, hres, Option.getD_some]
    exact rhs_go_unit hn b r go hnil hcons xs _ _ _ (fun y hy => hb y (by simp [hy]))
      (fun y hy => hr y (by simp [hy])) (RepU.mul hn hc (expInto_unit hn b x.base (hb x (by simp)) k _))

/-- with all bases invertible and all responses present `CommitmentsFromProof` returns (no
    panic) the representative of `(∏ lhs)^(-c) · ∏ base^(power·response)`. -/
theorem commitmentFromProof_unit (hn : 1 < n) (s : QrStructure) (c : Int) (b r : String → Option Int)
    (hl : ∀ l ∈ s.lhs, UnitBase n b l.base) (hb : ∀ x ∈ s.rhs, UnitBase n b x.base)
    (hr : ∀ x ∈ s.rhs, (r x.secret).isSome = true) :
    ∃ v, s.commitmentFromProof n c b r = .ok v ∧
      RepU n v (((rep (fun l : LhsContribution => baseU n b l.base) (fun l => l.power) s.lhs)⁻¹) ^ c *
        rep (fun x : RhsContribution => baseU n b x.base)
          (fun x => x.power * (r x.secret).getD 0) s.rhs) := by
  rw [commitmentFromProof_eq]
  exact rhs_go_unit hn b r _ (cfp_go_nil n b r) (cfp_go_cons n b r) s.rhs _ 0 _ hb hr
    (cfpC0_unit hn s c b hl)

/-- with all rhs bases invertible and all randomizers present `CommitmentsFromSecrets` returns (no
    panic) the representative of `∏ base^(power·randomizer)`. -/
theorem commitmentFromSecrets_unit (hn : 1 < n) (s : QrStructure) (b r : String → Option Int)
    (hb : ∀ x ∈ s.rhs, UnitBase n b x.base) (hr : ∀ x ∈ s.rhs, (r x.secret).isSome = true) :
    ∃ v, s.commitmentFromSecrets n b r = .ok v ∧
      RepU n v (rep (fun x : RhsContribution => baseU n b x.base)
          (fun x => x.power * (r x.secret).getD 0) s.rhs) := by
  obtain ⟨v, hv, hrep⟩ := rhs_go_unit hn b r _ (fun _ _ => rfl) (cfs_go_cons n b r) s.rhs 1 0 1 hb hr
    (RepU.one hn)
  rw [one_mul] at hrep
  exact ⟨v, hv, hrep⟩

/-- Completeness of a representation proof in the model: if the relation
    `∏ lhs = ∏ base^(power·secret)` holds in the unit group of `ZMod n` and every response is
    `randomizer + c·secret`, the verifier's `CommitmentsFromProof` returns exactly the integer the
    prover's `CommitmentsFromSecrets` produced. -/
theorem model_repr_complete (hn : 1 < n) (s : QrStructure) (c : Int) (b rnd res : String → Option Int)
    (sec : String → Int)
    (hl : ∀ l ∈ s.lhs, UnitBase n b l.base) (hb : ∀ x ∈ s.rhs, UnitBase n b x.base)
    (hrnd : ∀ x ∈ s.rhs, (rnd x.secret).isSome = true)
    (hres : ∀ x ∈ s.rhs, (res x.secret).isSome = true)
    (hresp : ∀ x ∈ s.rhs, (res x.secret).getD 0 = (rnd x.secret).getD 0 + c * sec x.secret)
    (hrel : rep (fun l : LhsContribution => baseU n b l.base) (fun l => l.power) s.lhs =
      rep (fun x : RhsContribution => baseU n b x.base) (fun x => x.power * sec x.secret) s.rhs) :
    ∃ v, s.commitmentFromSecrets n b rnd = .ok v ∧ s.commitmentFromProof n c b res = .ok v := by
  obtain ⟨v, hv, hrv⟩ := commitmentFromProof_unit hn s c b res hl hb hres
  obtain ⟨w, hw, hrw⟩ := commitmentFromSecrets_unit hn s b rnd hb hrnd
  rw [rep_congr _ (b := fun x => x.power * ((rnd x.secret).getD 0 + c * sec x.secret))
      fun x hx => congrArg (x.power * ·) (hresp x hx),
    repr_complete (fun x : RhsContribution => baseU n b x.base) (fun x => x.power)
      (fun x => sec x.secret) (fun x => (rnd x.secret).getD 0) s.rhs c _ hrel] at hrv
  cases hrv.unique hrw
  exact ⟨v, hw, hv⟩

/-- Special soundness of a representation proof in the model: two response sets that make
    `CommitmentsFromProof` return the same integer under challenges `c`, `c'` satisfy
    `(∏ lhs)^(c-c') = ∏ base^(power·(res-res'))` in the unit group of `ZMod n`. -/
theorem model_repr_special_soundness (hn : 1 < n) (s : QrStructure) (c c' : Int)
    (b r r' : String → Option Int) (T : Int)
    (hl : ∀ l ∈ s.lhs, UnitBase n b l.base) (hb : ∀ x ∈ s.rhs, UnitBase n b x.base)
    (hr : ∀ x ∈ s.rhs, (r x.secret).isSome = true) (hr' : ∀ x ∈ s.rhs, (r' x.secret).isSome = true)
    (h1 : s.commitmentFromProof n c b r = .ok T) (h2 : s.commitmentFromProof n c' b r' = .ok T) :
    (rep (fun l : LhsContribution => baseU n b l.base) (fun l => l.power) s.lhs) ^ (c - c') =
      rep (fun x : RhsContribution => baseU n b x.base)
        (fun x => x.power * ((r x.secret).getD 0 - (r' x.secret).getD 0)) s.rhs := by
  obtain ⟨v, hv, hrv⟩ := commitmentFromProof_unit hn s c b r hl hb hr
  obtain ⟨w, hw, hrw⟩ := commitmentFromProof_unit hn s c' b r' hl hb hr'
  rw [h1] at hv; cases hv
  rw [h2] at hw; cases hw
  exact repr_special_soundness (fun x : RhsContribution => baseU n b x.base) (fun x => x.power)
    (fun x => (r x.secret).getD 0) (fun x => (r' x.secret).getD 0) s.rhs c c' _ _ (hrv.inj hrw) rfl

/-! ### lists of representation proofs over the same bases -/

theorem model_repr_complete_list (hn : 1 < n) (ss : List QrStructure) (c : Int)
    (b : String → Option Int) (sec rnd : String → Int)
    (hU : ∀ s ∈ ss, (∀ l ∈ s.lhs, UnitBase n b l.base) ∧ ∀ x ∈ s.rhs, UnitBase n b x.base)
    (hrel : ∀ s ∈ ss, rep (fun l : LhsContribution => baseU n b l.base) (fun l => l.power) s.lhs =
      rep (fun x : RhsContribution => baseU n b x.base) (fun x => x.power * sec x.secret) s.rhs) :
    ss.mapM (fun s => s.commitmentFromProof n c b (fun name => some (rnd name + c * sec name))) =
      ss.mapM (fun s => s.commitmentFromSecrets n b (fun name => some (rnd name))) ∧
    ∃ cs, ss.mapM (fun s => s.commitmentFromSecrets n b (fun name => some (rnd name))) = .ok cs := by
  choose! v hv using fun s hs => model_repr_complete hn s c b (fun name => some (rnd name))
    (fun name => some (rnd name + c * sec name)) sec (hU s hs).1 (hU s hs).2 (fun _ _ => rfl)
    (fun _ _ => rfl) (fun _ _ => rfl) (hrel s hs)
  have h2 := List.mapM_eq_pure_map _ v ss fun s hs => (hv s hs).1
  exact ⟨(List.mapM_eq_pure_map _ v ss fun s hs => (hv s hs).2).trans h2.symm, _, h2⟩

theorem model_repr_special_soundness_list (hn : 1 < n) (ss : List QrStructure) (c c' : Int)
    (b r r' : String → Option Int) (cs : List Int)
    (hU : ∀ s ∈ ss, (∀ l ∈ s.lhs, UnitBase n b l.base) ∧ ∀ x ∈ s.rhs, UnitBase n b x.base)
    (hr : ∀ s ∈ ss, ∀ x ∈ s.rhs, (r x.secret).isSome = true)
    (hr' : ∀ s ∈ ss, ∀ x ∈ s.rhs, (r' x.secret).isSome = true)
    (h1 : ss.mapM (fun s => s.commitmentFromProof n c b r) = .ok cs)
    (h2 : ss.mapM (fun s => s.commitmentFromProof n c' b r') = .ok cs) :
    ∀ s ∈ ss,
      (rep (fun l : LhsContribution => baseU n b l.base) (fun l => l.power) s.lhs) ^ (c - c') =
        rep (fun x : RhsContribution => baseU n b x.base)
          (fun x => x.power * ((r x.secret).getD 0 - (r' x.secret).getD 0)) s.rhs := by
  intro s hs
  obtain ⟨T, a1, a2⟩ := Except.mapM_ok_pointwise h1 h2 s hs
  exact model_repr_special_soundness hn s c c' b r r' T (hU s hs).1 (hU s hs).2 (hr s hs) (hr' s hs)
    a1 a2

/-! ### the table of the non-revocation proof: `revStructures` over `revBases` -/

/-- the bases of the non-revocation relations are units when `G`, `H`, `ν` are coprime to `n`
    (a property of a well-formed key / accumulator) and `C_r`, `C_u` pass the verifier's unit
    check. -/
theorem revStructures_unitBase (pk : PublicKey) (p : NonRevProof) {g h cr cu nu : Int}
    (hg : pk.g = some g) (hh : pk.h = some h) (hcr : p.cr = some cr) (hcu : p.cu = some cu)
    (hnu : p.nu = some nu)
    (ug : Int.gcd g n = 1) (uh : Int.gcd h n = 1) (ucr : Int.gcd cr n = 1) (ucu : Int.gcd cu n = 1)
    (unu : Int.gcd nu n = 1) :
    ∀ s ∈ revStructures, (∀ l ∈ s.lhs, UnitBase n (revBases pk p) l.base) ∧
      ∀ x ∈ s.rhs, UnitBase n (revBases pk p) x.base := by
  have uG : UnitBase n (revBases pk p) "G" := ⟨g, hg, ug⟩
  have uH : UnitBase n (revBases pk p) "H" := ⟨h, hh, uh⟩
  have uCr : UnitBase n (revBases pk p) "cr" := ⟨cr, hcr, ucr⟩
  have uCu : UnitBase n (revBases pk p) "cu" := ⟨cu, hcu, ucu⟩
  have uNu : UnitBase n (revBases pk p) "nu" := ⟨nu, hnu, unu⟩
  have uOne : UnitBase n (revBases pk p) "one" := ⟨1, rfl, by simp⟩
  rw [revStructures_eq]
  simp only [List.forall_mem_cons, List.not_mem_nil, false_imp_iff, implies_true, and_true]
  exact ⟨⟨uCr, uG, uH⟩, ⟨uNu, uCu, uH⟩, uOne, uCr, uG, uH⟩

theorem baseU_revBases {pk : PublicKey} {p : NonRevProof} {g h cr cu nu : Int}
    (hg : pk.g = some g) (hh : pk.h = some h) (hcr : p.cr = some cr) (hcu : p.cu = some cu)
    (hnu : p.nu = some nu) :
    baseU n (revBases pk p) "G" = zunit n g ∧ baseU n (revBases pk p) "H" = zunit n h ∧
    baseU n (revBases pk p) "cr" = zunit n cr ∧ baseU n (revBases pk p) "cu" = zunit n cu ∧
    baseU n (revBases pk p) "nu" = zunit n nu ∧ baseU n (revBases pk p) "one" = 1 :=
  ⟨baseU_eq hg, baseU_eq hh, baseU_eq hcr, baseU_eq hcu, baseU_eq hnu,
    (baseU_eq rfl).trans zunit_one⟩

/-- the secrets of an honest non-revocation prover: witness exponent `e`, blinding `r₂ r₃`. -/
def revSecrets (e r2 r3 : Int) (name : String) : Int :=
  match name with
  | "alpha" => e
  | "beta" => e * r2
  | "delta" => e * r3
  | "epsilon" => r2
  | "zeta" => r3
  | _ => 0

end BridgeQr

/-! ## a torsion-free group with two independent generators

  The hypotheses of C11's witness extraction (`nonrev_extracts_witness`) can be met. -/

/-- the free abelian group on two generators `gZ`, `hZ`, written multiplicatively. -/
abbrev Z2 := Multiplicative (ℤ × ℤ)
def gZ : Z2 := Multiplicative.ofAdd (1, 0)
def hZ : Z2 := Multiplicative.ofAdd (0, 1)

theorem z2_zpow (x : Z2) (k : ℤ) :
    Multiplicative.toAdd (x ^ k) = (k * (Multiplicative.toAdd x).1, k * (Multiplicative.toAdd x).2) := by
  rw [toAdd_zpow]
  ext <;> simp

theorem z2_indep (a b : ℤ) (h : gZ ^ a * hZ ^ b = 1) : a = 0 ∧ b = 0 := by
  have := congrArg Multiplicative.toAdd h
  rw [toAdd_mul, z2_zpow, z2_zpow, toAdd_one] at this
  simpa [gZ, hZ] using this

theorem z2_torsion_free (k : ℤ) (hk : k ≠ 0) (x : Z2) (h : x ^ k = 1) : x = 1 := by
  have := congrArg Multiplicative.toAdd h
  rw [z2_zpow, toAdd_one] at this
  have h1 : k * (Multiplicative.toAdd x).1 = 0 := congrArg Prod.fst this
  have h2 : k * (Multiplicative.toAdd x).2 = 0 := congrArg Prod.snd this
  apply Multiplicative.toAdd.injective
  exact Prod.ext (by simpa [hk] using h1) (by simpa [hk] using h2)

end Gabi.Misc
