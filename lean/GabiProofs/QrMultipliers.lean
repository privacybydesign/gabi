/-
  GabiProofs.QrMultipliers — for two odd primes `p`, `q` with different residues modulo 8, both
  different from 1, one of `c, -c, 2c, -2c` is a square modulo `p*q` for every `c` coprime to `p*q`
  (`exists_sq_of_multiplier`). These are the residue conditions `keyproof.CanProve` tests on `P`, `Q`;
  they are why the prover of the prime-power-product proof (primepowerproduct.go) finds a root in every round.
-/
import Mathlib.NumberTheory.LegendreSymbol.QuadraticReciprocity
import Mathlib.Data.Int.ModEq
import Mathlib.Data.ZMod.Basic
import Mathlib.RingTheory.Coprime.Lemmas
import Mathlib.Tactic.Ring
import Mathlib.Tactic.LinearCombination
import Mathlib.Tactic.NormNum

namespace Gabi.KeyProof

/-- Chinese remainder combination of square roots: a square modulo `p` and modulo `q` (coprime)
    is a square modulo `p*q`. -/
theorem sq_mod_mul_of_sq_mod {p q : ℕ} (hpq : Nat.Coprime p q) (a rp rq : ℤ)
    (h1 : rp * rp % (p : ℤ) = a % (p : ℤ)) (h2 : rq * rq % (q : ℤ) = a % (q : ℤ)) :
    ∃ r : ℤ, r * r % ((p : ℤ) * q) = a % ((p : ℤ) * q) := by
  have hco : IsCoprime (p : ℤ) (q : ℤ) := Nat.isCoprime_iff_coprime.mpr hpq
  obtain ⟨u, v, huv⟩ := hco
  refine ⟨rp * (v * q) + rq * (u * p), ?_⟩
  have hp' : rp * (v * q) + rq * (u * p) ≡ rp [ZMOD (p : ℤ)] := by
    apply Int.ModEq.symm
    rw [Int.modEq_iff_dvd]
    exact ⟨u * (rq - rp), by linear_combination rp * huv⟩
  have hq' : rp * (v * q) + rq * (u * p) ≡ rq [ZMOD (q : ℤ)] := by
    apply Int.ModEq.symm
    rw [Int.modEq_iff_dvd]
    exact ⟨v * (rp - rq), by linear_combination rq * huv⟩
  have e1 : (rp * (v * q) + rq * (u * p)) * (rp * (v * q) + rq * (u * p)) ≡ a [ZMOD (p : ℤ)] :=
    (Int.ModEq.mul hp' hp').trans h1
  have e2 : (rp * (v * q) + rq * (u * p)) * (rp * (v * q) + rq * (u * p)) ≡ a [ZMOD (q : ℤ)] :=
    (Int.ModEq.mul hq' hq').trans h2
  exact (Int.modEq_and_modEq_iff_modEq_mul (by simpa using hpq)).mp ⟨e1, e2⟩

theorem exists_sq_mod_prime_of_legendreSym_eq_one {p : ℕ} [Fact p.Prime] (a : ℤ)
    (h : legendreSym p a = 1) : ∃ r : ℤ, r * r % (p : ℤ) = a % (p : ℤ) := by
  have ha0 : (a : ZMod p) ≠ 0 := by
    intro h0
    rw [(legendreSym.eq_zero_iff p a).mpr h0] at h
    exact zero_ne_one h
  obtain ⟨y, hy⟩ := (legendreSym.eq_one_iff p ha0).mp h
  obtain ⟨r, rfl⟩ := ZMod.intCast_surjective y
  refine ⟨r, ?_⟩
  have : ((r * r : ℤ) : ZMod p) = (a : ZMod p) := by
    push_cast
    exact hy.symm
  exact (ZMod.intCast_eq_intCast_iff _ _ _).mp this

theorem legendreSym_signs {p : ℕ} [Fact p.Prime] (hp2 : p ≠ 2) (hp8 : p % 8 ≠ 1) :
    (p % 8 = 3 ∧ legendreSym p (-1) = -1 ∧ legendreSym p 2 = -1 ∧ legendreSym p (-2) = 1) ∨
    (p % 8 = 5 ∧ legendreSym p (-1) = 1 ∧ legendreSym p 2 = -1 ∧ legendreSym p (-2) = -1) ∨
    (p % 8 = 7 ∧ legendreSym p (-1) = -1 ∧ legendreSym p 2 = 1 ∧ legendreSym p (-2) = -1) := by
  have hodd : p % 2 = 1 := (Nat.Prime.mod_two_eq_one_iff_ne_two Fact.out).mpr hp2
  rw [legendreSym.at_neg_one hp2, legendreSym.at_two hp2, legendreSym.at_neg_two hp2,
    ZMod.χ₄_nat_eq_if_mod_four, ZMod.χ₈_nat_eq_if_mod_eight, ZMod.χ₈'_nat_eq_if_mod_eight,
    show p % 4 = p % 8 % 4 by omega, hodd]
  obtain h | h | h : p % 8 = 3 ∨ p % 8 = 5 ∨ p % 8 = 7 := by omega
  · rw [h]; exact Or.inl ⟨rfl, rfl, rfl, rfl⟩
  · rw [h]; exact Or.inr (Or.inl ⟨rfl, rfl, rfl, rfl⟩)
  · rw [h]; exact Or.inr (Or.inr ⟨rfl, rfl, rfl, rfl⟩)

theorem intCast_ne_zero_of_gcd_mul_eq_one {p : ℕ} [Fact p.Prime] (n : ℤ) (hn : (p : ℤ) ∣ n)
    (c : ℤ) (hc : Int.gcd c n = 1) : (c : ZMod p) ≠ 0 := by
  intro h0
  have hd : (p : ℤ) ∣ c := (ZMod.intCast_zmod_eq_zero_iff_dvd c p).mp h0
  have h1 : (p : ℤ) ∣ ((Int.gcd c n : ℕ) : ℤ) := Int.dvd_coe_gcd hd hn
  rw [hc] at h1
  have h2 : p ∣ 1 := by exact_mod_cast h1
  exact (Fact.out : p.Prime).one_lt.ne' (Nat.dvd_one.mp h2)

/-- For odd primes `p`, `q` in different residue classes modulo 8, neither of them the class of 1,
    the pairs `(χ_p m, χ_q m)` for `m = 1, −1, 2, −2` are the four pairs of signs. -/
theorem exists_multiplier_signs {p q : ℕ} [Fact p.Prime] [Fact q.Prime] (hp2 : p ≠ 2) (hq2 : q ≠ 2)
    (hp8 : p % 8 ≠ 1) (hq8 : q % 8 ≠ 1) (hpq8 : p % 8 ≠ q % 8) {s t : ℤ} (hs : s = 1 ∨ s = -1)
    (ht : t = 1 ∨ t = -1) :
    ∃ m ∈ ([1, -1, 2, -2] : List ℤ), legendreSym p m * s = 1 ∧ legendreSym q m * t = 1 := by
  -- a finite table: the six pairs of distinct residues in `{3, 5, 7}` (equal residues contradict
  -- `hpq8`), and for each the four pairs of signs `s`, `t`
  rcases legendreSym_signs hp2 hp8 with ⟨a0, a1, a2, a3⟩ | ⟨a0, a1, a2, a3⟩ | ⟨a0, a1, a2, a3⟩ <;>
  rcases legendreSym_signs hq2 hq8 with ⟨b0, b1, b2, b3⟩ | ⟨b0, b1, b2, b3⟩ | ⟨b0, b1, b2, b3⟩ <;>
  first
  | exact absurd (a0.trans b0.symm) hpq8
  | (simp only [List.mem_cons, List.not_mem_nil, or_false, exists_eq_or_imp, exists_eq_left, legendreSym.at_one,
      a1, a2, a3, b1, b2, b3]
     rcases hs with rfl | rfl <;> rcases ht with rfl | rfl <;> decide)

/-- For two odd primes `p`, `q` whose residues modulo 8 are different and both different from 1,
    and every integer `c` coprime to `p*q`, one of `c, -c, 2c, -2c` is a square modulo `p*q`. -/
theorem exists_sq_of_multiplier {p q : ℕ} (hp : p.Prime) (hq : q.Prime) (hp2 : p ≠ 2) (hq2 : q ≠ 2)
    (hp8 : p % 8 ≠ 1) (hq8 : q % 8 ≠ 1) (hpq8 : p % 8 ≠ q % 8)
    (c : ℤ) (hc : Int.gcd c ((p : ℤ) * q) = 1) :
    ∃ r : ℤ, r * r % ((p : ℤ) * q) = c % ((p : ℤ) * q) ∨ r * r % ((p : ℤ) * q) = (-c) % ((p : ℤ) * q) ∨
      r * r % ((p : ℤ) * q) = (2 * c) % ((p : ℤ) * q) ∨ r * r % ((p : ℤ) * q) = (-(2 * c)) % ((p : ℤ) * q) := by
  have := Fact.mk hp
  have := Fact.mk hq
  have hco : Nat.Coprime p q := (Nat.coprime_primes hp hq).mpr fun h => hpq8 (by rw [h])
  obtain ⟨m, hm, h1, h2⟩ := exists_multiplier_signs hp2 hq2 hp8 hq8 hpq8
    (legendreSym.eq_one_or_neg_one p (intCast_ne_zero_of_gcd_mul_eq_one _ (Dvd.intro _ rfl) c hc))
    (legendreSym.eq_one_or_neg_one q (intCast_ne_zero_of_gcd_mul_eq_one _ (Dvd.intro_left _ rfl) c hc))
  rw [← legendreSym.mul] at h1 h2
  obtain ⟨rp, hrp⟩ := exists_sq_mod_prime_of_legendreSym_eq_one _ h1
  obtain ⟨rq, hrq⟩ := exists_sq_mod_prime_of_legendreSym_eq_one _ h2
  obtain ⟨r, hr⟩ := sq_mod_mul_of_sq_mod hco _ rp rq hrp hrq
  simp only [List.mem_cons, List.not_mem_nil, or_false] at hm
  refine ⟨r, ?_⟩
  rcases hm with rfl | rfl | rfl | rfl
  · exact Or.inl (by simpa using hr)
  · exact Or.inr (Or.inl (by simpa using hr))
  · exact Or.inr (Or.inr (Or.inl hr))
  · exact Or.inr (Or.inr (Or.inr (by simpa [neg_mul] using hr)))

end Gabi.KeyProof
