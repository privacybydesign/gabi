/-
  GabiProofs.VerifyLogic — verification of a single proof (`ProofD`, `ProofU`, the non-revocation
  and range sub-proofs of GabiModel.Proofs), function by function: what a positive verdict
  implies (`…_ok_true`, `…_ok_some`) and when the function cannot panic (`…_isOk`). The one panic
  that well-formedness does not exclude, in `reconstructZ`, is `ProofD.reconstructZ_panics` with
  the key and proof `cexPk`, `cexD`. The monads `GoM` (panics) and `GoE` (error returns) are
  treated in GabiProofs.GoMonad, association lists in GabiProofs.ListLemmas.

  In the proofs a bare `simp only []` after `unfold f` inlines the `let`s of the model definition
  `f`, so that `split` finds the `if` or `match` behind them.
-/
import GabiModel.Proofs
import GabiProofs.NumLemmas
import GabiProofs.GoMonad
import GabiProofs.ListLemmas
import Std.Data.String.ToNat

namespace Gabi

variable {o : SigOracle} {kid : String} {pk : PublicKey}

/-! ## `IntMap`: the model's maps from attribute index to value -/

theorem IntMap.exists_mem_of_has {m : IntMap} {k : Int} (hk : m.has k = true) : ∃ v, (k, v) ∈ m :=
  let ⟨v, hv⟩ := Option.isSome_iff_exists.mp hk
  ⟨v, lookup_mem hv⟩

theorem IntMap.get_isSome {m : IntMap} {k : Int} (hk : m.has k = true)
    (hall : ∀ kv ∈ m, kv.2.isSome) : (m.get k).isSome := by
  unfold IntMap.has at hk
  unfold IntMap.get
  cases h : m.lookup k with
  | none => simp [h] at hk
  | some v => exact hall (k, v) (lookup_mem h)

theorem IntMap.get_some_lookup {m : IntMap} {k s : Int} (h : m.get k = some s) :
    m.lookup k = some (some s) := by
  unfold IntMap.get at h
  cases hl : List.lookup k m with
  | none => rw [hl] at h; cases h
  | some v => rw [hl] at h; simp only at h; rw [h]

theorem IntMap.has_zero_of_pos {m : IntMap} (h : ∀ kv ∈ m, 1 ≤ kv.1) : m.has 0 = false := by
  unfold IntMap.has
  cases hl : List.lookup 0 m with
  | none => rfl
  | some v => exact absurd (h (0, v) (lookup_mem hl)) (by decide : ¬ (1 : Int) ≤ 0)

/-! ## `ProofD.wellFormed` -/

theorem ProofD.wellFormed_iff (pk : PublicKey) (p : ProofD) : p.wellFormed pk = true ↔
    (p.c.isSome ∧ p.a.isSome ∧ p.eResponse.isSome ∧ p.vResponse.isSome) ∧
    (p.aResponses.get 0).isSome ∧
    (∀ kv ∈ p.aResponses, kv.2.isSome ∧ 0 ≤ kv.1 ∧ kv.1 < pk.r.length) ∧
    (∀ kv ∈ p.aDisclosed, kv.2.isSome ∧ 0 ≤ kv.1 ∧ kv.1 < pk.r.length ∧ p.aResponses.has kv.1 = false) ∧
    (∀ kv ∈ p.rangeProofs.getD [], p.aResponses.has kv.1 = true ∧ ∀ rp ∈ kv.2, rp.isSome) ∧
    (∀ kv ∈ p.aDisclosed, ∀ a, kv.2 = some a → ¬ (a < 0 ∧ bitLen a > pk.params.Lm)) := by
  -- both sides become flat conjunctions; the entry condition of `aDisclosed` gives its fourth
  -- conjunct (sign and length of the value) to the last clause
  simp only [ProofD.wellFormed, Bool.and_eq_true, List.all_eq_true, decide_eq_true_eq,
    Option.all_eq_true, Bool.not_eq_true', Bool.and_eq_false_iff, decide_eq_false_iff_not,
    ← not_and_or, and_assoc]
  exact ⟨fun ⟨hc, ha, he, hv, h0, hA, hD, hR⟩ => ⟨hc, ha, he, hv, h0, hA,
      fun kv h => ⟨(hD kv h).1, (hD kv h).2.1, (hD kv h).2.2.1, (hD kv h).2.2.2.2⟩, hR,
      fun kv h => (hD kv h).2.2.2.1⟩,
    fun ⟨hc, ha, he, hv, h0, hA, hD, hR, hN⟩ => ⟨hc, ha, he, hv, h0, hA,
      fun kv h => ⟨(hD kv h).1, (hD kv h).2.1, (hD kv h).2.2.1, hN kv h, (hD kv h).2.2.2⟩, hR⟩⟩

/-- Index 0 carries the secret key: a well-formed proof hides it and discloses only indices
    from 1 on. -/
theorem ProofD.wellFormed_facts {p : ProofD} (h : p.wellFormed pk = true) :
    (∃ s, p.aResponses.get 0 = some s) ∧ (∀ kv ∈ p.aResponses, 0 ≤ kv.1) ∧
      (∀ kv ∈ p.aDisclosed, 1 ≤ kv.1) ∧ p.aDisclosed.has 0 = false := by
  obtain ⟨-, h0, hA, hD, -⟩ := (ProofD.wellFormed_iff pk p).mp h
  obtain ⟨s, hs⟩ := Option.isSome_iff_exists.mp h0
  have hhas : p.aResponses.has 0 = true := by
    rw [IntMap.has, IntMap.get_some_lookup hs]; rfl
  -- index 0 is hidden, and no index is both hidden and disclosed
  have hD1 : ∀ kv ∈ p.aDisclosed, 1 ≤ kv.1 := by
    intro kv hkv
    obtain ⟨-, h0, -, hn⟩ := hD kv hkv
    have : kv.1 ≠ 0 := by
      intro h0'; rw [h0', hhas] at hn; cases hn
    omega
  exact ⟨⟨s, hs⟩, fun kv hkv => (hA kv hkv).2.1, hD1, IntMap.has_zero_of_pos hD1⟩

/-! ## `ProofD.challengeContribution` as a relation -/

/-- the response `revocationAttrIndex` points at, when there is one. -/
theorem revResponse_eq_some {m : IntMap} {i r : Int} :
    (if i < 0 then none else m.get i) = some r ↔ 0 ≤ i ∧ m.get i = some r := by
  by_cases h : i < 0
  · rw [if_pos h]; exact ⟨nofun, fun ⟨h0, _⟩ => absurd h (not_lt.mpr h0)⟩
  · rw [if_neg h]; exact (and_iff_right (not_lt.mp h)).symm

/-- The non-revocation step of `challengeContribution` on `p` with pick `i` and challenge `c`:
    it appends `l1` to the contributions and leaves the proof `p1`. -/
def ProofD.NonrevStep (o : SigOracle) (kid : String) (pk : PublicKey) (p : ProofD) (i : Int) (c : Int)
    (l1 : List Int) (p1 : ProofD) : Prop :=
  (p.nonrev = none ∧ l1 = [] ∧ p1 = p) ∨
  (∃ nr resp nr', p.nonrev = some nr ∧ 0 ≤ i ∧ p.aResponses.get i = some resp ∧
     nr.setExpected o kid pk c resp = some nr' ∧ nr'.challengeContributions pk = .ok l1 ∧
     p1 = { p with nonrev := some nr' })

theorem ProofD.NonrevStep.frame {p p1 : ProofD} {i c : Int} {l1 : List Int}
    (h : ProofD.NonrevStep o kid pk p i c l1 p1) :
    p1.rangeProofs = p.rangeProofs ∧ p1.aResponses = p.aResponses := by
  rcases h with ⟨-, -, rfl⟩ | ⟨nr, resp, nr', -, -, -, -, -, rfl⟩ <;> exact ⟨rfl, rfl⟩

/-- What a successful `(p.challengeContribution o kid pk i).run = .ok (some (contrib, p'))` went
    through, in the order of the code: `contrib = [A, Z] ++ nonrevContrib ++ rangeContrib`. -/
structure ProofD.ContributionParts (o : SigOracle) (kid : String) (pk : PublicKey) (p : ProofD)
    (i : Int) (contrib : List Int) (p' : ProofD) where
  wellFormed : p.wellFormed pk = true
  (z a c : Int)
  z_eq : p.reconstructZ pk = .ok (some z)
  a_eq : p.a = some a
  c_eq : p.c = some c
  nonrevContrib : List Int
  /-- `p` with its non-revocation part as `SetExpected` left it -/
  afterNonrev : ProofD
  nonrev : ProofD.NonrevStep o kid pk p i c nonrevContrib afterNonrev
  rangeContrib : List Int
  rangeProofs : Option (List (Int × List (Option RangeProof)))
  range : (afterNonrev.rangeContributions pk c).run = .ok (some (rangeContrib, rangeProofs))
  contrib_eq : contrib = [a, z] ++ nonrevContrib ++ rangeContrib
  result_eq : p' = { afterNonrev with rangeProofs := rangeProofs }

theorem ProofD.challengeContribution_ok_some {p : ProofD}
    {i : Int} {contrib : List Int} {p' : ProofD}
    (h : (p.challengeContribution o kid pk i).run = .ok (some (contrib, p'))) :
    Nonempty (p.ContributionParts o kid pk i contrib p') := by
  unfold ProofD.challengeContribution at h
  cases hw : p.wellFormed pk
  · simp only [hw, Bool.not_false, if_true] at h
    exact absurd h (GoE.failure_bind_ne _ _)
  simp only [hw, Bool.not_true, Bool.false_eq_true, if_false] at h
  obtain ⟨z, hz, h⟩ := GoE.bind_ok_some h
  obtain ⟨a, ha, h⟩ := GoE.bind_ok_some h
  obtain ⟨c, hc, h⟩ := GoE.bind_ok_some h
  have ha := deref_ok (GoE.liftM_ok_some ha)
  have hc := deref_ok (GoE.liftM_ok_some hc)
  cases hnr : p.nonrev with
  | none =>
    simp only [hnr] at h
    obtain ⟨⟨rc, rps⟩, hr, h⟩ := GoE.bind_ok_some h
    cases h
    exact ⟨{
      z, a, c, nonrevContrib := [], afterNonrev := p, rangeContrib := rc, rangeProofs := rps
      wellFormed := hw, z_eq := hz, a_eq := ha, c_eq := hc, nonrev := Or.inl ⟨hnr, rfl, rfl⟩,
      range := hr, contrib_eq := by simp, result_eq := by rw [hnr] }⟩
  | some nr =>
    simp only [hnr] at h
    obtain ⟨resp, hresp, h⟩ := GoE.bind_ok_some h
    cases hr : (if i < 0 then none else p.aResponses.get i) with
    | none => rw [hr] at hresp; exact absurd hresp (GoE.failure_ne _)
    | some r =>
      rw [hr] at hresp
      cases hresp
      cases hse : nr.setExpected o kid pk c resp with
      | none => rw [hse] at h; exact absurd h (GoE.failure_bind_ne _ _)
      | some nr' =>
        simp only [hse] at h
        obtain ⟨l1, hl1, h⟩ := GoE.bind_ok_some h
        obtain ⟨⟨rc, rps⟩, hr', h⟩ := GoE.bind_ok_some h
        cases h
        exact ⟨{
          z, a, c, nonrevContrib := l1, afterNonrev := { p with nonrev := some nr' },
          rangeContrib := rc, rangeProofs := rps
          wellFormed := hw, z_eq := hz, a_eq := ha, c_eq := hc,
          nonrev := Or.inr ⟨nr, resp, nr', hnr, (revResponse_eq_some.mp hr).1,
            (revResponse_eq_some.mp hr).2, hse, GoE.liftM_ok_some hl1, rfl⟩,
          range := hr', contrib_eq := by simp, result_eq := rfl }⟩

theorem ProofD.challengeContribution_of_not_wellFormed {p : ProofD} (i : Int)
    (h : p.wellFormed pk = false) : (p.challengeContribution o kid pk i).run = .ok none := by
  rw [ProofD.challengeContribution, h]
  rfl

/-! ## `ProofD.correctResponseSizes` -/

theorem foldlM_and_deref_ok {g : Int → Bool} (l : IntMap) (b : Bool)
    (h : l.foldlM (fun ok kv => do
              let r ← deref "AResponse" kv.2
              pure (ok && g r)) b = (.ok true : GoM Bool)) :
    b = true ∧ ∀ kv ∈ l, ∃ r, kv.2 = some r ∧ g r = true := by
  induction l generalizing b with
  | nil =>
    rw [List.foldlM_nil] at h
    cases GoM.pure_ok h
    exact ⟨rfl, nofun⟩
  | cons kv rest ih =>
    rw [List.foldlM_cons] at h
    obtain ⟨b1, h1, h2⟩ := GoM.bind_ok h
    obtain ⟨r, hr, h1⟩ := GoM.bind_ok h1
    cases GoM.pure_ok h1
    obtain ⟨hb1, hall⟩ := ih _ h2
    rw [Bool.and_eq_true] at hb1
    exact ⟨hb1.1, List.forall_mem_cons.2 ⟨⟨r, deref_ok hr, hb1.2⟩, hall⟩⟩

theorem foldlM_and_deref_isOk {g : Int → Bool} (l : IntMap) (b : Bool)
    (h : ∀ kv ∈ l, kv.2.isSome) :
    GoM.IsOk (l.foldlM (fun ok kv => do
              let r ← deref "AResponse" kv.2
              pure (ok && g r)) b : GoM Bool) := by
  induction l generalizing b with
  | nil => exact ⟨b, rfl⟩
  | cons kv rest ih =>
    rw [List.foldlM_cons]
    apply GoM.isOk_bind
    · apply GoM.isOk_bind (deref_isOk _ (h kv (List.mem_cons_self ..)))
      intro a _; exact GoM.isOk_pure _
    · intro b1 _
      exact ih b1 (fun kv' hkv' => h kv' (List.mem_cons_of_mem _ hkv'))

theorem ProofD.correctResponseSizes_isOk (pk : PublicKey) (p : ProofD)
    (h1 : ∀ kv ∈ p.aResponses, kv.2.isSome) (h2 : p.eResponse.isSome) :
    GoM.IsOk (p.correctResponseSizes pk) := by
  unfold ProofD.correctResponseSizes
  apply GoM.isOk_bind (foldlM_and_deref_isOk _ _ h1)
  intro okA _
  split
  · exact GoM.isOk_pure _
  · apply GoM.isOk_bind (deref_isOk _ h2)
    intro e _; exact GoM.isOk_pure _

theorem ProofD.correctResponseSizes_ok_true {p : ProofD}
    (h : p.correctResponseSizes pk = .ok true) :
    (∀ kv ∈ p.aResponses, ∃ r, kv.2 = some r ∧ 0 ≤ r ∧ r ≤ 2 ^ (pk.params.LmCommit + 1) - 1) ∧
    ∃ e, p.eResponse = some e ∧ 0 ≤ e ∧ e ≤ 2 ^ (pk.params.LeCommit + 1) - 1 := by
  unfold ProofD.correctResponseSizes at h
  obtain ⟨okA, hA, h⟩ := GoM.bind_ok h
  cases okA with
  | false => simp [GoM.pure_eq_ok] at h
  | true =>
    simp only [Bool.not_true, Bool.false_eq_true, if_false] at h
    obtain ⟨e, he, h⟩ := GoM.bind_ok h
    rw [deref_ok_iff] at he
    simp only [GoM.pure_eq_ok, Except.ok.injEq, Bool.and_eq_true, decide_eq_true_eq] at h
    refine ⟨?_, e, he, h.1, h.2⟩
    obtain ⟨_, hall⟩ := foldlM_and_deref_ok _ _ hA
    intro kv hkv
    obtain ⟨r, hr, hg⟩ := hall kv hkv
    simp only [Bool.not_eq_true', Bool.or_eq_false_iff, decide_eq_false_iff_not] at hg
    exact ⟨r, hr, by omega, by omega⟩

/-! ## `ProofD.verifyWithChallenge` -/

theorem NonRevProof.structureOk_iff (p : NonRevProof) : p.structureOk = true ↔
    (∀ n ∈ Gen.revSecretNames, (p.response n).isSome) ∧
    p.cr.isSome ∧ p.cu.isSome ∧ p.nu.isSome ∧ p.challenge.isSome := by
  simp only [NonRevProof.structureOk, Bool.and_eq_true, List.all_eq_true, and_assoc]

theorem NonRevProof.verifyWithChallenge_true {p : NonRevProof} {c' : Int}
    (h : (p.verifyWithChallenge o kid pk c').1 = true) :
    p.structureOk = true := by
  cases hs : p.structureOk with
  | true => rfl
  | false =>
    unfold NonRevProof.verifyWithChallenge at h
    rw [hs] at h
    split at h <;> simp at h

/-- the non-revocation verdict inside `ProofD.verifyWithChallenge`, copied from the model's
    do-block: `ProofD.verifyWithChallenge_eq` holds by `rfl` only while the copy is exact. -/
def ProofD.nonrevVerdict (o : SigOracle) (kid : String) (pk : PublicKey) (p : ProofD) (i c' : Int) :
    GoM (Bool × Option Accumulator) :=
  match p.nonrev with
  | none => pure (true, none)
  | some nr =>
    match (if i < 0 then none else p.aResponses.get i) with
    | none => pure (false, none)
    | some resp =>
      let (ok, acc) := nr.verifyWithChallenge o kid pk c'
      if !ok then pure (false, none) else do
        let alpha ← deref "alpha" (nr.response "alpha")
        pure (decide (alpha = resp), acc)

theorem ProofD.verifyWithChallenge_eq (o : SigOracle) (kid : String) (pk : PublicKey) (p : ProofD)
    (i c' : Int) :
    p.verifyWithChallenge o kid pk i c' = (do
      if !p.wellFormed pk then return (false, none)
      let (notrevoked, acc) ← p.nonrevVerdict o kid pk i c'
      if !notrevoked then return (false, none)
      if !(← p.correctResponseSizes pk) then return (false, none)
      let c ← deref "C" p.c
      return (decide (c = c'), acc)) :=
  rfl

theorem ProofD.nonrevVerdict_ok_true {p : ProofD} {i c' : Int} {acc : Option Accumulator}
    (h : p.nonrevVerdict o kid pk i c' = .ok (true, acc)) :
    p.nonrev = none ∧ acc = none ∨
      ∃ nr resp, p.nonrev = some nr ∧ 0 ≤ i ∧ p.aResponses.get i = some resp ∧
        nr.verifyWithChallenge o kid pk c' = (true, acc) ∧ nr.response "alpha" = some resp := by
  unfold ProofD.nonrevVerdict at h
  cases hnr : p.nonrev with
  | none =>
    rw [hnr] at h
    exact Or.inl ⟨rfl, (Prod.mk.inj (GoM.pure_ok h)).2.symm⟩
  | some nr =>
    rw [hnr] at h
    cases hr : (if i < 0 then none else p.aResponses.get i) with
    | none => simp only [hr] at h; cases h
    | some resp =>
      simp only [hr] at h
      rcases hv : nr.verifyWithChallenge o kid pk c' with ⟨_ | _, a⟩
      · rw [hv] at h; cases h
      rw [hv] at h
      obtain ⟨alpha, ha, h⟩ := GoM.bind_ok h
      obtain ⟨hal, rfl⟩ := Prod.mk.inj (GoM.pure_ok h)
      exact Or.inr ⟨nr, resp, rfl, (revResponse_eq_some.mp hr).1, (revResponse_eq_some.mp hr).2, hv,
        by rw [deref_ok ha, of_decide_eq_true hal]⟩

/-- `alpha` is dereferenced only after `nr.verifyWithChallenge` has checked that it is there. -/
theorem ProofD.nonrevVerdict_isOk (o : SigOracle) (kid : String) (pk : PublicKey) (p : ProofD)
    (i c' : Int) : GoM.IsOk (p.nonrevVerdict o kid pk i c') := by
  unfold ProofD.nonrevVerdict
  split
  · exact GoM.isOk_pure _
  · next nr _ =>
    split
    · exact GoM.isOk_pure _
    · rcases hv : nr.verifyWithChallenge o kid pk c' with ⟨_ | _, acc⟩
      · exact GoM.isOk_pure _
      · have hs := NonRevProof.verifyWithChallenge_true (congrArg Prod.fst hv)
        rw [NonRevProof.structureOk_iff] at hs
        apply GoM.isOk_bind (deref_isOk _ (hs.1 "alpha" (by decide)))
        intro _ _; exact GoM.isOk_pure _

theorem ProofD.verifyWithChallenge_ok_true {p : ProofD}
    {i c' : Int} {acc : Option Accumulator}
    (h : p.verifyWithChallenge o kid pk i c' = .ok (true, acc)) :
    p.wellFormed pk = true ∧ p.correctResponseSizes pk = .ok true ∧ p.c = some c' ∧
    (p.nonrev = none ∧ acc = none ∨
      ∃ nr resp, p.nonrev = some nr ∧ 0 ≤ i ∧ p.aResponses.get i = some resp ∧
        nr.verifyWithChallenge o kid pk c' = (true, acc) ∧ nr.response "alpha" = some resp) := by
  rw [ProofD.verifyWithChallenge_eq] at h
  cases hw : p.wellFormed pk
  · simp [hw, GoM.pure_eq_ok] at h
  simp only [hw, Bool.not_true, Bool.false_eq_true, if_false] at h
  obtain ⟨⟨_ | _, acc'⟩, hn, h⟩ := GoM.bind_ok h
  · cases h
  obtain ⟨_ | _, hsz, h⟩ := GoM.bind_ok h
  · cases h
  obtain ⟨c, hc, h⟩ := GoM.bind_ok h
  obtain ⟨hcc, rfl⟩ := Prod.mk.inj (GoM.pure_ok h)
  exact ⟨rfl, hsz, by rw [deref_ok hc, of_decide_eq_true hcc], ProofD.nonrevVerdict_ok_true hn⟩

theorem ProofD.verifyWithChallenge_isOk (o : SigOracle) (kid : String) (pk : PublicKey) (p : ProofD)
    (i c' : Int) : GoM.IsOk (p.verifyWithChallenge o kid pk i c') := by
  rw [ProofD.verifyWithChallenge_eq]
  by_cases hw : p.wellFormed pk = true
  · simp only [hw, Bool.not_true, Bool.false_eq_true, if_false]
    have hw' := (ProofD.wellFormed_iff pk p).mp hw
    apply GoM.isOk_bind (ProofD.nonrevVerdict_isOk o kid pk p i c')
    intro x _
    split
    · exact GoM.isOk_pure _
    · apply GoM.isOk_bind (ProofD.correctResponseSizes_isOk pk p (fun kv hkv => (hw'.2.2.1 kv hkv).1) hw'.1.2.2.1)
      intro sz _
      split
      · exact GoM.isOk_pure _
      · apply GoM.isOk_bind (deref_isOk _ hw'.1.1)
        intro _ _; exact GoM.isOk_pure _
  · simp only [hw, Bool.not_false, if_true]
    exact GoM.isOk_pure _

/-! ## acceptance by `ProofD.verifyWith` -/

theorem ProofD.verifyWith_ok_true {p : ProofD} {ctx nonce : Int}
    {issig : Bool} {i1 i2 : Int}
    (h : p.verifyWith o kid pk ctx nonce issig i1 i2 = .ok true) :
    ∃ contrib p', (p.challengeContribution o kid pk i1).run = .ok (some (contrib, p')) ∧
      ∃ acc, p'.verifyWithChallenge o kid pk i2 (createChallenge ctx nonce contrib issig) = .ok (true, acc) := by
  unfold ProofD.verifyWith at h
  obtain ⟨r, hc, h⟩ := GoM.bind_ok h
  cases r with
  | none => simp [GoM.pure_eq_ok] at h
  | some cp =>
    obtain ⟨contrib, p'⟩ := cp
    refine ⟨contrib, p', hc, ?_⟩
    obtain ⟨⟨b, acc⟩, hv, h⟩ := GoM.bind_ok h
    simp only [GoM.pure_eq_ok, Except.ok.injEq] at h
    subst h
    exact ⟨acc, hv⟩

/-- `challengeContribution` only rewrites `nonrev` and `rangeProofs`. -/
theorem ProofD.challengeContribution_fields {p : ProofD}
    {i : Int} {contrib : List Int} {p' : ProofD}
    (h : (p.challengeContribution o kid pk i).run = .ok (some (contrib, p'))) :
    p'.c = p.c ∧ p'.a = p.a ∧ p'.eResponse = p.eResponse ∧ p'.vResponse = p.vResponse ∧
      p'.aResponses = p.aResponses ∧ p'.aDisclosed = p.aDisclosed := by
  obtain ⟨F⟩ := ProofD.challengeContribution_ok_some h
  rw [F.result_eq]
  rcases F.nonrev with ⟨_, _, e⟩ | ⟨nr, resp, nr', _, _, _, _, _, e⟩ <;> rw [e] <;> simp

section
variable {p : ProofD} {ctx nonce : Int} {issig : Bool} {i1 i2 : Int}

theorem ProofD.verifyWith_wellFormed (h : p.verifyWith o kid pk ctx nonce issig i1 i2 = .ok true) :
    p.wellFormed pk = true := by
  obtain ⟨contrib, p', hc, -⟩ := ProofD.verifyWith_ok_true h
  obtain ⟨F⟩ := ProofD.challengeContribution_ok_some hc
  exact F.wellFormed

theorem ProofD.verifyWith_responseSizes (h : p.verifyWith o kid pk ctx nonce issig i1 i2 = .ok true) :
    (∀ kv ∈ p.aResponses, ∃ r, kv.2 = some r ∧ 0 ≤ r ∧ r ≤ 2 ^ (pk.params.LmCommit + 1) - 1) ∧
      ∃ e, p.eResponse = some e ∧ 0 ≤ e ∧ e ≤ 2 ^ (pk.params.LeCommit + 1) - 1 := by
  obtain ⟨contrib, p', hc, acc, hv⟩ := ProofD.verifyWith_ok_true h
  obtain ⟨-, -, hE, -, hA, -⟩ := ProofD.challengeContribution_fields hc
  obtain ⟨-, hsz, -⟩ := ProofD.verifyWithChallenge_ok_true hv
  rw [← hA, ← hE]
  exact ProofD.correctResponseSizes_ok_true hsz

/-- the challenge equation, for the contributions computed with the first pick `i1`. -/
theorem ProofD.verifyWith_challenge (h : p.verifyWith o kid pk ctx nonce issig i1 i2 = .ok true) :
    ∃ contrib p', (p.challengeContribution o kid pk i1).run = .ok (some (contrib, p')) ∧
      p.c = some ((createChallenge ctx nonce contrib issig : Nat) : Int) := by
  obtain ⟨contrib, p', hc, acc, hv⟩ := ProofD.verifyWith_ok_true h
  obtain ⟨hC, -⟩ := ProofD.challengeContribution_fields hc
  obtain ⟨-, -, hcc, -⟩ := ProofD.verifyWithChallenge_ok_true hv
  exact ⟨contrib, p', hc, by rw [← hC, hcc]⟩

end

/-! ## `ProofU` -/

theorem ProofU.wellFormed_iff (pk : PublicKey) (p : ProofU) : p.wellFormed pk = true ↔
    pk.r ≠ [] ∧ p.u.isSome ∧ p.c.isSome ∧ p.vPrimeResponse.isSome ∧ p.sResponse.isSome ∧
    (∀ kv ∈ p.mUserResponses, kv.2.isSome ∧ 1 ≤ kv.1 ∧ kv.1 < pk.r.length) := by
  simp [ProofU.wellFormed, and_assoc]

theorem ProofU.wellFormed_keys {p : ProofU} (h : p.wellFormed pk = true) :
    ∀ kv ∈ p.mUserResponses, 1 ≤ kv.1 :=
  fun kv hkv => (((ProofU.wellFormed_iff pk p).mp h).2.2.2.2.2 kv hkv).2.1

theorem ProofU.reconstructUcommit_go_isOk (pk : PublicKey) (l : IntMap) (acc : Int)
    (h : ∀ kv ∈ l, kv.2.isSome ∧ 1 ≤ kv.1 ∧ kv.1 < pk.r.length) :
    GoM.IsOk (ProofU.reconstructUcommit.go pk l acc) := by
  induction l generalizing acc with
  | nil => exact ⟨_, rfl⟩
  | cons kv rest ih =>
    obtain ⟨i, r⟩ := kv
    unfold ProofU.reconstructUcommit.go
    have hkv := h (i, r) (List.mem_cons_self ..)
    apply GoM.isOk_bind (idx_isOk _ _ _ (le_trans zero_le_one hkv.2.1) hkv.2.2)
    intro b _
    apply GoM.isOk_bind (deref_isOk _ hkv.1)
    intro r' _
    split
    · exact ih _ (fun kv' hkv' => h kv' (List.mem_cons_of_mem _ hkv'))
    · exact GoM.isOk_pure _

theorem ProofU.reconstructUcommit_isOk (pk : PublicKey) (p : ProofU) (hw : p.wellFormed pk = true) :
    GoM.IsOk (p.reconstructUcommit pk) := by
  rw [ProofU.wellFormed_iff] at hw
  obtain ⟨hr, hu, hc, hv, hs, hm⟩ := hw
  unfold ProofU.reconstructUcommit
  apply GoM.isOk_bind (deref_isOk _ hu); intro u _
  apply GoM.isOk_bind (deref_isOk _ hc); intro c _
  apply GoM.isOk_bind (deref_isOk _ hv); intro vp _
  apply GoM.isOk_bind (deref_isOk _ hs); intro sr _
  apply GoM.isOk_bind (idx_isOk _ _ _ (le_refl _) (by
    have : 0 < pk.r.length := List.length_pos_iff.mpr hr
    omega)); intro r0 _
  split
  · exact ProofU.reconstructUcommit_go_isOk pk _ _ hm
  · exact GoM.isOk_pure _

theorem ProofU.verifyWithChallenge_isOk (pk : PublicKey) (p : ProofU) (c' : Int) :
    GoM.IsOk (p.verifyWithChallenge pk c') := by
  unfold ProofU.verifyWithChallenge
  by_cases hw : p.wellFormed pk = true
  · simp only [hw, Bool.not_true, Bool.false_eq_true, if_false]
    rw [ProofU.wellFormed_iff] at hw
    obtain ⟨hr, hu, hc, hv, hs, hm⟩ := hw
    apply GoM.isOk_bind
    · unfold ProofU.correctResponseSizes
      apply GoM.isOk_bind (deref_isOk _ hv); intro _ _; exact GoM.isOk_pure _
    · intro _ _
      apply GoM.isOk_bind (deref_isOk _ hc); intro _ _; exact GoM.isOk_pure _
  · simp only [hw, Bool.not_false, if_true]; exact GoM.isOk_pure _

theorem ProofU.challengeContribution_isOk (pk : PublicKey) (p : ProofU) :
    GoM.IsOk (p.challengeContribution pk) := by
  unfold ProofU.challengeContribution
  by_cases hw : p.wellFormed pk = true
  · simp only [hw, Bool.not_true, Bool.false_eq_true, if_false]
    apply GoM.isOk_bind (ProofU.reconstructUcommit_isOk pk p hw)
    intro r _
    split
    · exact GoM.isOk_pure _
    · rw [ProofU.wellFormed_iff] at hw
      apply GoM.isOk_bind (deref_isOk _ hw.2.1); intro _ _; exact GoM.isOk_pure _
  · simp only [hw, Bool.not_false, if_true]; exact GoM.isOk_pure _

theorem ProofU.challengeContribution_of_not_wellFormed {p : ProofU}
    (h : p.wellFormed pk = false) : p.challengeContribution pk = .ok none := by
  rw [ProofU.challengeContribution, h]
  rfl

theorem ProofU.verifyWithChallenge_ok_true {p : ProofU} {c' : Int}
    (h : p.verifyWithChallenge pk c' = .ok true) : p.wellFormed pk = true ∧ p.c = some c' := by
  unfold ProofU.verifyWithChallenge at h
  by_cases hw : p.wellFormed pk = true
  · simp only [hw, Bool.not_true, Bool.false_eq_true, if_false] at h
    obtain ⟨sz, -, h⟩ := GoM.bind_ok h
    obtain ⟨c, hc, h⟩ := GoM.bind_ok h
    have hb : (sz && decide (c = c')) = true := GoM.pure_ok h
    rw [Bool.and_eq_true, decide_eq_true_eq] at hb
    exact ⟨hw, by rw [deref_ok hc, hb.2]⟩
  · simp [hw, GoM.pure_eq_ok] at h

theorem ProofU.challengeContribution_ok {p : ProofU} {cs : List Int}
    (h : p.challengeContribution pk = .ok (some cs)) :
    p.wellFormed pk = true ∧
      ∃ u uc, p.u = some u ∧ p.reconstructUcommit pk = .ok (some uc) ∧ cs = [u, uc] := by
  unfold ProofU.challengeContribution at h
  by_cases hw : p.wellFormed pk = true
  · simp only [hw, Bool.not_true, Bool.false_eq_true, if_false] at h
    obtain ⟨_ | uc, hr, h⟩ := GoM.bind_ok h
    · cases h
    · obtain ⟨u, hu, h⟩ := GoM.bind_ok h
      cases GoM.pure_ok h
      exact ⟨hw, u, uc, deref_ok hu, hr, rfl⟩
  · simp [hw, GoM.pure_eq_ok] at h

/-! ## `Proof`: a `ProofD` or a `ProofU` -/

/-- `ProofD.wellFormed` / `ProofU.wellFormed` of the model on the sum type `Proof` (no Go function
    of its own: `ChallengeContribution` and `VerifyWithChallenge` of either kind start with the
    check of that kind). -/
def Proof.wellFormed (pk : PublicKey) : Proof → Bool
  | .d p => p.wellFormed pk
  | .u p => p.wellFormed pk

theorem Proof.secretKeyResponse_isSome {q : Proof} (h : q.wellFormed pk = true) :
    q.secretKeyResponse.isSome := by
  cases q with
  | d p => exact ((ProofD.wellFormed_iff pk p).mp h).2.1
  | u p => exact ((ProofU.wellFormed_iff pk p).mp h).2.2.2.2.1

/-! ## `ProofD.reconstructZ` cannot panic when its exponentiations have results -/

theorem goExp_isSome_of_nonneg (x y m : Int) (hy : 0 ≤ y) : (goExp x y m).isSome := by
  unfold goExp
  simp only []
  split
  · split <;> rfl
  · rw [if_neg (by omega)]; rfl

theorem goExp_isSome_of_coprime (x y m : Int) (h : Int.gcd x m = 1) : (goExp x y m).isSome := by
  by_cases hy : 0 ≤ y
  · exact goExp_isSome_of_nonneg x y m hy
  · unfold goExp
    simp only []
    split
    · split <;> rfl
    · next hm =>
      rw [if_pos (by omega)]
      have hm' : m ≠ 0 := by intro h0; apply hm; simp [h0]
      cases hinv : goModInverse x m with
      | none => exact absurd h ((goModInverse_none_iff x m hm').mp hinv)
      | some inv => rfl

theorem attrExp_nonneg (lm : Nat) (a : Int) (h : 0 ≤ a) : 0 ≤ attrExp lm a := by
  unfold attrExp
  split
  · exact Int.natCast_nonneg _
  · exact h

/-- every exponentiation `R_i ^ attr` of `reconstructZ` has a result (no nil from `Exp`). -/
def ProofD.ExpSafe (pk : PublicKey) (p : ProofD) : Prop :=
  ∀ kv ∈ p.aDisclosed, ∀ a b, kv.2 = some a → pk.r[kv.1.toNat]? = some b →
    (goExp b (attrExp pk.params.Lm a) pk.n).isSome

theorem ProofD.expSafe_of_coprime (pk : PublicKey) (p : ProofD)
    (h : ∀ b ∈ pk.r, Int.gcd b pk.n = 1) : p.ExpSafe pk := by
  intro kv _ a b _ hb
  exact goExp_isSome_of_coprime _ _ _ (h b (List.mem_of_getElem? hb))

theorem ProofD.expSafe_of_nonneg (pk : PublicKey) (p : ProofD)
    (h : ∀ kv ∈ p.aDisclosed, ∀ a, kv.2 = some a → 0 ≤ a) : p.ExpSafe pk := by
  intro kv hkv a b ha _
  exact goExp_isSome_of_nonneg _ _ _ (attrExp_nonneg _ _ (h kv hkv a ha))

/-- the step `reconstructZ` folds over `ADisclosed`; the model writes it as a lambda. -/
def ProofD.disclosedStep (pk : PublicKey) (num : Int) (kv : Int × Option Int) : GoM Int := do
  let attr ← deref "ADisclosed" kv.2
  let b ← idx "R[i]" pk.r kv.1
  let t ← deref "Exp" (goExp b (attrExp pk.params.Lm attr) pk.n)
  pure (num * t)

/-- `reconstructZ` with the body of its first loop under the name `disclosedStep`. -/
theorem ProofD.reconstructZ_eq (pk : PublicKey) (p : ProofD) :
    p.reconstructZ pk = do
      let a ← deref "A" p.a
      let c ← deref "C" p.c
      let er ← deref "EResponse" p.eResponse
      let vr ← deref "VResponse" p.vResponse
      let num0 ← deref "Exp" (goExp a (2 ^ (pk.params.Le - 1)) pk.n)
      let numerator ← p.aDisclosed.foldlM (ProofD.disclosedStep pk) num0
      match goModInverse numerator pk.n with
      | none => return none
      | some inv =>
        match modPow (pk.z * inv) (-c) pk.n, modPow a er pk.n, modPow pk.s vr pk.n with
        | some knownC, some ae, some sv =>
          match ← ProofD.reconstructZ.go pk p.aResponses 1 with
          | none => return none
          | some rs => return some (knownC * ae * rs * sv % pk.n)
        | _, _, _ => return none :=
  rfl

theorem ProofD.reconstructZ_go_isOk (pk : PublicKey) (l : IntMap) (acc : Int)
    (h : ∀ kv ∈ l, kv.2.isSome ∧ 0 ≤ kv.1 ∧ kv.1 < pk.r.length) :
    GoM.IsOk (ProofD.reconstructZ.go pk l acc) := by
  induction l generalizing acc with
  | nil => exact ⟨_, rfl⟩
  | cons kv rest ih =>
    obtain ⟨i, r⟩ := kv
    unfold ProofD.reconstructZ.go
    have hkv := h (i, r) (List.mem_cons_self ..)
    apply GoM.isOk_bind (idx_isOk _ _ _ hkv.2.1 hkv.2.2)
    intro b _
    apply GoM.isOk_bind (deref_isOk _ hkv.1)
    intro r' _
    split
    · exact ih _ (fun kv' hkv' => h kv' (List.mem_cons_of_mem _ hkv'))
    · exact GoM.isOk_pure _

theorem ProofD.reconstructZ_fold_isOk (pk : PublicKey) (l : IntMap) (num0 : Int)
    (h : ∀ kv ∈ l, kv.2.isSome ∧ 0 ≤ kv.1 ∧ kv.1 < pk.r.length)
    (hs : ∀ kv ∈ l, ∀ a b, kv.2 = some a → pk.r[kv.1.toNat]? = some b →
      (goExp b (attrExp pk.params.Lm a) pk.n).isSome) :
    GoM.IsOk (l.foldlM (ProofD.disclosedStep pk) num0) := by
  induction l generalizing num0 with
  | nil => exact ⟨_, rfl⟩
  | cons kv rest ih =>
    rw [List.foldlM_cons]
    have hkv := h kv (List.mem_cons_self ..)
    apply GoM.isOk_bind
    · unfold ProofD.disclosedStep
      apply GoM.isOk_bind (deref_isOk _ hkv.1); intro attr hattr
      apply GoM.isOk_bind (idx_isOk _ _ _ hkv.2.1 hkv.2.2); intro b hb
      rw [deref_ok_iff] at hattr
      rw [idx_ok_iff] at hb
      apply GoM.isOk_bind (deref_isOk _ (hs kv (List.mem_cons_self ..) attr b hattr hb.2))
      intro _ _; exact GoM.isOk_pure _
    · intro n1 _
      exact ih n1 (fun kv' hkv' => h kv' (List.mem_cons_of_mem _ hkv'))
        (fun kv' hkv' => hs kv' (List.mem_cons_of_mem _ hkv'))

theorem ProofD.reconstructZ_isOk (pk : PublicKey) (p : ProofD) (hw : p.wellFormed pk = true)
    (hs : p.ExpSafe pk) : GoM.IsOk (p.reconstructZ pk) := by
  rw [ProofD.wellFormed_iff] at hw
  obtain ⟨⟨hc, ha, he, hv⟩, _, hA, hD, _⟩ := hw
  rw [ProofD.reconstructZ_eq]
  apply GoM.isOk_bind (deref_isOk _ ha); intro a _
  apply GoM.isOk_bind (deref_isOk _ hc); intro c _
  apply GoM.isOk_bind (deref_isOk _ he); intro er _
  apply GoM.isOk_bind (deref_isOk _ hv); intro vr _
  apply GoM.isOk_bind (deref_isOk _ (goExp_isSome_of_nonneg _ _ _ (by positivity))); intro num0 _
  apply GoM.isOk_bind (ProofD.reconstructZ_fold_isOk pk _ _
    (fun kv hkv => ⟨(hD kv hkv).1, (hD kv hkv).2.1, (hD kv hkv).2.2.1⟩) hs)
  intro num _
  split
  · exact GoM.isOk_pure _
  · split
    · apply GoM.isOk_bind (ProofD.reconstructZ_go_isOk pk _ _ hA)
      intro r _
      split <;> exact GoM.isOk_pure _
    · exact GoM.isOk_pure _

/-! ## a panic of `reconstructZ`: negative disclosed attribute on a non-invertible base -/

/-- key and proof of `C08.verifyD_panics_without_units`: `R_1 = 3` is not invertible modulo 15 and
    attribute 1 is disclosed as `-1`. -/
def cexPk : PublicKey :=
  { n := 15, z := 4, s := 4, g := none, h := none, r := [4, 3], counter := 0,
    params := SysParams.ofBase toyBase, hasEcdsa := false, issuer := "" }
def cexD : ProofD :=
  { c := some 1, a := some 2, eResponse := some 1, vResponse := some 1,
    aResponses := [(0, some 1)], aDisclosed := [(1, some (-1))], nonrev := none, rangeProofs := none }

/-- `reconstructZ` dereferences the result of `Exp(R_i, a_i, N)` unchecked: it panics as soon as
    the first disclosed attribute has none. -/
theorem ProofD.reconstructZ_panics {p : ProofD} {a c er vr i attr b : Int}
    {rest : IntMap} (ha : p.a = some a) (hc : p.c = some c) (he : p.eResponse = some er)
    (hv : p.vResponse = some vr) (hd : p.aDisclosed = (i, some attr) :: rest)
    (hb : idx "R[i]" pk.r i = .ok b) (hexp : goExp b (attrExp pk.params.Lm attr) pk.n = none) :
    p.reconstructZ pk = .error (.nilDeref "Exp") := by
  obtain ⟨num0, h0⟩ := Option.isSome_iff_exists.mp
    (goExp_isSome_of_nonneg a (2 ^ (pk.params.Le - 1)) pk.n (by positivity))
  rw [ProofD.reconstructZ_eq]
  simp only [ha, hc, he, hv, hd, deref_some, GoM.ok_bind, h0, List.foldlM_cons, ProofD.disclosedStep,
    hb, hexp]
  rfl

/-! ## the non-revocation proof: `challengeContributions`, `SetExpected`, `basesAreUnits` -/

theorem QrStructure.commitmentFromProof_go_isOk (n : Int) (bases results : String → Option Int)
    (rs : List RhsContribution) (c0 c1 : Int) (h : ∀ r ∈ rs, (results r.secret).isSome) :
    GoM.IsOk (QrStructure.commitmentFromProof.go n bases results rs c0 c1) := by
  induction rs generalizing c0 c1 with
  | nil => exact ⟨_, rfl⟩
  | cons r rest ih =>
    unfold QrStructure.commitmentFromProof.go
    apply GoM.isOk_bind (deref_isOk _ (h r (List.mem_cons_self ..))); intro res _
    exact ih _ _ (fun r' hr' => h r' (List.mem_cons_of_mem _ hr'))

theorem QrStructure.commitmentFromProof_isOk (s : QrStructure) (n c : Int)
    (bases results : String → Option Int) (h : ∀ r ∈ s.rhs, (results r.secret).isSome) :
    GoM.IsOk (s.commitmentFromProof n c bases results) := by
  unfold QrStructure.commitmentFromProof
  exact QrStructure.commitmentFromProof_go_isOk n bases results _ _ _ h

/-- the table of the non-revocation proof (regenerated `Gen.revProofStructure`), written out. -/
theorem Misc.revStructures_eq : revStructures =
    [⟨[⟨"cr", 1⟩], [⟨"G", "epsilon", 1⟩, ⟨"H", "zeta", 1⟩]⟩,
     ⟨[⟨"nu", 1⟩], [⟨"cu", "alpha", 1⟩, ⟨"H", "beta", -1⟩]⟩,
     ⟨[⟨"one", 1⟩], [⟨"cr", "alpha", 1⟩, ⟨"G", "beta", -1⟩, ⟨"H", "delta", -1⟩]⟩] :=
  rfl

theorem revStructures_secrets : ∀ s ∈ revStructures, ∀ r ∈ s.rhs, r.secret ∈ Gen.revSecretNames := by
  rw [Misc.revStructures_eq]
  decide

theorem NonRevProof.challengeContributions_isOk (pk : PublicKey) (p : NonRevProof)
    (h : p.structureOk = true) : GoM.IsOk (p.challengeContributions pk) := by
  obtain ⟨hresp, hcr, hcu, hnu, hch⟩ := (NonRevProof.structureOk_iff p).mp h
  unfold NonRevProof.challengeContributions
  apply GoM.isOk_bind (deref_isOk _ hcr); intro cr _
  apply GoM.isOk_bind (deref_isOk _ hcu); intro cu _
  apply GoM.isOk_bind (deref_isOk _ hnu); intro nu _
  apply GoM.isOk_bind (deref_isOk _ hch); intro c _
  apply GoM.isOk_bind
  · apply GoM.mapM_isOk
    intro s hs
    apply QrStructure.commitmentFromProof_isOk
    intro r hr
    exact hresp _ (revStructures_secrets s hs r hr)
  · intro _ _; exact GoM.isOk_pure _

/-- The proof as `SetExpected` leaves it: `Nu` from the signed accumulator, the given challenge,
    and `Responses["alpha"]` overwritten with the given response (in the model's association
    list: the new entry in front, the old one filtered out). -/
def Misc.setExpectedResult (p : NonRevProof) (nu challenge response : Int) : NonRevProof :=
  { p with nu := some nu, challenge := some challenge,
           responses := ("alpha", some response) :: p.responses.filter (·.1 ≠ "alpha") }

/-- `SetExpected` as a closed expression: its checks in the order of the code. -/
theorem NonRevProof.setExpected_eq (o : SigOracle) (kid : String) (pk : PublicKey) (p : NonRevProof)
    (c resp : Int) :
    p.setExpected o kid pk c resp =
      if (p.cr.isNone || p.cu.isNone) = true then none else
      p.sacc.bind fun sacc =>
      if (pk.g.isNone || pk.h.isNone || !pk.hasEcdsa) = true then none else
      (sacc.unmarshalVerify o kid pk).bind fun acc => acc.nu.bind fun nu =>
      if (!(Misc.setExpectedResult p nu c resp).structureOk ||
          !(Misc.setExpectedResult p nu c resp).basesAreUnits pk) = true then none
      else some (Misc.setExpectedResult p nu c resp) := rfl

/-- What a successful `p.setExpected o kid pk c resp = some p'` went through, in the order of the
    code. -/
structure NonRevProof.SetExpectedParts (o : SigOracle) (kid : String) (pk : PublicKey) (p : NonRevProof)
    (c resp : Int) (p' : NonRevProof) where
  cr_isSome : p.cr.isSome = true
  cu_isSome : p.cu.isSome = true
  sacc : SignedAccumulator
  sacc_eq : p.sacc = some sacc
  g_isSome : pk.g.isSome = true
  h_isSome : pk.h.isSome = true
  hasEcdsa : pk.hasEcdsa = true
  /-- the accumulator the signature check of `sacc` releases -/
  acc : Accumulator
  acc_eq : sacc.unmarshalVerify o kid pk = some acc
  nu : Int
  nu_eq : acc.nu = some nu
  result_eq : p' = Misc.setExpectedResult p nu c resp
  structureOk : p'.structureOk = true
  basesAreUnits : p'.basesAreUnits pk = true

theorem Misc.setExpected_eq_some_iff (o : SigOracle) (kid : String) (pk : PublicKey) (p p' : NonRevProof)
    (c resp : Int) :
    p.setExpected o kid pk c resp = some p' ↔ Nonempty (p.SetExpectedParts o kid pk c resp p') := by
  rw [NonRevProof.setExpected_eq]
  simp only [Option.ite_none_left_eq_some, Bool.not_eq_true, Option.bind_eq_some_iff,
    Bool.or_eq_false_iff, Bool.not_eq_false', Option.some.injEq, Option.isNone_eq_false_iff]
  constructor
  · rintro ⟨⟨hcr, hcu⟩, sacc, hs, ⟨⟨hg, hh⟩, he⟩, acc, hv, nu, hn, ⟨h1, h2⟩, rfl⟩
    exact ⟨{
      sacc, acc, nu
      cr_isSome := hcr, cu_isSome := hcu, sacc_eq := hs, g_isSome := hg, h_isSome := hh,
      hasEcdsa := he, acc_eq := hv, nu_eq := hn, result_eq := rfl, structureOk := h1,
      basesAreUnits := h2 }⟩
  · rintro ⟨S⟩
    exact ⟨⟨S.cr_isSome, S.cu_isSome⟩, S.sacc, S.sacc_eq, ⟨⟨S.g_isSome, S.h_isSome⟩, S.hasEcdsa⟩,
      S.acc, S.acc_eq, S.nu, S.nu_eq, S.result_eq ▸ ⟨S.structureOk, S.basesAreUnits⟩, S.result_eq.symm⟩

theorem unitModN_iff (c n : Int) : unitModN c n = true ↔ 0 < c ∧ Int.gcd c n = 1 := by
  simp [unitModN]

theorem unitMod_iff (c n : Int) : unitMod c n = true ↔ 0 < c ∧ c < n ∧ Int.gcd c n = 1 := by
  simp [unitMod, and_assoc]

theorem Misc.basesAreUnits_iff (pk : PublicKey) (p : NonRevProof) :
    p.basesAreUnits pk = true ↔
      (∃ cr cu, p.cr = some cr ∧ p.cu = some cu ∧
        (0 < cr ∧ Int.gcd cr pk.n = 1) ∧ (0 < cu ∧ Int.gcd cu pk.n = 1)) ∧
      ∀ kv ∈ p.responses, ∃ r, kv.2 = some r ∧ 0 ≤ r := by
  unfold NonRevProof.basesAreUnits
  rw [Bool.and_eq_true, List.all_eq_true]
  refine and_congr ?_ (forall₂_congr fun kv _ => ?_)
  · split
    · next cr cu hcr hcu => simp [hcr, hcu, unitModN_iff]
    · next hnone =>
      rw [Bool.false_eq_true, false_iff]
      rintro ⟨cr, cu, hcr, hcu, -⟩
      exact hnone cr cu hcr hcu
  · cases kv.2 <;> simp

/-! ## `rangeResults` on the secret names `m`, `v5`, `d<i>`, `v<i>` -/

theorem toString_nat_eq_repr (i : Nat) : toString i = Nat.repr i := rfl

theorem parseIdx_self (c : Char) (i : Nat) : parseIdx c (String.singleton c ++ toString i) = some i := by
  unfold parseIdx
  simp only [String.toList_append, String.toList_singleton, List.singleton_append, if_true,
    String.ofList_toList, toString_nat_eq_repr]
  exact Nat.toNat?_repr i

theorem parseIdx_other (c c' : Char) (h : c' ≠ c) (s : String) :
    parseIdx c (String.singleton c' ++ s) = none := by
  unfold parseIdx
  simp [String.toList_append, h]

theorem name_ne_of_head (c c' : Char) (h : c ≠ c') (s t : String) :
    String.singleton c ++ s ≠ String.singleton c' ++ t := by
  intro he
  have := congrArg String.toList he
  simp [String.toList_append] at this
  exact h this.1

theorem rangeResults_m (p : RangeProof) : rangeResults p "m" = p.mResponse := by
  simp [rangeResults]
theorem rangeResults_v5 (p : RangeProof) : rangeResults p "v5" = p.v5 := by
  simp [rangeResults]
theorem rangeResults_d (p : RangeProof) (i : Nat) :
    rangeResults p ("d" ++ toString i) = (p.ds[i]?).join := by
  have h1 : "d" ++ toString i ≠ "m" := name_ne_of_head 'd' 'm' (by decide) _ ""
  have h2 : "d" ++ toString i ≠ "v5" := name_ne_of_head 'd' 'v' (by decide) _ "5"
  have h3 : parseIdx 'v' ("d" ++ toString i) = none := parseIdx_other 'v' 'd' (by decide) _
  have h4 : parseIdx 'd' ("d" ++ toString i) = some i := parseIdx_self 'd' i
  simp only [rangeResults, h1, h2, h3, h4, if_false]
theorem rangeResults_v (p : RangeProof) (i : Nat) (hi : i ≠ 5) :
    rangeResults p ("v" ++ toString i) = (p.vs[i]?).join := by
  have h1 : "v" ++ toString i ≠ "m" := name_ne_of_head 'v' 'm' (by decide) _ ""
  have h2 : "v" ++ toString i ≠ "v5" := by
    intro h
    have h5 : "v5" = "v" ++ Nat.repr 5 := by decide
    rw [h5, toString_nat_eq_repr, String.append_right_inj] at h
    exact hi (Nat.repr_inj.mp h)
  have h4 : parseIdx 'v' ("v" ++ toString i) = some i := parseIdx_self 'v' i
  simp only [rangeResults, h1, h2, h4, if_false]

/-! ## range-proof structures: the secrets they name, what the structure check establishes -/

/-- the secrets named by a range-proof structure with `n` split commitments. -/
def RangeStructure.SecretsOk (s : RangeStructure) (n : Nat) : Prop :=
  n ≤ 4 ∧ s.cRep.length = n ∧
  (∀ r ∈ s.mCorrect.rhs, r.secret = "v5" ∨ r.secret = "m" ∨ ∃ i, i < n ∧ r.secret = "d" ++ toString i) ∧
  (∀ q ∈ s.cRep, ∀ r ∈ q.rhs, ∃ i, i < n ∧ (r.secret = "d" ++ toString i ∨ r.secret = "v" ++ toString i))

theorem rangeNewWithParams_secretsOk {index sign : Int} {a : Nat} {k : Int} {n ld : Nat}
    {s : RangeStructure} (h : rangeNewWithParams index sign a k n ld = some s) :
    s.SecretsOk n := by
  simp only [rangeNewWithParams, Option.ite_none_left_eq_some, gt_iff_lt, not_lt,
    Option.some.injEq] at h
  obtain ⟨h1, -, -, rfl⟩ := h
  refine ⟨h1, by simp, ?_, ?_⟩
  · simp only [List.cons_append, List.nil_append, List.forall_mem_cons, List.forall_mem_map,
      List.mem_range]
    exact ⟨Or.inl trivial, Or.inr (Or.inl trivial), fun i hi => Or.inr (Or.inr ⟨i, hi, rfl⟩)⟩
  · simp only [List.forall_mem_map, List.mem_range, List.forall_mem_cons]
    exact fun i hi => ⟨⟨i, hi, Or.inl rfl⟩, ⟨i, hi, Or.inr rfl⟩, nofun⟩

theorem RangeProof.extractStructure_secretsOk {rp : RangeProof} {index : Int} {s : RangeStructure}
    (h : rp.extractStructure index pk = some s) : ∃ n, s.SecretsOk n := by
  unfold RangeProof.extractStructure at h
  simp only [Option.bind_eq_bind, Option.bind_eq_some_iff] at h
  obtain ⟨k, _, h⟩ := h
  split at h
  · simp at h
  · exact ⟨_, rangeNewWithParams_secretsOk h⟩

/-- everything `verifyProofStructure` establishes about presence, signs and units. -/
theorem RangeStructure.verifyProofStructure_facts {s : RangeStructure} {p : RangeProof}
    (h : s.verifyProofStructure pk p = true) :
    (p.cs.length = s.cRep.length ∧ p.ds.length = s.cRep.length ∧ p.vs.length = s.cRep.length) ∧
    (∃ v5 m, p.v5 = some v5 ∧ 0 ≤ v5 ∧ p.mResponse = some m ∧ 0 ≤ m) ∧
    ∀ i, i < s.cRep.length → ∃ c d v, p.cs[i]? = some (some c) ∧ p.ds[i]? = some (some d) ∧
      p.vs[i]? = some (some v) ∧ 0 ≤ d ∧ 0 ≤ v ∧ (0 < c ∧ c < pk.n ∧ Int.gcd c pk.n = 1) := by
  unfold RangeStructure.verifyProofStructure at h
  rcases hv5 : p.v5 with _ | v5
  · simp only [hv5, Bool.if_false_left, Bool.and_false] at h
    cases h
  rcases hm : p.mResponse with _ | m
  · simp only [hv5, hm, Bool.if_false_left, Bool.and_false] at h
    cases h
  -- the chain of `if … then false else …` is a conjunction
  simp only [hv5, hm, Bool.if_false_left, Bool.and_eq_true, Bool.not_eq_true', decide_eq_false_iff_not,
    Bool.or_eq_true, decide_eq_true_eq, not_or, not_not, not_lt, ne_eq, List.all_eq_true,
    List.mem_range] at h
  obtain ⟨⟨⟨hc, hd⟩, hv⟩, ⟨h5, hm0⟩, -, hall⟩ := h
  refine ⟨⟨hc.symm, hd.symm, hv.symm⟩, ⟨v5, m, rfl, h5, rfl, hm0⟩, fun i hi => ?_⟩
  have hi := hall i hi
  split at hi
  · next c d v hc hd hv =>
    simp only [Bool.and_eq_true, Bool.not_eq_true', Bool.or_eq_false_iff, decide_eq_false_iff_not,
      not_lt] at hi
    exact ⟨c, d, v, hc, hd, hv, hi.1.1.1, hi.1.1.2, (unitMod_iff c pk.n).mp hi.1.2⟩
  · cases hi

theorem RangeStructure.verifyProofStructure_units {s : RangeStructure} {p : RangeProof}
    (h : s.verifyProofStructure pk p = true) :
    (∀ c ∈ p.cs, ∃ x, c = some x ∧ 0 < x ∧ x < pk.n ∧ Int.gcd x pk.n = 1) ∧
    (∀ d ∈ p.ds, ∃ x, d = some x ∧ 0 ≤ x) ∧ (∀ v ∈ p.vs, ∃ x, v = some x ∧ 0 ≤ x) ∧
    (∃ x, p.v5 = some x ∧ 0 ≤ x) ∧ (∃ x, p.mResponse = some x ∧ 0 ≤ x) := by
  obtain ⟨⟨hlc, hld, hlv⟩, ⟨v5, m, hv5, hv50, hm, hm0⟩, hall⟩ :=
    RangeStructure.verifyProofStructure_facts h
  refine ⟨forall_mem_of_getElem? hlc fun i hi => ?_, forall_mem_of_getElem? hld fun i hi => ?_,
    forall_mem_of_getElem? hlv fun i hi => ?_, ⟨v5, hv5, hv50⟩, ⟨m, hm, hm0⟩⟩
  all_goals obtain ⟨c, d, v, hc, hd, hv, hd0, hv0, hu⟩ := hall i hi
  · exact ⟨c, hc, hu⟩
  · exact ⟨d, hd, hd0⟩
  · exact ⟨v, hv, hv0⟩

theorem RangeStructure.SecretsOk.results_isSome {s : RangeStructure} {n : Nat} (hs : s.SecretsOk n)
    {p : RangeProof} (hv5 : p.v5.isSome) (hm : p.mResponse.isSome)
    (hdv : ∀ i, i < n → (p.ds[i]?).join.isSome ∧ (p.vs[i]?).join.isSome) :
    (∀ r ∈ s.mCorrect.rhs, (rangeResults p r.secret).isSome) ∧
      ∀ q ∈ s.cRep, ∀ r ∈ q.rhs, (rangeResults p r.secret).isSome := by
  obtain ⟨hn, -, hmsec, hcsec⟩ := hs
  constructor
  · intro r hr
    rcases hmsec r hr with h | h | ⟨i, hi, h⟩
    · rw [h, rangeResults_v5]; exact hv5
    · rw [h, rangeResults_m]; exact hm
    · rw [h, rangeResults_d]; exact (hdv i hi).1
  · intro q hq r hr
    obtain ⟨i, hi, h | h⟩ := hcsec q hq r hr
    · rw [h, rangeResults_d]; exact (hdv i hi).1
    · rw [h, rangeResults_v _ _ (by omega)]; exact (hdv i hi).2

theorem RangeStructure.commitmentsFromProof_isOk {s : RangeStructure} {n : Nat} (hs : s.SecretsOk n)
    {p : RangeProof} (hv : s.verifyProofStructure pk p = true) (c : Int) :
    GoM.IsOk (s.commitmentsFromProof pk p c) := by
  obtain ⟨_, ⟨v5, m, hv5, _, hmr, _⟩, hall⟩ := RangeStructure.verifyProofStructure_facts hv
  have hdv : ∀ i, i < n → (p.ds[i]?).join.isSome ∧ (p.vs[i]?).join.isSome := by
    intro i hi
    obtain ⟨c, d, v, _, hd, hv, _⟩ := hall i (hs.2.1 ▸ hi)
    simp [hd, hv]
  obtain ⟨hresM, hresC⟩ := hs.results_isSome (by simp [hv5]) (by simp [hmr]) hdv
  unfold RangeStructure.commitmentsFromProof
  apply GoM.isOk_bind (QrStructure.commitmentFromProof_isOk _ _ _ _ _ hresM)
  intro m _
  apply GoM.isOk_bind (GoM.mapM_isOk _ _ fun q hq =>
    QrStructure.commitmentFromProof_isOk _ _ _ _ _ (hresC q hq))
  intro _ _
  apply GoM.isOk_bind
  · apply GoM.mapM_isOk
    intro x hx
    obtain ⟨y, rfl, -⟩ := (RangeStructure.verifyProofStructure_units hv).1 x hx
    exact ⟨y, rfl⟩
  · intro _ _; exact GoM.isOk_pure _

/-! ## `ProofD.rangeContributions` as two nested loops

`extractStep`, `extractAll`, `rangeInner`, `rangeOuter` and `rangeIndices` are the loop bodies and
the index list that the do-block of the model's `rangeContributions` contains, under names of
their own; `ProofD.rangeContributions_eq` holds by `rfl` as long as they are copied exactly. -/

/-- a non-nil `ProofD.rangeProofs`: attribute index ↦ its range proofs (nil entries possible). -/
abbrev RPMap := List (Int × List (Option RangeProof))

/-- the per-proof step of `reconstructRangeProofStructures`. -/
def extractStep (pk : PublicKey) (index : Int) (rp : Option RangeProof) : GoE RangeStructure := do
  let rp ← (liftM (deref "range proof" rp) : GoE _)
  match rp.extractStructure index pk with
  | some s => pure s
  | none => failure

theorem extractStep_ok_some {index : Int} {rp : Option RangeProof} {s : RangeStructure}
    (h : (extractStep pk index rp).run = .ok (some s)) :
    ∃ rp', rp = some rp' ∧ rp'.extractStructure index pk = some s := by
  unfold extractStep at h
  obtain ⟨rp', hrp, h⟩ := GoE.bind_ok_some h
  rw [GoE.run_liftM_ok_some_iff, deref_ok_iff] at hrp
  refine ⟨rp', hrp, ?_⟩
  split at h
  · next s' hs' =>
    cases h
    exact hs'
  · exact absurd h (GoE.failure_ne _)

theorem extractStep_isOk (pk : PublicKey) (index : Int) {rp : Option RangeProof} (h : rp.isSome) :
    GoE.IsOk (extractStep pk index rp) := by
  unfold extractStep
  apply GoE.isOk_bind (GoE.isOk_liftM (deref_isOk _ h)); intro rp' _
  split
  · exact GoE.isOk_pure _
  · exact GoE.isOk_failure

/-- `ProofD.reconstructRangeProofStructures` (proofs.go). -/
def extractAll (pk : PublicKey) (rps : List (Int × List (Option RangeProof))) :
    GoE (List (Int × List RangeStructure)) :=
  rps.mapM (fun kv => do
    let ss ← kv.2.mapM (extractStep pk kv.1)
    pure (kv.1, ss))

theorem extractAll_isOk (pk : PublicKey) (rps : RPMap)
    (h : ∀ kv ∈ rps, ∀ rp ∈ kv.2, rp.isSome) : GoE.IsOk (extractAll pk rps) := by
  unfold extractAll
  apply GoE.mapM_isOk
  intro kv hkv
  apply GoE.isOk_bind
  · apply GoE.mapM_isOk
    intro rp hrp
    exact extractStep_isOk pk kv.1 (h kv hkv rp hrp)
  · intro _ _; exact GoE.isOk_pure _

/-- what a successful structure extraction returns: key-for-key, proof-for-proof. -/
theorem extractAll_ok_some {rps : RPMap} {structs : List (Int × List RangeStructure)}
    (h : (extractAll pk rps).run = .ok (some structs)) :
    List.Forall₂ (fun kv st => st.1 = kv.1 ∧
      List.Forall₂ (fun rp s => ∃ rp', rp = some rp' ∧ rp'.extractStructure kv.1 pk = some s) kv.2 st.2)
      rps structs := by
  unfold extractAll at h
  have := GoE.mapM_ok_some _ _ _ h
  refine List.Forall₂.imp ?_ this
  intro kv st hst
  obtain ⟨ss, hss, hst⟩ := GoE.bind_ok_some hst
  cases hst
  exact ⟨rfl, (GoE.mapM_ok_some _ _ _ hss).imp fun _ _ => extractStep_ok_some⟩

/-- body of the inner loop of `rangeContributions` (one range proof of one attribute). -/
def rangeInner (pk : PublicKey) (c mresp : Int) (x : RangeStructure × Option RangeProof)
    (st : List Int × List (Option RangeProof)) : GoE (ForInStep (List Int × List (Option RangeProof))) := do
  let rp ← (liftM (deref "range proof" x.2) : GoE _)
  let rp := { rp with mResponse := some mresp }
  if !x.1.verifyProofStructure pk rp then failure
  let cs ← (liftM (x.1.commitmentsFromProof pk rp c) : GoE _)
  pure (.yield (st.1 ++ cs, st.2 ++ [some rp]))

/-- body of the outer loop of `rangeContributions` (one attribute index). -/
def rangeOuter (pk : PublicKey) (p : ProofD) (c : Int) (structs : List (Int × List RangeStructure))
    (rps : RPMap) (index : Int) (st : List Int × RPMap) : GoE (ForInStep (List Int × RPMap)) :=
  match structs.lookup index, rps.lookup index with
  | some ss, some proofs => do
    let mresp ← (liftM (deref "AResponses[index]" (p.aResponses.get index)) : GoE _)
    let st1 ← forIn (ss.zip proofs) (st.1, []) (rangeInner pk c mresp)
    pure (.yield (st1.1, st.2.map (fun kv => if kv.1 = index then (kv.1, st1.2) else kv)))
  | _, _ => pure (.yield (st.1, st.2))

/-- `maxAttribute` of `ProofD.ChallengeContribution` (proofs.go): the largest key of `AResponses`,
    at least 0. -/
def ProofD.maxAttribute (p : ProofD) : Int := p.aResponses.foldl (fun m kv => if kv.1 > m then kv.1 else m) 0

/-- the range-proof contributions are taken for `index = 0 … maxAttribute`, in this order. -/
def ProofD.rangeIndices (p : ProofD) : List Int :=
  (List.range (p.maxAttribute.toNat + 1)).map (fun (i : Nat) => (i : Int))

theorem ProofD.rangeContributions_eq (pk : PublicKey) (p : ProofD) (c : Int) :
    p.rangeContributions pk c =
      (match p.rangeProofs with
      | none => pure ([], none)
      | some rps => do
        let structs ← extractAll pk rps
        let st ← forIn p.rangeIndices ([], rps) (rangeOuter pk p c structs rps)
        pure (st.1, some st.2)) := by
  unfold ProofD.rangeContributions
  cases p.rangeProofs with
  | none => rfl
  | some rps => rfl

theorem rangeInner_isOk (pk : PublicKey) (c mresp : Int) (x : RangeStructure × Option RangeProof)
    (st : List Int × List (Option RangeProof)) (hx : x.2.isSome) {n : Nat} (hs : x.1.SecretsOk n) :
    GoE.IsOk (rangeInner pk c mresp x st) := by
  unfold rangeInner
  apply GoE.isOk_bind (GoE.isOk_liftM (deref_isOk _ hx)); intro rp _
  simp only []
  split
  · exact GoE.isOk_failure_bind _
  · next hv =>
    apply GoE.isOk_bind (GoE.isOk_liftM (RangeStructure.commitmentsFromProof_isOk hs (by simpa using hv) c))
    intro _ _
    exact GoE.isOk_pure _

theorem rangeOuter_isOk (pk : PublicKey) (p : ProofD) (c : Int)
    (structs : List (Int × List RangeStructure)) (rps : RPMap) (index : Int) (st : List Int × RPMap)
    (hstructs : (extractAll pk rps).run = .ok (some structs))
    (hR : ∀ kv ∈ rps, p.aResponses.has kv.1 = true ∧ ∀ rp ∈ kv.2, rp.isSome)
    (hA : ∀ kv ∈ p.aResponses, kv.2.isSome) :
    GoE.IsOk (rangeOuter pk p c structs rps index st) := by
  unfold rangeOuter
  split
  · next ss proofs hss hproofs =>
    have hmem := lookup_mem hproofs
    obtain ⟨hhas, hsome⟩ := hR _ hmem
    apply GoE.isOk_bind (GoE.isOk_liftM (deref_isOk _ (IntMap.get_isSome hhas hA))); intro mresp _
    apply GoE.isOk_bind
    · apply GoE.forIn_isOk
      intro x hx st'
      have hx2 : x.2 ∈ proofs := (List.of_mem_zip hx).2
      have hx1 : x.1 ∈ ss := (List.of_mem_zip hx).1
      -- the structure comes from `extractStructure`
      obtain ⟨kv, hkv, hk, hf⟩ := forall₂_mem_right (extractAll_ok_some hstructs) (lookup_mem hss)
      obtain ⟨rp, _, rp', _, hex⟩ := forall₂_mem_right hf hx1
      obtain ⟨n, hn⟩ := RangeProof.extractStructure_secretsOk hex
      exact rangeInner_isOk pk c mresp x st' (hsome _ hx2) hn
    · intro _ _; exact GoE.isOk_pure _
  · exact GoE.isOk_pure _

theorem ProofD.rangeContributions_isOk (pk : PublicKey) (p : ProofD) (c : Int)
    (hR : ∀ kv ∈ p.rangeProofs.getD [], p.aResponses.has kv.1 = true ∧ ∀ rp ∈ kv.2, rp.isSome)
    (hA : ∀ kv ∈ p.aResponses, kv.2.isSome) :
    GoE.IsOk (p.rangeContributions pk c) := by
  rw [ProofD.rangeContributions_eq]
  cases hrp : p.rangeProofs with
  | none => exact GoE.isOk_pure _
  | some rps =>
    rw [hrp] at hR
    simp only [Option.getD_some] at hR
    apply GoE.isOk_bind (extractAll_isOk pk rps (fun kv hkv => (hR kv hkv).2)); intro structs hstructs
    apply GoE.isOk_bind
    · apply GoE.forIn_isOk
      intro index _ st
      exact rangeOuter_isOk pk p c structs rps index st hstructs hR hA
    · intro _ _; exact GoE.isOk_pure _

/-! ## the exact shape of a successful `rangeContributions` -/

/-- what one range proof (with its extracted structure) contributes: it is non-nil, passes the
    structure check with `MResponse := mresp`, and `cs` are its reconstructed commitments for
    that `MResponse` and the challenge `c`. -/
def RangeStepRel (pk : PublicKey) (c mresp : Int) (x : RangeStructure × Option RangeProof)
    (cs : List Int) : Prop :=
  ∃ rp, x.2 = some rp ∧
    x.1.verifyProofStructure pk { rp with mResponse := some mresp } = true ∧
    x.1.commitmentsFromProof pk { rp with mResponse := some mresp } c = .ok cs

/-- what one attribute index contributes: nothing when the map has no entry for it; otherwise
    the hidden response of that index is `mresp` and the proofs stored for it contribute, in list
    order, with `MResponse := mresp`. -/
def RangeIndexRel (pk : PublicKey) (p : ProofD) (c : Int) (structs : List (Int × List RangeStructure))
    (rps : RPMap) (index : Int) (part : List Int) : Prop :=
  match structs.lookup index, rps.lookup index with
  | some ss, some proofs => ∃ mresp css, p.aResponses.get index = some mresp ∧
      List.Forall₂ (RangeStepRel pk c mresp) (ss.zip proofs) css ∧ part = css.flatten
  | _, _ => part = []

theorem rangeInner_ok_some {c mresp : Int} {x : RangeStructure × Option RangeProof}
    {st : List Int × List (Option RangeProof)} {t : ForInStep (List Int × List (Option RangeProof))}
    (h : (rangeInner pk c mresp x st).run = .ok (some t)) :
    ∃ cs, RangeStepRel pk c mresp x cs ∧ ∃ l, t = .yield (st.1 ++ cs, l) := by
  unfold rangeInner at h
  rw [GoE.run_bind_ok_some_iff] at h
  obtain ⟨rp, hrp, h⟩ := h
  rw [GoE.run_liftM_ok_some_iff, deref_ok_iff] at hrp
  simp only [] at h
  split at h
  · exact absurd h (GoE.failure_bind_ne _ _)
  · next hv =>
    rw [GoE.run_bind_ok_some_iff] at h
    obtain ⟨cs, hcs, h⟩ := h
    rw [GoE.run_liftM_ok_some_iff] at hcs
    cases h
    exact ⟨cs, ⟨rp, hrp, by simpa using hv, hcs⟩, _, rfl⟩

theorem rangeOuter_ok_some {p : ProofD} {c : Int}
    {structs : List (Int × List RangeStructure)} {rps : RPMap} {index : Int} {st : List Int × RPMap}
    {t : ForInStep (List Int × RPMap)}
    (h : (rangeOuter pk p c structs rps index st).run = .ok (some t)) :
    ∃ part, RangeIndexRel pk p c structs rps index part ∧ ∃ m', t = .yield (st.1 ++ part, m') := by
  unfold rangeOuter at h
  unfold RangeIndexRel
  split at h
  · next ss proofs hss hproofs =>
    rw [GoE.run_bind_ok_some_iff] at h
    obtain ⟨mresp, hm, h⟩ := h
    rw [GoE.run_liftM_ok_some_iff, deref_ok_iff] at hm
    rw [GoE.run_bind_ok_some_iff] at h
    obtain ⟨st1, hst1, h⟩ := h
    cases h
    obtain ⟨css, hF, heq⟩ := GoE.forIn_append _ hst1 fun _ _ _ => rangeInner_ok_some
    exact ⟨css.flatten, ⟨mresp, css, hm, hF, rfl⟩, _, by rw [heq]⟩
  · next hno =>
    cases h
    exact ⟨[], rfl, st.2, by rw [List.append_nil]⟩

/-- The range contributions are the concatenation, over
    `index = 0, 1, …, max hidden index` in increasing order, of the per-index parts; each part is
    the concatenation in list order of the commitments reconstructed from the proofs stored for
    that index, with `MResponse := AResponses[index]`. -/
theorem ProofD.rangeContributions_shape {p : ProofD} {c : Int}
    {rc : List Int} {rps' : Option RPMap} {rps : RPMap}
    (h : (p.rangeContributions pk c).run = .ok (some (rc, rps')))
    (hrps : p.rangeProofs = some rps) :
    ∃ structs parts, (extractAll pk rps).run = .ok (some structs) ∧
      List.Forall₂ (RangeIndexRel pk p c structs rps) p.rangeIndices parts ∧
      rc = parts.flatten := by
  rw [ProofD.rangeContributions_eq, hrps] at h
  rw [GoE.run_bind_ok_some_iff] at h
  obtain ⟨structs, hstructs, h⟩ := h
  rw [GoE.run_bind_ok_some_iff] at h
  obtain ⟨st, hst, h⟩ := h
  cases h
  obtain ⟨parts, hF, heq⟩ := GoE.forIn_append _ hst fun _ _ _ => rangeOuter_ok_some
  exact ⟨structs, parts, hstructs, hF, heq⟩

/-- per-index part when the entry is known: the structures are those extracted from the very
    proofs of the entry. -/
theorem RangeIndexRel.of_lookup {p : ProofD} {c : Int}
    {structs : List (Int × List RangeStructure)} {rps : RPMap}
    (hstructs : (extractAll pk rps).run = .ok (some structs))
    {index : Int} {proofs : List (Option RangeProof)} (hl : rps.lookup index = some proofs)
    {part : List Int} (h : RangeIndexRel pk p c structs rps index part) :
    ∃ ss mresp css, p.aResponses.get index = some mresp ∧
      List.Forall₂ (fun rp s => ∃ rp', rp = some rp' ∧ rp'.extractStructure index pk = some s) proofs ss ∧
      List.Forall₂ (RangeStepRel pk c mresp) (ss.zip proofs) css ∧ part = css.flatten := by
  have hF := extractAll_ok_some hstructs
  rcases forall₂_lookup hF index with ⟨hn, _⟩ | ⟨proofs', ss, hl', hss, hR⟩
  · rw [hl] at hn
    cases hn
  · cases hl.symm.trans hl'
    unfold RangeIndexRel at h
    rw [hss, hl] at h
    obtain ⟨mresp, css, hm, hF2, hp⟩ := h
    exact ⟨ss, mresp, css, hm, hR, hF2, hp⟩

theorem ProofD.mem_rangeIndices (p : ProofD) {index : Int} (h0 : 0 ≤ index) (hk : p.aResponses.has index = true) :
    index ∈ p.rangeIndices := by
  obtain ⟨v, hv⟩ := IntMap.exists_mem_of_has hk
  have hle : index ≤ p.maxAttribute := (foldl_max_ge p.aResponses 0).2 _ hv
  unfold ProofD.rangeIndices
  rw [List.mem_map]
  exact ⟨index.toNat, List.mem_range.mpr (by omega), by omega⟩

/-! ## `ProofD.challengeContribution` cannot panic -/

theorem ProofD.challengeContribution_isOk (o : SigOracle) (kid : String) (pk : PublicKey) (p : ProofD)
    (i : Int) (hs : p.wellFormed pk = true → p.ExpSafe pk) :
    GoE.IsOk (p.challengeContribution o kid pk i) := by
  unfold ProofD.challengeContribution
  by_cases hw : p.wellFormed pk = true
  · simp only [hw, Bool.not_true, Bool.false_eq_true, if_false]
    have hw' := (ProofD.wellFormed_iff pk p).mp hw
    obtain ⟨⟨hc, ha, he, hv⟩, _, hA, hD, hR, _⟩ := hw'
    have hA' : ∀ kv ∈ p.aResponses, kv.2.isSome := fun kv hkv => (hA kv hkv).1
    apply GoE.isOk_bind (x := GoE.ofGoMOption _) (ProofD.reconstructZ_isOk pk p hw (hs hw)); intro z _
    apply GoE.isOk_bind (GoE.isOk_liftM (deref_isOk _ ha)); intro a _
    apply GoE.isOk_bind (GoE.isOk_liftM (deref_isOk _ hc)); intro c _
    split
    · apply GoE.isOk_bind (ProofD.rangeContributions_isOk pk p c hR hA')
      intro _ _; exact GoE.isOk_pure _
    · next nr hnr =>
      apply GoE.isOk_bind
      · split
        · exact GoE.isOk_failure
        · exact GoE.isOk_pure _
      · intro resp _
        split
        · exact GoE.isOk_failure_bind _
        · next nr' hse =>
          obtain ⟨S⟩ := (Misc.setExpected_eq_some_iff ..).mp hse
          apply GoE.isOk_bind (GoE.isOk_liftM (NonRevProof.challengeContributions_isOk pk nr' S.structureOk))
          intro contrib _
          apply GoE.isOk_bind (ProofD.rangeContributions_isOk pk _ c hR hA')
          intro _ _; exact GoE.isOk_pure _
  · simp only [hw, Bool.not_false, if_true]
    exact GoE.isOk_failure_bind _

end Gabi
