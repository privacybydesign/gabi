/-
  GabiProofs.ListLogic — the decision logic of `proofListVerifyWith` (prooflist.go:ProofList.Verify):
  its two `for` loops as named functions, what an accepted list has established (and conversely),
  totality, and the closed forms of the commitments that `reconstructUcommit` and `reconstructZ`
  rebuild. Per-proof facts come from GabiProofs.VerifyLogic. Also the vocabulary of the binding
  theorems (`challengeInput`, `Collision`, per-proof `contribution`) and, in `Gabi.Ex`, a concrete
  accepted two-proof list.
-/
import GabiProofs.VerifyLogic
import GabiProofs.DerLemmas
import Mathlib.Tactic.NormNum
import Mathlib.Data.List.Basic
import Mathlib.Data.List.Perm.Basic
import Mathlib.Algebra.BigOperators.Group.List.Basic

namespace Gabi

/-! ### the loops of `ProofList.Verify` as named functions

  `body1`, `body2` are the bodies of the two `for` loops, `contribOne` and `verifyOne` the calls
  they make on one item; `proofListVerifyWith_eq` ties them to the model by case analysis followed
  by `rfl`, so it holds only while the model's do-block keeps this shape. -/

/-- one loop item: proof, key (with its id), and the two picks of `revocationAttrIndex`. -/
abbrev PLItem := (Proof × String × PublicKey) × (Int × Int)

/-- the items the two loops range over. -/
def plItems (pl : List Proof) (keys : List (String × PublicKey)) (choices : List (Int × Int)) :
    List PLItem := (pl.zip keys).zip choices

/-- the call of the first loop on one item: the contribution and the updated proof. -/
def contribOne (o : SigOracle) (x : PLItem) : GoM (Option (List Int × Proof)) :=
  match x with
  | ((.d p, kid, pk), ch) => do
      match ← (p.challengeContribution o kid pk ch.1).run with
      | none => pure none
      | some (c, p') => pure (some (c, .d p'))
  | ((.u p, _, pk), _) => do
      match ← p.challengeContribution pk with
      | none => pure none
      | some c => pure (some (c, .u p))

/-- the state is (early verdict, contributions so far, updated proofs so far). -/
def body1 (o : SigOracle) (x : PLItem) (s : Option Bool × List Int × List Proof) :
    GoM (ForInStep (Option Bool × List Int × List Proof)) := do
  match ← contribOne o x with
  | none => pure (.done (some false, s.2.1, s.2.2))
  | some (c, q) => pure (.yield (none, s.2.1 ++ c, s.2.2 ++ [q]))

/-- the call of the second loop on one (updated) item, against the expected challenge. -/
def verifyOne (o : SigOracle) (expected : Nat) (x : PLItem) : GoM Bool :=
  match x with
  | ((.d p, kid, pk), ch) => do
      let r ← p.verifyWithChallenge o kid pk ch.2 expected
      pure r.1
  | ((.u p, _, pk), _) => p.verifyWithChallenge pk expected

/-- the keyshare-server label of position `i` (`""` when there is no labelling). -/
def labelOf (kss : List String) (i : Nat) : String :=
  if kss.length > 0 then kss[i]?.getD "" else ""

/-- two positions carry the same keyshare-server label (no labelling: always). -/
def SameLabel (kss : List String) (i j : Nat) : Prop := kss = [] ∨ kss[i]? = kss[j]?

/-- the state is (early verdict, the table `seen` of label ↦ secret-key response, loop counter). -/
def body2 (o : SigOracle) (kss : List String) (expected : Nat) (x : PLItem)
    (s : Option Bool × List (String × Option Int) × Nat) :
    GoM (ForInStep (Option Bool × List (String × Option Int) × Nat)) := do
  let ok ← verifyOne o expected x
  if !ok then pure (.done (some false, s.2.1, s.2.2))
  else
    match s.2.1.lookup (labelOf kss s.2.2) with
    | none => pure (.yield (none, (labelOf kss s.2.2, x.1.1.secretKeyResponse) :: s.2.1, s.2.2 + 1))
    | some resp => do
      let r ← deref "secretkey response" resp
      let mine ← deref "secretkey response" x.1.1.secretKeyResponse
      if r ≠ mine then pure (.done (some false, s.2.1, s.2.2))
      else pure (.yield (none, s.2.1, s.2.2 + 1))

/-- all `body2` takes from its item is the verdict of `verifyOne` and the secret-key response. -/
theorem body2_congr {o : SigOracle} {kss : List String} {e : Nat} {x x' : PLItem}
    (hv : verifyOne o e x = verifyOne o e x')
    (hr : x.1.1.secretKeyResponse = x'.1.1.secretKeyResponse) :
    body2 o kss e x = body2 o kss e x' := by
  funext s
  unfold body2
  rw [hv, hr]

theorem bind_forIn_congr {α β γ : Type} {L : List α} {init : β}
    {f f' : α → β → GoM (ForInStep β)} {k k' : β → GoM γ}
    (hf : ∀ x s, f x s = f' x s) (hk : ∀ s, k s = k' s) :
    (forIn L init f >>= k) = (forIn L init f' >>= k') := by
  have h1 : f = f' := funext fun x => funext fun s => hf x s
  have h2 : k = k' := funext hk
  subst h1; subst h2; rfl

/-- the length guard of `ProofList.Verify`. -/
def ListGuard (keys : List (String × PublicKey)) (pl : List Proof) (kss : List String) : Prop :=
  pl ≠ [] ∧ pl.length = keys.length ∧ (kss = [] ∨ kss.length = pl.length)

instance (keys : List (String × PublicKey)) (pl : List Proof) (kss : List String) :
    Decidable (ListGuard keys pl kss) := by unfold ListGuard; infer_instance

theorem listGuard_congr {keys : List (String × PublicKey)} {pl pl' : List Proof} {kss : List String}
    (h : pl.length = pl'.length) : ListGuard keys pl kss ↔ ListGuard keys pl' kss := by
  unfold ListGuard
  rw [← List.length_pos_iff (l := pl), ← List.length_pos_iff (l := pl'), h]

theorem proofListVerifyWith_eq (o : SigOracle) (keys : List (String × PublicKey)) (pl : List Proof)
    (ctx nonce : Int) (issig : Bool) (kss : List String) (choices : List (Int × Int)) :
    proofListVerifyWith o keys pl ctx nonce issig kss choices =
      if ListGuard keys pl kss then
        (forIn (plItems pl keys choices) (none, [], []) (body1 o) >>= fun s =>
          match s.1 with
          | some r => pure r
          | none =>
            forIn (plItems s.2.2 keys choices) (none, [], 0)
              (body2 o kss (createChallenge ctx nonce s.2.1 issig)) >>= fun s2 =>
            match s2.1 with
            | some r => pure r
            | none => pure true)
      else pure false := by
  have hg : (pl.isEmpty || decide (pl.length ≠ keys.length) ||
      decide (kss.length > 0) && decide (pl.length ≠ kss.length)) = true ↔
      ¬ ListGuard keys pl kss := by
    simp only [ListGuard, ne_eq, Bool.or_eq_true, Bool.and_eq_true, decide_eq_true_eq, List.isEmpty_iff,
      ← List.length_eq_zero_iff]
    omega
  unfold proofListVerifyWith plItems
  split
  · next h => rw [if_neg (hg.1 h)]
  · next h =>
    rw [if_pos (not_not.1 (mt hg.2 h))]
    -- the loop bodies agree whatever the inner call returns
    apply bind_forIn_congr
    · rintro ⟨⟨p | p, kid, pk⟩, ch⟩ s
      · simp only [body1, contribOne]
        rcases (p.challengeContribution o kid pk ch.1).run with _ | _ | _ <;> rfl
      · simp only [body1, contribOne]
        rcases p.challengeContribution pk with _ | _ | _ <;> rfl
    · rintro ⟨_ | r, cs, up⟩
      · apply bind_forIn_congr
        · rintro ⟨⟨p | p, kid, pk⟩, ch⟩ s
          · simp only [body2, verifyOne]
            rcases p.verifyWithChallenge o kid pk ch.2 (createChallenge ctx nonce cs issig) with
              _ | _ <;> rfl
          · simp only [body2, verifyOne]
            rcases p.verifyWithChallenge pk (createChallenge ctx nonce cs issig) with _ | _ <;> rfl
        · rintro ⟨_ | _, _⟩ <;> rfl
      · rfl

theorem proofListVerifyWith_guard (o : SigOracle) (keys : List (String × PublicKey)) (pl : List Proof)
    (ctx nonce : Int) (issig : Bool) (kss : List String) (choices : List (Int × Int))
    (h : pl = [] ∨ pl.length ≠ keys.length ∨ (kss ≠ [] ∧ pl.length ≠ kss.length)) :
    proofListVerifyWith o keys pl ctx nonce issig kss choices = .ok false := by
  rw [proofListVerifyWith_eq, if_neg]
  · rfl
  · rintro ⟨h1, h2, h3⟩
    rcases h with h | h | ⟨h, h'⟩
    · exact h1 h
    · exact h h2
    · rcases h3 with h3 | h3
      · exact h h3
      · exact h' h3.symm

/-- modelling caveat: `choices` is zipped with the proofs, so a `choices` list shorter than the
    proof list silently drops the remaining proofs; with no choices at all every list that passes
    the length guard is "accepted". Acceptance theorems must assume `pl.length ≤ choices.length`. -/
theorem proofListVerifyWith_nil_choices (o : SigOracle) (keys : List (String × PublicKey)) (pl : List Proof)
    (ctx nonce : Int) (issig : Bool) (kss : List String) (hg : ListGuard keys pl kss) :
    proofListVerifyWith o keys pl ctx nonce issig kss [] = .ok true := by
  rw [proofListVerifyWith_eq, if_pos hg]
  simp only [plItems, List.zip_nil_right, List.forIn_nil]
  rfl

theorem plItems_length_of_le {pl : List Proof} {keys : List (String × PublicKey)}
    {choices : List (Int × Int)} (hk : pl.length = keys.length) (hc : pl.length ≤ choices.length) :
    (plItems pl keys choices).length = pl.length := by
  rw [plItems, List.length_zip, List.length_zip, ← hk, Nat.min_self, Nat.min_eq_left hc]

theorem plItems_map_proof {pl : List Proof} {keys : List (String × PublicKey)}
    {choices : List (Int × Int)} (hk : pl.length = keys.length) (hc : pl.length ≤ choices.length) :
    (plItems pl keys choices).map (·.1.1) = pl := by
  have hz : (pl.zip keys).length ≤ choices.length := by
    rw [List.length_zip, ← hk, Nat.min_self]; exact hc
  show List.map (Prod.fst ∘ Prod.fst) ((pl.zip keys).zip choices) = pl
  rw [← List.map_map, List.map_fst_zip hz, List.map_fst_zip hk.le]

theorem mem_of_plItems_subset {pl pl' : List Proof} {keys keys' : List (String × PublicKey)}
    {choices choices' : List (Int × Int)}
    (hk' : pl'.length = keys'.length) (hc' : pl'.length ≤ choices'.length)
    (hsub : plItems pl' keys' choices' ⊆ plItems pl keys choices) {q : Proof} (hq : q ∈ pl') :
    q ∈ pl := by
  rw [← plItems_map_proof hk' hc'] at hq
  obtain ⟨x, hx, rfl⟩ := List.mem_map.1 hq
  exact (List.of_mem_zip (List.of_mem_zip (hsub hx)).1).1

theorem plItems_map_resp {pl : List Proof} {keys : List (String × PublicKey)}
    {choices : List (Int × Int)} (hk : pl.length = keys.length) (hc : pl.length ≤ choices.length) :
    (plItems pl keys choices).map (·.1.1.secretKeyResponse) = pl.map Proof.secretKeyResponse := by
  show List.map (Proof.secretKeyResponse ∘ (·.1.1)) (plItems pl keys choices) = _
  rw [← List.map_map, plItems_map_proof hk hc]

theorem plItems_eraseIdx (pl : List Proof) (keys : List (String × PublicKey))
    (choices : List (Int × Int)) (k : Nat) :
    plItems (pl.eraseIdx k) (keys.eraseIdx k) (choices.eraseIdx k) =
      (plItems pl keys choices).eraseIdx k := by
  simp only [plItems, zip_eraseIdx]

/-! ### what one call of each loop establishes -/

variable {o : SigOracle} {pk : PublicKey} {keys : List (String × PublicKey)} {pl : List Proof}
  {ctx nonce : Int} {issig : Bool} {kss : List String} {choices : List (Int × Int)}

/-- the challenge a proof carries (`Proof.Challenge()`). -/
def Proof.challenge : Proof → Option Int
  | .d p => p.c
  | .u p => p.c

/-- `cs` is the challenge contribution of proof `q` under key `key` (for a disclosure proof:
    with pick `pick` of `revocationAttrIndex`). -/
def HasContribution (o : SigOracle) (key : String × PublicKey) (pick : Int) (q : Proof)
    (cs : List Int) : Prop :=
  match q with
  | .d p => ∃ p', (p.challengeContribution o key.1 key.2 pick).run = .ok (some (cs, p'))
  | .u p => p.challengeContribution key.2 = .ok (some cs)

/-- Only a well-formed proof contributes; a disclosure proof contributes `[A, Z, …]`, an issuance
    commitment proof exactly `[U, Ucommit]`. -/
theorem HasContribution.shape {key : String × PublicKey} {pick : Int} {q : Proof} {cs : List Int}
    (h : HasContribution o key pick q cs) :
    q.wellFormed key.2 = true ∧ 2 ≤ cs.length ∧ ∀ p, q = .u p → cs.length = 2 := by
  cases q with
  | d p =>
    obtain ⟨p', hp⟩ := h
    obtain ⟨F⟩ := ProofD.challengeContribution_ok_some hp
    exact ⟨F.wellFormed, by rw [F.contrib_eq, List.append_assoc]; exact Nat.le_add_left 2 _, nofun⟩
  | u p =>
    obtain ⟨hw, u, uc, -, -, rfl⟩ := ProofU.challengeContribution_ok h
    exact ⟨hw, Nat.le_refl 2, fun _ _ => rfl⟩

/-- A successful call yields the contribution of the proof; the updated proof keeps challenge and
    secret-key response (`challengeContribution` only rewrites `nonrev` and `rangeProofs`). -/
theorem contribOne_ok {q : Proof} {key : String × PublicKey} {ch : Int × Int}
    {out : List Int × Proof} (h : contribOne o ((q, key), ch) = .ok (some out)) :
    HasContribution o key ch.1 q out.1 ∧ out.2.challenge = q.challenge ∧
      out.2.secretKeyResponse = q.secretKeyResponse := by
  obtain ⟨kid, pk⟩ := key
  cases q with
  | d p =>
    rw [contribOne] at h
    obtain ⟨_ | ⟨c, p'⟩, hr, h⟩ := GoM.bind_ok h
    · cases h
    · cases GoM.pure_ok h
      obtain ⟨hc, -, -, -, har, -⟩ := ProofD.challengeContribution_fields hr
      exact ⟨⟨p', hr⟩, hc, congrArg (·.get 0) har⟩
  | u p =>
    rw [contribOne] at h
    obtain ⟨_ | c, hr, h⟩ := GoM.bind_ok h
    · cases h
    · cases GoM.pure_ok h
      exact ⟨hr, rfl, rfl⟩

theorem contribOne_isOk (o : SigOracle) {q : Proof} {key : String × PublicKey} {ch : Int × Int}
    (hs : ∀ p, q = .d p → p.wellFormed key.2 = true → p.ExpSafe key.2) :
    GoM.IsOk (contribOne o ((q, key), ch)) := by
  cases q with
  | d p =>
    apply GoM.isOk_bind (ProofD.challengeContribution_isOk o _ _ p _ (hs p rfl))
    intro r _
    split <;> exact GoM.isOk_pure _
  | u p =>
    apply GoM.isOk_bind (ProofU.challengeContribution_isOk _ p)
    intro r _
    split <;> exact GoM.isOk_pure _

theorem verifyOne_ok {e : Nat} {q : Proof} {key : String × PublicKey}
    {ch : Int × Int} (h : verifyOne o e ((q, key), ch) = .ok true) :
    q.challenge = some (e : Int) ∧ q.wellFormed key.2 = true := by
  cases q with
  | d p =>
    rw [verifyOne] at h
    obtain ⟨⟨b, acc⟩, hr, h⟩ := GoM.bind_ok h
    cases GoM.pure_ok h
    obtain ⟨hw, -, hc, -⟩ := ProofD.verifyWithChallenge_ok_true hr
    exact ⟨hc, hw⟩
  | u p => exact (ProofU.verifyWithChallenge_ok_true h).symm

theorem verifyOne_isOk (o : SigOracle) (e : Nat) (x : PLItem) : GoM.IsOk (verifyOne o e x) := by
  obtain ⟨⟨q, kid, pk⟩, ch⟩ := x
  cases q with
  | d p =>
    apply GoM.isOk_bind (ProofD.verifyWithChallenge_isOk ..)
    intro _ _; exact GoM.isOk_pure _
  | u p => exact ProofU.verifyWithChallenge_isOk ..

/-- the contribution of one item as a total function (`[]` when the contribution fails). -/
def contributionOf (o : SigOracle) (x : PLItem) : List Int :=
  match contribOne o x with
  | .ok (some out) => out.1
  | _ => []

/-- the hashed contribution list of a proof list: the per-proof contributions, concatenated in
    list order. -/
def listContributions (o : SigOracle) (keys : List (String × PublicKey)) (pl : List Proof)
    (choices : List (Int × Int)) : List Int :=
  ((plItems pl keys choices).map (contributionOf o)).flatten

theorem contributionOf_of_ok {x : PLItem} {out : List Int × Proof}
    (h : contribOne o x = .ok (some out)) : contributionOf o x = out.1 := by
  rw [contributionOf, h]

theorem contributionOf_eq {x : PLItem} {cs : List Int}
    (h : HasContribution o x.1.2 x.2.1 x.1.1 cs) : contributionOf o x = cs := by
  obtain ⟨⟨q, kid, pk⟩, ch⟩ := x
  cases q with
  | d p =>
    obtain ⟨p', hp⟩ := h
    exact contributionOf_of_ok (out := (cs, .d p')) (by rw [contribOne, hp]; rfl)
  | u p =>
    have hp : p.challengeContribution pk = .ok (some cs) := h
    exact contributionOf_of_ok (out := (cs, .u p)) (by rw [contribOne, hp]; rfl)

/-! ### the first loop collects the contributions and the updated proofs -/

theorem loop1_spec (o : SigOracle) : ∀ (L : List PLItem) (cs : List Int) (up : List Proof)
    (r : Option Bool) (cs' : List Int) (up' : List Proof),
    forIn L ((none : Option Bool), cs, up) (body1 o) = .ok (r, cs', up') →
    r = some false ∨ (r = none ∧ ∃ outs : List (List Int × Proof),
      List.Forall₂ (fun x out => contribOne o x = .ok (some out)) L outs ∧
      cs' = cs ++ (outs.map (·.1)).flatten ∧ up' = up ++ outs.map (·.2)) := by
  intro L
  induction L with
  | nil =>
    intro cs up r cs' up' h
    rw [List.forIn_nil] at h
    cases GoM.pure_ok h
    exact Or.inr ⟨rfl, [], List.Forall₂.nil, by simp, by simp⟩
  | cons x xs ih =>
    intro cs up r cs' up' h
    rw [List.forIn_cons] at h
    obtain ⟨st, hst, h⟩ := GoM.bind_ok h
    rw [body1] at hst
    obtain ⟨_ | ⟨c, q⟩, hoc, hst⟩ := GoM.bind_ok hst
    · cases GoM.pure_ok hst
      cases GoM.pure_ok h
      exact Or.inl rfl
    · cases GoM.pure_ok hst
      refine (ih _ _ _ _ _ h).imp_right ?_
      rintro ⟨hr, outs, hf, hcs, hup⟩
      exact ⟨hr, (c, q) :: outs, List.Forall₂.cons hoc hf, by simp [hcs], by simp [hup]⟩

theorem loop1_complete (o : SigOracle) {L : List PLItem} {outs : List (List Int × Proof)}
    (h : List.Forall₂ (fun x out => contribOne o x = .ok (some out)) L outs) :
    ∀ (cs : List Int) (up : List Proof),
    forIn L ((none : Option Bool), cs, up) (body1 o) =
      .ok (none, cs ++ (outs.map (·.1)).flatten, up ++ outs.map (·.2)) := by
  induction h with
  | nil => intro cs up; simp [List.forIn_nil]; rfl
  | @cons x out L outs h1 _ ih =>
    intro cs up
    have : body1 o x (none, cs, up) = .ok (.yield (none, cs ++ out.1, up ++ [out.2])) := by
      unfold body1; rw [h1]; rfl
    rw [List.forIn_cons, this]
    show forIn L (none, cs ++ out.1, up ++ [out.2]) (body1 o) = _
    rw [ih]
    simp

/-! ### the second loop: one label, one secret-key response -/

/-- the second loop on labelled responses: an item whose label is new enters the table `seen`;
    one whose label is in the table must report the response stored there, and both must be
    non-nil. -/
def Linked : List (String × Option Int) → List (String × Option Int) → Prop
  | _, [] => True
  | seen, x :: rest =>
    match seen.lookup x.1 with
    | none => Linked (x :: seen) rest
    | some r => (∃ v, r = some v ∧ x.2 = some v) ∧ Linked seen rest

/-- the responses `rs` with the labels the loop counter gives them, starting from `i`. -/
def labelled (kss : List String) (i : Nat) (rs : List (Option Int)) : List (String × Option Int) :=
  (rs.zipIdx i).map fun x => (labelOf kss x.2, x.1)

theorem labelled_cons (kss : List String) (i : Nat) (ρ : Option Int) (rs : List (Option Int)) :
    labelled kss i (ρ :: rs) = (labelOf kss i, ρ) :: labelled kss (i + 1) rs := rfl

/-- `Linked` in closed form: every item agrees with the table, and any two items with the same
    label report the same non-nil response. -/
theorem Linked.sound : ∀ {items seen : List (String × Option Int)}, Linked seen items →
    (∀ x ∈ items, ∀ r, seen.lookup x.1 = some r → ∃ v, r = some v ∧ x.2 = some v) ∧
    items.Pairwise fun a b => a.1 = b.1 → ∃ v, a.2 = some v ∧ b.2 = some v := by
  intro items
  induction items with
  | nil => intro _ _; exact ⟨by simp, List.Pairwise.nil⟩
  | cons x rest ih =>
    intro seen h
    rw [List.forall_mem_cons, List.pairwise_cons]
    unfold Linked at h
    cases hl : seen.lookup x.1 with
    | none =>
      rw [hl] at h
      obtain ⟨hA, hB⟩ := ih h
      refine ⟨⟨nofun, fun y hy r hr => hA y hy r ?_⟩,
        fun y hy hxy => hA y hy x.2 (by rw [← hxy]; exact List.lookup_cons_self), hB⟩
      -- `y` is found in the old table, so its label is not the new one
      have hne : (y.1 == x.1) = false := by
        rw [beq_eq_false_iff_ne]; rintro he; rw [he, hl] at hr; cases hr
      rw [List.lookup_cons, hne]; exact hr
    | some r0 =>
      rw [hl] at h
      obtain ⟨⟨v, hr0, hx⟩, h⟩ := h
      obtain ⟨hA, hB⟩ := ih h
      refine ⟨⟨fun r hr => ⟨v, by rw [← Option.some.inj hr, hr0], hx⟩, hA⟩, fun y hy hxy => ?_, hB⟩
      obtain ⟨w, hw, hy⟩ := hA y hy r0 (by rw [← hxy]; exact hl)
      exact ⟨w, by rw [hx, ← Option.some.inj (hr0.symm.trans hw)], hy⟩

theorem Linked.of_const {v : Int} : ∀ {items seen : List (String × Option Int)},
    (∀ x ∈ seen, x.2 = some v) → (∀ x ∈ items, x.2 = some v) → Linked seen items := by
  intro items
  induction items with
  | nil => intro _ _ _; trivial
  | cons x rest ih =>
    intro seen hs hi
    obtain ⟨hx, hrest⟩ := List.forall_mem_cons.1 hi
    unfold Linked
    split
    · exact ih (List.forall_mem_cons.2 ⟨hx, hs⟩) hrest
    · next r hr => exact ⟨⟨v, hs _ (lookup_mem hr), hx⟩, ih hs hrest⟩

theorem body2_fresh {kss : List String} {e : Nat} {x : PLItem} {r : Option Bool}
    {seen : List (String × Option Int)} {i : Nat} (hx : verifyOne o e x = .ok true)
    (hl : seen.lookup (labelOf kss i) = none) :
    body2 o kss e x (r, seen, i) =
      .ok (.yield (none, (labelOf kss i, x.1.1.secretKeyResponse) :: seen, i + 1)) := by
  unfold body2
  simp only [hx, hl]
  rfl

theorem body2_seen {kss : List String} {e : Nat} {x : PLItem} {r : Option Bool}
    {seen : List (String × Option Int)} {i : Nat} {v : Int} (hx : verifyOne o e x = .ok true)
    (hl : seen.lookup (labelOf kss i) = some (some v)) (hm : x.1.1.secretKeyResponse = some v) :
    body2 o kss e x (r, seen, i) = .ok (.yield (none, seen, i + 1)) := by
  unfold body2
  simp only [hx, hl, hm, deref_some, GoM.ok_bind, ne_eq, not_true_eq_false, if_false]
  rfl

theorem loop2_spec (o : SigOracle) (kss : List String) (e : Nat) :
    ∀ (L : List PLItem) (seen : List (String × Option Int)) (i : Nat)
      (r : Option Bool) (seen' : List (String × Option Int)) (i' : Nat),
    forIn L ((none : Option Bool), seen, i) (body2 o kss e) = .ok (r, seen', i') →
    r = some false ∨ (r = none ∧ (∀ x ∈ L, verifyOne o e x = .ok true) ∧
      Linked seen (labelled kss i (L.map (·.1.1.secretKeyResponse)))) := by
  intro L
  induction L with
  | nil =>
    intro seen i r seen' i' h
    rw [List.forIn_nil] at h
    cases GoM.pure_ok h
    exact Or.inr ⟨rfl, by simp, trivial⟩
  | cons x xs ih =>
    intro seen i r seen' i' h
    rw [List.forIn_cons] at h
    obtain ⟨st, hst, h⟩ := GoM.bind_ok h
    rw [body2] at hst
    obtain ⟨ok, hok, hst⟩ := GoM.bind_ok hst
    rw [List.map_cons, labelled_cons, Linked, List.forall_mem_cons]
    -- the rest of the loop, once this item has passed
    have onward : ∀ s, st = .yield (none, s, i + 1) →
        r = some false ∨ (r = none ∧ (∀ y ∈ xs, verifyOne o e y = .ok true) ∧
          Linked s (labelled kss (i + 1) (xs.map (·.1.1.secretKeyResponse)))) := by
      rintro s rfl; exact ih _ _ _ _ _ h
    cases ok with
    | false =>
      cases GoM.pure_ok hst
      cases GoM.pure_ok h
      exact Or.inl rfl
    | true =>
      simp only [Bool.not_true, Bool.false_eq_true, if_false] at hst
      cases hl : seen.lookup (labelOf kss i) with
      | none =>
        simp only [hl] at hst
        exact (onward _ (GoM.pure_ok hst).symm).imp_right fun ⟨hr, hv, hL⟩ => ⟨hr, ⟨hok, hv⟩, hL⟩
      | some resp =>
        simp only [hl] at hst
        obtain ⟨rv, hrv, hst⟩ := GoM.bind_ok hst
        obtain ⟨mine, hmine, hst⟩ := GoM.bind_ok hst
        by_cases hne : rv = mine
        · rw [if_neg (not_not.2 hne)] at hst
          exact (onward _ (GoM.pure_ok hst).symm).imp_right fun ⟨hr, hv, hL⟩ =>
            ⟨hr, ⟨hok, hv⟩, ⟨mine, by rw [deref_ok hrv, hne], deref_ok hmine⟩, hL⟩
        · rw [if_pos hne] at hst
          cases GoM.pure_ok hst
          cases GoM.pure_ok h
          exact Or.inl rfl

theorem loop2_complete (o : SigOracle) (kss : List String) (e : Nat) :
    ∀ (L : List PLItem) (seen : List (String × Option Int)) (i : Nat),
    (∀ x ∈ L, verifyOne o e x = .ok true) →
    Linked seen (labelled kss i (L.map (·.1.1.secretKeyResponse))) →
    ∃ seen' i', forIn L ((none : Option Bool), seen, i) (body2 o kss e) = .ok (none, seen', i') := by
  intro L
  induction L with
  | nil => intro seen i _ _; exact ⟨seen, i, rfl⟩
  | cons x xs ih =>
    intro seen i hv hL
    obtain ⟨hx, hxs⟩ := List.forall_mem_cons.1 hv
    rw [List.map_cons, labelled_cons, Linked] at hL
    rw [List.forIn_cons]
    cases hl : seen.lookup (labelOf kss i) with
    | none =>
      rw [hl] at hL
      rw [body2_fresh hx hl]
      exact ih _ _ hxs hL
    | some resp =>
      rw [hl] at hL
      obtain ⟨⟨v, rfl, hm⟩, hL⟩ := hL
      rw [body2_seen hx hl hm]
      exact ih _ _ hxs hL

/-! ### acceptance -/

/-- Acceptance is equivalent to: the guard holds, every item contributes (`outs` are the
    contributions with the updated proofs), every updated proof verifies against the challenge of
    all contributions, and equal labels carry equal secret-key responses. -/
theorem accepted_iff :
    proofListVerifyWith o keys pl ctx nonce issig kss choices = .ok true ↔
    (ListGuard keys pl kss ∧ ∃ outs : List (List Int × Proof),
      List.Forall₂ (fun x out => contribOne o x = .ok (some out)) (plItems pl keys choices) outs ∧
      (∀ x ∈ plItems (outs.map (·.2)) keys choices,
        verifyOne o (createChallenge ctx nonce (outs.map (·.1)).flatten issig) x = .ok true) ∧
      Linked [] (labelled kss 0
        ((plItems (outs.map (·.2)) keys choices).map (·.1.1.secretKeyResponse)))) := by
  rw [proofListVerifyWith_eq]
  constructor
  · intro h
    split at h
    · next hg =>
      refine ⟨hg, ?_⟩
      obtain ⟨⟨r, cs, up⟩, hs, h⟩ := GoM.bind_ok h
      rcases loop1_spec o _ _ _ _ _ _ hs with rfl | ⟨rfl, outs, hf, hcs, hup⟩
      · cases h
      · rw [List.nil_append] at hcs hup
        subst hcs hup
        obtain ⟨⟨r2, seen, i⟩, hs2, h⟩ := GoM.bind_ok h
        rcases loop2_spec o kss _ _ _ _ _ _ _ hs2 with rfl | ⟨-, hv, hL⟩
        · cases h
        · exact ⟨outs, hf, hv, hL⟩
    · cases h
  · rintro ⟨hg, outs, hf, hv, hL⟩
    obtain ⟨seen', i', h2'⟩ := loop2_complete o kss _ _ _ _ hv hL
    rw [if_pos hg, loop1_complete o hf, GoM.ok_bind]
    simp only [List.nil_append, h2']
    rfl

/-- The second loop runs over the items of the first with each proof replaced by its update, and
    the update keeps challenge and secret-key response: what the second loop checks holds of the
    original items. -/
theorem updated_items {e : Nat} {pl : List Proof} {keys : List (String × PublicKey)}
    {choices : List (Int × Int)} {outs : List (List Int × Proof)}
    (h : List.Forall₂ (fun x out => contribOne o x = .ok (some out)) (plItems pl keys choices) outs)
    (hv : ∀ y ∈ plItems (outs.map (·.2)) keys choices, verifyOne o e y = .ok true) :
    outs.map (·.1) = (plItems pl keys choices).map (contributionOf o) ∧
    (∀ x ∈ plItems pl keys choices,
      HasContribution o x.1.2 x.2.1 x.1.1 (contributionOf o x) ∧ x.1.1.challenge = some (e : Int)) ∧
    (plItems (outs.map (·.2)) keys choices).map (·.1.1.secretKeyResponse) =
      (plItems pl keys choices).map (·.1.1.secretKeyResponse) := by
  induction pl generalizing keys choices outs with
  | nil => cases h; exact ⟨rfl, fun _ hx => (nomatch hx), rfl⟩
  | cons q pl ih =>
    cases keys with
    | nil => cases h; exact ⟨rfl, fun _ hx => (nomatch hx), rfl⟩
    | cons key keys =>
      cases choices with
      | nil => cases h; exact ⟨rfl, fun _ hx => (nomatch hx), rfl⟩
      | cons ch choices =>
        cases h with
        | @cons _ out _ outs h1 h =>
          obtain ⟨hv1, hv⟩ := List.forall_mem_cons.1 hv
          obtain ⟨ih1, ih2, ih3⟩ := ih h hv
          obtain ⟨hc, hch, hs⟩ := contribOne_ok h1
          have hco := contributionOf_of_ok h1
          exact ⟨congrArg₂ List.cons hco.symm ih1,
            List.forall_mem_cons.2 ⟨⟨hco ▸ hc, hch ▸ (verifyOne_ok hv1).1⟩, ih2⟩,
            congrArg₂ List.cons hs ih3⟩

/-- What an accepted list has established: every item has its contribution, the proof's own
    challenge field is the hash of the session data with all contributions in list order, and
    equal labels carry equal secret-key responses. -/
theorem accepted_items (h : proofListVerifyWith o keys pl ctx nonce issig kss choices = .ok true) :
    ListGuard keys pl kss ∧
    (∀ x ∈ plItems pl keys choices,
      HasContribution o x.1.2 x.2.1 x.1.1 (contributionOf o x) ∧
      x.1.1.challenge =
        some ((createChallenge ctx nonce (listContributions o keys pl choices) issig : Nat) : Int)) ∧
    Linked [] (labelled kss 0 ((plItems pl keys choices).map (·.1.1.secretKeyResponse))) := by
  obtain ⟨hg, outs, hf, hv, hL⟩ := accepted_iff.mp h
  obtain ⟨hcs, hitems, hresp⟩ := updated_items hf hv
  rw [hresp] at hL
  rw [hcs] at hitems
  exact ⟨hg, hitems, hL⟩

theorem accepted_member (h : proofListVerifyWith o keys pl ctx nonce issig kss choices = .ok true)
    (hc : pl.length ≤ choices.length) {q : Proof} (hq : q ∈ pl) :
    q.challenge = some ((createChallenge ctx nonce (listContributions o keys pl choices) issig : Nat) : Int) ∧
      ∃ key ∈ keys, q.wellFormed key.2 = true := by
  obtain ⟨⟨-, hk, -⟩, hitems, -⟩ := accepted_items h
  rw [← plItems_map_proof hk hc] at hq
  obtain ⟨x, hx, rfl⟩ := List.mem_map.1 hq
  obtain ⟨hcon, hch⟩ := hitems x hx
  exact ⟨hch, x.1.2, (List.of_mem_zip (List.of_mem_zip hx).1).2, hcon.shape.1⟩

/-! ### totality: the verdict is never a panic -/

theorem body1_isOk (o : SigOracle) {x : PLItem} (s : Option Bool × List Int × List Proof)
    (hs : ∀ p, x.1.1 = .d p → p.wellFormed x.1.2.2 = true → p.ExpSafe x.1.2.2) :
    GoM.IsOk (body1 o x s) := by
  apply GoM.isOk_bind (contribOne_isOk o hs)
  intro r _
  split <;> exact GoM.isOk_pure _

/-- the second loop dereferences the stored responses: they are present because every proof
    whose own check succeeded is well-formed, hence has its secret-key response. -/
theorem body2_isOk (o : SigOracle) (kss : List String) (e : Nat) (x : PLItem)
    (s : Option Bool × List (String × Option Int) × Nat) (hs : ∀ kv ∈ s.2.1, kv.2.isSome) :
    GoM.IsOk (body2 o kss e x s) ∧
      ∀ s', body2 o kss e x s = .ok (.yield s') → ∀ kv ∈ s'.2.1, kv.2.isSome := by
  obtain ⟨⟨q, key⟩, ch⟩ := x
  unfold body2
  constructor
  · apply GoM.isOk_bind (verifyOne_isOk o e _)
    rintro (_ | _) hok
    · exact GoM.isOk_pure _
    · have hmine := Proof.secretKeyResponse_isSome (verifyOne_ok hok).2
      simp only [Bool.not_true, Bool.false_eq_true, if_false]
      split
      · exact GoM.isOk_pure _
      · next resp hresp =>
        apply GoM.isOk_bind (deref_isOk _ (hs _ (lookup_mem hresp))); intro r _
        apply GoM.isOk_bind (deref_isOk _ hmine); intro mine _
        split <;> exact GoM.isOk_pure _
  · intro s' h
    obtain ⟨ok, hok, h⟩ := GoM.bind_ok h
    cases ok with
    | false => cases GoM.pure_ok h
    | true =>
      simp only [Bool.not_true, Bool.false_eq_true, if_false] at h
      split at h
      · cases GoM.pure_ok h
        exact List.forall_mem_cons.2 ⟨Proof.secretKeyResponse_isSome (verifyOne_ok hok).2, hs⟩
      · obtain ⟨r, -, h⟩ := GoM.bind_ok h
        obtain ⟨mine, -, h⟩ := GoM.bind_ok h
        split at h
        · cases GoM.pure_ok h
        · cases GoM.pure_ok h
          exact hs

/-- `ProofList.Verify` returns a verdict when the exponentiations `Exp(R_i, a_i, N)` of the
    well-formed disclosure proofs in the list have results (see `ProofD.ExpSafe`). -/
theorem proofListVerifyWith_isOk (o : SigOracle) (keys : List (String × PublicKey)) (pl : List Proof)
    (ctx nonce : Int) (issig : Bool) (kss : List String) (choices : List (Int × Int))
    (hs : ∀ x ∈ pl.zip keys, ∀ p, x.1 = .d p → p.wellFormed x.2.2 = true → p.ExpSafe x.2.2) :
    GoM.IsOk (proofListVerifyWith o keys pl ctx nonce issig kss choices) := by
  rw [proofListVerifyWith_eq]
  split
  · apply GoM.isOk_bind
    · exact GoM.forIn_isOk_inv _ _ _ (fun _ => True) trivial
        fun x hx s _ => ⟨body1_isOk o s (hs _ (List.of_mem_zip hx).1), fun _ _ => trivial⟩
    · intro s _
      split
      · exact GoM.isOk_pure _
      · apply GoM.isOk_bind
        · exact GoM.forIn_isOk_inv _ _ _ (fun s => ∀ kv ∈ s.2.1, kv.2.isSome) nofun
            fun x _ s hs => body2_isOk o kss _ x s hs
        · intro s2 _
          split <;> exact GoM.isOk_pure _
  · exact GoM.isOk_pure _

/-! ### closed forms of the reconstructed commitments: which base carries which exponent -/

/-- `t` is the factor `R_i^r mod n` for the map entry `kv = (i, r)`. -/
def IsFactor (pk : PublicKey) (kv : Int × Option Int) (t : Int) : Prop :=
  ∃ b r, 0 ≤ kv.1 ∧ pk.r[kv.1.toNat]? = some b ∧ kv.2 = some r ∧ modPow b r pk.n = some t

/-- The loops `go` of `reconstructUcommit` and `reconstructZ` differ in how a factor enters the
    accumulator (`step`) and in the names they panic with. -/
theorem factorLoop_ok {go : IntMap → Int → GoM (Option Int)} {step : Int → Int → Int}
    {w w' : String} (hnil : ∀ acc, go [] acc = pure (some acc))
    (hcons : ∀ i r rest acc, go ((i, r) :: rest) acc = do
      let b ← idx w pk.r i
      let r ← deref w' r
      match modPow b r pk.n with
      | some t => go rest (step acc t)
      | none => pure none) :
    ∀ (l : IntMap) (acc v : Int), go l acc = .ok (some v) →
    ∃ ts, List.Forall₂ (IsFactor pk) l ts ∧ v = ts.foldl step acc := by
  intro l
  induction l with
  | nil =>
    intro acc v h
    rw [hnil] at h
    cases GoM.pure_ok h
    exact ⟨[], List.Forall₂.nil, rfl⟩
  | cons kv rest ih =>
    intro acc v h
    obtain ⟨i, r⟩ := kv
    rw [hcons] at h
    obtain ⟨b, hb, h⟩ := GoM.bind_ok h
    obtain ⟨r', hr, h⟩ := GoM.bind_ok h
    cases ht : modPow b r' pk.n with
    | none => simp only [ht] at h; cases h
    | some t =>
      simp only [ht] at h
      obtain ⟨ts, hf, hv⟩ := ih _ _ h
      obtain ⟨h0, hbi⟩ := (idx_ok_iff _ _ _ _).mp hb
      exact ⟨t :: ts, List.Forall₂.cons ⟨b, r', h0, hbi, deref_ok hr, ht⟩ hf, hv⟩

theorem ProofU.reconstructUcommit_go_ok (l : IntMap) (acc v : Int)
    (h : ProofU.reconstructUcommit.go pk l acc = .ok (some v)) :
    ∃ ts, List.Forall₂ (IsFactor pk) l ts ∧ v = ts.foldl (fun a t => a * t % pk.n) acc :=
  factorLoop_ok (fun _ => rfl) (fun _ _ _ _ => rfl) l acc v h

theorem ProofD.reconstructZ_go_ok (l : IntMap) (acc v : Int)
    (h : ProofD.reconstructZ.go pk l acc = .ok (some v)) :
    ∃ ts, List.Forall₂ (IsFactor pk) l ts ∧ v = acc * ts.prod := by
  obtain ⟨ts, hf, rfl⟩ := factorLoop_ok (step := (· * ·)) (fun _ => rfl) (fun _ _ _ _ => rfl) l acc v h
  exact ⟨ts, hf, List.foldl_eq_apply_foldr⟩

theorem foldl_mulmod (n : Int) : ∀ (ts : List Int) (acc : Int),
    (ts.foldl (fun a t => a * t % n) acc) % n = (acc * ts.prod) % n := by
  intro ts
  induction ts with
  | nil => intro acc; simp
  | cons t ts ih =>
    intro acc
    rw [List.foldl_cons, ih, List.prod_cons, ← mul_assoc, Int.mul_emod, Int.emod_emod_of_dvd _ (dvd_refl n),
      ← Int.mul_emod]

/-- What a successful `reconstructUcommit pk p = v` has computed, piece by piece:
    `v ≡ U^{-c} · S^{v'} · R₀^{s} · ∏ R_i^{m_i} (mod n)`. -/
structure ProofU.UcommitParts (pk : PublicKey) (p : ProofU) (v : Int) where
  (u c vp s r0 : Int)
  u_eq : p.u = some u
  c_eq : p.c = some c
  vPrimeResponse_eq : p.vPrimeResponse = some vp
  sResponse_eq : p.sResponse = some s
  r0_eq : pk.r[0]? = some r0
  uc : Int
  uc_eq : modPow u (-c) pk.n = some uc
  sv : Int
  sv_eq : modPow pk.s vp pk.n = some sv
  r0s : Int
  r0s_eq : modPow r0 s pk.n = some r0s
  /-- one factor `R_i^{m_i}` per entry of `mUserResponses`, in its order -/
  factors : List Int
  factors_spec : List.Forall₂ (IsFactor pk) p.mUserResponses factors
  v_eq : v % pk.n = (uc * sv * r0s * factors.prod) % pk.n

theorem ProofU.reconstructUcommit_closed {p : ProofU} {v : Int}
    (h : p.reconstructUcommit pk = .ok (some v)) : Nonempty (p.UcommitParts pk v) := by
  unfold ProofU.reconstructUcommit at h
  obtain ⟨u, hu, h⟩ := GoM.bind_ok h
  obtain ⟨c, hc, h⟩ := GoM.bind_ok h
  obtain ⟨vp, hvp, h⟩ := GoM.bind_ok h
  obtain ⟨s, hs, h⟩ := GoM.bind_ok h
  obtain ⟨r0, hr0, h⟩ := GoM.bind_ok h
  split at h
  · rename_i uc sv r0s h1 h2 h3
    obtain ⟨ts, hf, hv⟩ := ProofU.reconstructUcommit_go_ok _ _ _ h
    refine ⟨{
      u, c, vp, s, r0, uc, sv, r0s, factors := ts
      u_eq := deref_ok hu, c_eq := deref_ok hc, vPrimeResponse_eq := deref_ok hvp,
      sResponse_eq := deref_ok hs, r0_eq := ((idx_ok_iff _ _ _ _).mp hr0).2, uc_eq := h1,
      sv_eq := h2, r0s_eq := h3, factors_spec := hf, v_eq := ?_ }⟩
    rw [hv, foldl_mulmod, Int.mul_emod, Int.emod_emod_of_dvd _ (dvd_refl pk.n), ← Int.mul_emod]
  · cases h

/-- `t` is the factor `R_i^{attrExp(a_i)} mod n` of a disclosed attribute `kv = (i, a_i)`. -/
def IsDisclosedFactor (pk : PublicKey) (kv : Int × Option Int) (t : Int) : Prop :=
  ∃ b attr, 0 ≤ kv.1 ∧ pk.r[kv.1.toNat]? = some b ∧ kv.2 = some attr ∧
    goExp b (attrExp pk.params.Lm attr) pk.n = some t

theorem disclosed_foldlM_ok : ∀ (l : IntMap) (num0 v : Int),
    l.foldlM (ProofD.disclosedStep pk) num0 = .ok v →
    ∃ ds, List.Forall₂ (IsDisclosedFactor pk) l ds ∧ v = num0 * ds.prod := by
  intro l
  induction l with
  | nil =>
    intro num0 v h
    have : num0 = v := GoM.pure_ok h
    exact ⟨[], List.Forall₂.nil, by simp [this]⟩
  | cons kv rest ih =>
    intro num0 v h
    rw [List.foldlM_cons] at h
    obtain ⟨x, hx, h⟩ := GoM.bind_ok h
    obtain ⟨attr, hattr, hx⟩ := GoM.bind_ok hx
    obtain ⟨b, hb, hx⟩ := GoM.bind_ok hx
    obtain ⟨t, ht, hx⟩ := GoM.bind_ok hx
    have := GoM.pure_ok hx
    subst this
    obtain ⟨ds, hf, hv⟩ := ih _ _ h
    obtain ⟨h0, hbi⟩ := (idx_ok_iff _ _ _ _).mp hb
    refine ⟨t :: ds, List.Forall₂.cons ⟨b, attr, h0, hbi, deref_ok hattr, deref_ok ht⟩ hf, ?_⟩
    rw [hv, List.prod_cons, mul_assoc]

/-- What a successful `reconstructZ pk p = z` has computed, piece by piece:
    `z = (Z · (A^{2^{le-1}} · ∏_{disclosed} R_i^{a_i})^{-1})^{-c} · A^{e} · ∏_{hidden} R_i^{r_i} · S^{v} mod n`. -/
structure ProofD.ZParts (pk : PublicKey) (p : ProofD) (z : Int) where
  (a c er vr : Int)
  a_eq : p.a = some a
  c_eq : p.c = some c
  eResponse_eq : p.eResponse = some er
  vResponse_eq : p.vResponse = some vr
  /-- `A^{2^{le-1}}` -/
  aPow : Int
  aPow_eq : goExp a (2 ^ (pk.params.Le - 1)) pk.n = some aPow
  /-- one factor `R_i^{a_i}` per disclosed attribute, in the order of `aDisclosed` -/
  disclosed : List Int
  disclosed_factors : List.Forall₂ (IsDisclosedFactor pk) p.aDisclosed disclosed
  inv : Int
  inv_eq : goModInverse (aPow * disclosed.prod) pk.n = some inv
  /-- `(Z · inv)^{-c}` -/
  knownC : Int
  knownC_eq : modPow (pk.z * inv) (-c) pk.n = some knownC
  ae : Int
  ae_eq : modPow a er pk.n = some ae
  sv : Int
  sv_eq : modPow pk.s vr pk.n = some sv
  /-- one factor `R_i^{r_i}` per hidden attribute, in the order of `aResponses` -/
  hidden : List Int
  hidden_factors : List.Forall₂ (IsFactor pk) p.aResponses hidden
  z_eq : z = knownC * ae * hidden.prod * sv % pk.n

theorem ProofD.reconstructZ_closed {p : ProofD} {z : Int}
    (h : p.reconstructZ pk = .ok (some z)) : Nonempty (p.ZParts pk z) := by
  rw [ProofD.reconstructZ_eq] at h
  obtain ⟨a, ha, h⟩ := GoM.bind_ok h
  obtain ⟨c, hc, h⟩ := GoM.bind_ok h
  obtain ⟨er, her, h⟩ := GoM.bind_ok h
  obtain ⟨vr, hvr, h⟩ := GoM.bind_ok h
  obtain ⟨num0, hnum0, h⟩ := GoM.bind_ok h
  obtain ⟨numerator, hnum, h⟩ := GoM.bind_ok h
  obtain ⟨ds, hds, hnumv⟩ := disclosed_foldlM_ok _ _ _ hnum
  split at h
  · cases h
  · rename_i inv hinv
    split at h
    · rename_i knownC ae sv h1 h2 h3
      obtain ⟨ors, hrs, h⟩ := GoM.bind_ok h
      cases ors with
      | none => cases h
      | some rs =>
        obtain ⟨ts, hf, hv⟩ := ProofD.reconstructZ_go_ok _ _ _ hrs
        have hz : some (knownC * ae * rs * sv % pk.n) = some z := GoM.pure_ok h
        cases hz
        rw [hnumv] at hinv
        rw [hv, one_mul]
        exact ⟨{
          a, c, er, vr, aPow := num0, disclosed := ds, inv, knownC, ae, sv, hidden := ts
          a_eq := deref_ok ha, c_eq := deref_ok hc, eResponse_eq := deref_ok her,
          vResponse_eq := deref_ok hvr, aPow_eq := deref_ok hnum0, disclosed_factors := hds,
          inv_eq := hinv, knownC_eq := h1, ae_eq := h2, sv_eq := h3, hidden_factors := hf,
          z_eq := rfl }⟩
    · cases h

/-! ### hash inputs and explicit collisions -/

/-- the byte string hashed by `createChallenge ctx nonce cs issig`. -/
def challengeInput (ctx nonce : Int) (cs : List Int) (issig : Bool) : List UInt8 :=
  hashCommitInput (ctx :: cs ++ [nonce]) issig

/-- an explicit SHA-256 collision: the two given byte strings differ and hash alike. -/
def Collision (a b : List UInt8) : Prop := a ≠ b ∧ Sha256.hash a = Sha256.hash b

theorem Collision.symm {a b : List UInt8} (h : Collision a b) : Collision b a :=
  ⟨fun e => h.1 e.symm, h.2.symm⟩

/-! ### the contribution of a single proof as a total function -/

/-- the contribution of a single disclosure proof as a total function (`[]` on failure). -/
def ProofD.contribution (o : SigOracle) (kid : String) (pk : PublicKey) (p : ProofD) (pick : Int) :
    List Int :=
  match (p.challengeContribution o kid pk pick).run with
  | .ok (some (cs, _)) => cs
  | _ => []

/-- the contribution of a single issuance commitment proof (`[]` on failure). -/
def ProofU.contribution (pk : PublicKey) (p : ProofU) : List Int :=
  match p.challengeContribution pk with
  | .ok (some cs) => cs
  | _ => []

end Gabi

/-! ### a concrete accepted list (non-vacuity of the acceptance hypotheses)

  Two valid issuance commitment proofs for `U = 1` under a toy key (`n = 253 = 11·23`). The
  challenge `C` is the real hash of the session but stays symbolic, so that nothing is evaluated
  through SHA-256 in the kernel: `U^{-C} = 1` for every `C`. -/

namespace Gabi.Ex

def pk : PublicKey :=
  { n := 253, z := 4, s := 9, g := none, h := none, r := [16, 25], counter := 0,
    params := SysParams.ofBase toyBase, hasEcdsa := false, issuer := "toy" }

def noOracle : SigOracle := fun _ _ => none

theorem inv1 : goModInverse 1 253 = some 1 := by
  cases h : goModInverse 1 253 with
  | none =>
    have := (goModInverse_none_iff 1 253 (by norm_num)).1 h
    exact absurd (by decide) this
  | some inv =>
    obtain ⟨h0, h1, h2⟩ := goModInverse_some h
    simp at h1 h2
    congr 1
    omega

theorem modPow_one_neg (C : Nat) : modPow 1 (-(C : Int)) 253 = some 1 := by
  unfold modPow
  cases C with
  | zero => rw [goExp_nonneg 1 _ 253 (by norm_num) (by simp)]; simp
  | succ k =>
    rw [goExp_neg 1 _ 253 (by norm_num) (by omega), inv1]
    simp

theorem modPow_zero (b : Int) : modPow b 0 253 = some 1 := by
  unfold modPow; rw [goExp_nonneg _ _ _ (by norm_num) (by norm_num)]; norm_num

theorem modPow_s55 : modPow 9 55 253 = some 1 := by
  unfold modPow; rw [goExp_nonneg _ _ _ (by norm_num) (by norm_num)]
  have : Int.toNat 55 = 55 := rfl
  rw [this]; norm_num

/-- a (trivial but valid) issuance commitment proof for `U = 1 = S^0·R₀^0`, resp. `S^55·R₀^0`
    (`S = 9` has order dividing 55 modulo 253), with challenge `C`. -/
def proofU (C : Nat) (vp : Int) : ProofU :=
  { u := some 1, c := some (C : Int), vPrimeResponse := some vp, sResponse := some 0,
    mUserResponses := [] }

theorem contrib (C : Nat) (vp : Int) (hvp : modPow 9 vp 253 = some 1) :
    (proofU C vp).challengeContribution pk = .ok (some [1, 1]) := by
  have hr : (proofU C vp).reconstructUcommit pk = .ok (some 1) := by
    unfold ProofU.reconstructUcommit
    simp only [proofU, deref_some, GoM.ok_bind, show idx "R[0]" pk.r 0 = .ok 16 from rfl,
      show pk.n = 253 from rfl, show pk.s = 9 from rfl, modPow_one_neg, hvp, modPow_zero]
    rfl
  unfold ProofU.challengeContribution
  rw [hr]
  rfl

theorem verifyU (C : Nat) (vp : Int) (h0 : 0 ≤ vp) (h1 : vp ≤ 55) :
    (proofU C vp).verifyWithChallenge pk (C : Int) = .ok true := by
  have hM : vp ≤ 2 ^ (pk.params.LvPrimeCommit + 1) - 1 :=
    h1.trans (Int.le_sub_one_of_lt (lt_of_lt_of_le (by norm_num : (55 : Int) < 2 ^ 6)
      (pow_le_pow_right₀ (by norm_num) (by decide))))
  unfold ProofU.verifyWithChallenge ProofU.correctResponseSizes
  rw [show (proofU C vp).wellFormed pk = true from rfl]
  simp only [proofU, deref_some, GoM.ok_bind, h0, hM, decide_true]
  rfl

/-- the challenge of the example session. -/
def C : Nat := createChallenge 1 2 [1, 1, 1, 1] false

def pl : List Proof := [.u (proofU C 0), .u (proofU C 55)]
def keys : List (String × PublicKey) := [("k", pk), ("k", pk)]
def choices : List (Int × Int) := [(-1, -1), (-1, -1)]

theorem contribOne_proofU (C : Nat) (vp : Int) (hvp : modPow 9 vp 253 = some 1) :
    contribOne noOracle ((.u (proofU C vp), "k", pk), (-1, -1)) =
      .ok (some ([1, 1], .u (proofU C vp))) := by
  rw [contribOne, contrib C vp hvp]; rfl

/-- any two of the example proofs, in any order. -/
theorem accepted_pair (a b : Int) (ha : modPow 9 a 253 = some 1) (hb : modPow 9 b 253 = some 1)
    (ha0 : 0 ≤ a) (ha1 : a ≤ 55) (hb0 : 0 ≤ b) (hb1 : b ≤ 55)
    (kss : List String) (hk : kss = [] ∨ kss.length = 2) :
    proofListVerifyWith noOracle keys [.u (proofU C a), .u (proofU C b)] 1 2 false kss choices =
      .ok true := by
  rw [accepted_iff]
  refine ⟨⟨nofun, rfl, hk⟩, [([1, 1], .u (proofU C a)), ([1, 1], .u (proofU C b))], ?_, ?_, ?_⟩
  · exact .cons (contribOne_proofU C a ha) (.cons (contribOne_proofU C b hb) .nil)
  · exact List.forall_mem_cons.2
      ⟨verifyU C a ha0 ha1, List.forall_mem_cons.2 ⟨verifyU C b hb0 hb1, fun _ h => nomatch h⟩⟩
  · exact Linked.of_const (v := 0) (fun _ h => nomatch h)
      (List.forall_mem_cons.2 ⟨rfl, List.forall_mem_cons.2 ⟨rfl, fun _ h => nomatch h⟩⟩)

theorem accepted (kss : List String) (hk : kss = [] ∨ kss.length = 2) :
    proofListVerifyWith noOracle keys pl 1 2 false kss choices = .ok true :=
  accepted_pair 0 55 (modPow_zero 9) modPow_s55 (by norm_num) (by norm_num) (by norm_num) (by norm_num)
    kss hk

theorem contributions : listContributions noOracle keys pl choices = [1, 1, 1, 1] := by
  show [contributionOf noOracle _, contributionOf noOracle _].flatten = _
  rw [contributionOf_of_ok (contribOne_proofU C 0 (modPow_zero 9)),
    contributionOf_of_ok (contribOne_proofU C 55 modPow_s55)]
  rfl

end Gabi.Ex
