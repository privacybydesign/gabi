/-
  GabiProofs.IssuanceLemmas — the issuance sub-proofs of the model (`ProofS`, `ProofU`,
  `CredBuilder`) in the unit group of `ZMod n`: the products over the key's bases, the two product
  loops (`foldlM_mod_spec`, also used for `DisclosureProofBuilder.Commit`, and `foldlM_nomod_spec`),
  `userCommitment` and `CredentialBuilder.Commit` as unit-group expressions, and completeness of
  `ProofU` up to the size check (`createProof_reconstructs`).
-/
import GabiModel.Prover
import GabiProofs.CLLemmas
import GabiProofs.DerLemmas
import GabiProofs.Params
namespace Gabi
variable {n : ℕ}

/-! ### ProofS -/

theorem proofS_verify_eq (pk : PublicKey) (ps : ProofS) (sg : CLSignature) (ctx nonce : Int)
    {x q : Int} (hx : goExp sg.a (ps.c + ps.eResponse * sg.e) pk.n = some x)
    (hq : goExp sg.a sg.e pk.n = some q) :
    ps.verify pk sg ctx nonce =
      .ok (decide (ps.c = hashCommit [ctx, q, sg.a, nonce, x] false)) := by
  simp only [ProofS.verify, hx, hq, deref_some, GoM.ok_bind]
  rfl

/-! ### products over the key's bases and the product loops -/

/-- the unit of the base with (signed) index `i`. -/
noncomputable def baseU (n : ℕ) (bases : List Int) (i : Int) : (ZMod n)ˣ :=
  zunit n (bases.getD i.toNat 0)

/-- `∏_{kv ∈ L} R_{kv.1} ^ f kv`. -/
noncomputable def repKV (n : ℕ) (bases : List Int) (f : Int × Int → Int) (L : List (Int × Int)) :
    (ZMod n)ˣ :=
  Alg.rep (fun kv : Int × Int => baseU n bases kv.1) f L

theorem baseU_zpow_eq_one {bases : List Int} {k : ℤ} (h : ∀ b ∈ bases, zunit n b ^ k = 1) {i : Int}
    (hi : i.toNat < bases.length) : baseU n bases i ^ k = 1 := by
  rw [baseU, List.getD_eq_getElem?_getD, List.getElem?_eq_getElem hi, Option.getD_some]
  exact h _ (List.getElem_mem hi)

theorem repKV_nil (bases : List Int) (f : Int × Int → Int) : repKV n bases f [] = 1 := rfl

theorem repKV_cons (bases : List Int) (f : Int × Int → Int) (kv : Int × Int) (L : List (Int × Int)) :
    repKV n bases f (kv :: L) = baseU n bases kv.1 ^ f kv * repKV n bases f L :=
  Alg.rep_cons _ _ _ _

/-- the unit of the base at position `j`. -/
noncomputable def baseN (n : ℕ) (bases : List Int) (j : ℕ) : (ZMod n)ˣ := zunit n (bases.getD j 0)

theorem repU_eq_range (lm : ℕ) (bases es : List Int) (h : es.length ≤ bases.length) :
    repU n lm bases es =
      Alg.rep (baseN n bases) (fun j => attrExp lm (es.getD j 0)) (List.range es.length) := by
  induction es generalizing bases with
  | nil => simp [repU_nil_right]
  | cons e es ih =>
    cases bases with
    | nil => simp at h
    | cons b bs =>
      rw [repU_cons, ih bs (by simpa using h), List.length_cons, List.range_succ_eq_map,
        Alg.rep_cons, Alg.rep_map]
      rfl

theorem idx_base (hn : 1 < n) (bases : List Int) (hb : ∀ b ∈ bases, IsUnit (b : ZMod n))
    (what : String) (i : Int) (h0 : 0 ≤ i) (h1 : i < bases.length) (y : Int) :
    ∃ b t, idx what bases i = .ok b ∧ goExp b y n = some t ∧ 0 ≤ t ∧ t < n ∧
      (t : ZMod n) = ((baseU n bases i ^ y : (ZMod n)ˣ) : ZMod n) := by
  obtain ⟨b, hb1, hb2⟩ := idx_eq_getElem? what h0 h1
  have hmem : b ∈ bases := List.mem_of_getElem? hb2
  obtain ⟨t, ht, t0, t1, tc⟩ := goExp_unit hn (hb b hmem) y
  refine ⟨b, t, hb1, ht, t0, t1, ?_⟩
  rw [tc, baseU, List.getD_eq_getElem?_getD, hb2, Option.getD_some]

/-- the reducing product loop of `CredentialBuilder.Commit` and `DisclosureProofBuilder.Commit`:
    each element `a` contributes `R_{key a} ^ f a`. -/
theorem foldlM_mod_spec {α : Type} (hn : 1 < n) (bases : List Int)
    (hb : ∀ b ∈ bases, IsUnit (b : ZMod n)) (what what' : String) (key f : α → Int) :
    ∀ (L : List α) (z0 : Int) (u : (ZMod n)ˣ),
      (∀ a ∈ L, 0 ≤ key a ∧ key a < bases.length) → 0 ≤ z0 → z0 < n → (z0 : ZMod n) = (u : ZMod n) →
      ∃ z, L.foldlM (fun (z : Int) (a : α) => do
          let b ← idx what bases (key a)
          let t ← deref what' (goExp b (f a) n)
          pure (z * t % n)) z0 = (.ok z : GoM Int) ∧ 0 ≤ z ∧ z < n ∧
        (z : ZMod n) = ((u * Alg.rep (fun a => baseU n bases (key a)) f L : (ZMod n)ˣ) : ZMod n) := by
  intro L z0 u hL h0 h1 hc
  refine (foldlM_rep (fun a => baseU n bases (key a)) f (fun z => 0 ≤ z ∧ z < n) _ L ?_ z0 u
    ⟨h0, h1⟩ hc).imp fun z h => ⟨h.1, h.2.1.1, h.2.1.2, h.2.2⟩
  intro a ha z u _ hc
  obtain ⟨b, t, hb1, ht, _, _, tc⟩ := idx_base hn bases hb what (key a) (hL a ha).1 (hL a ha).2 (f a)
  obtain ⟨m0, m1, mc⟩ := mul_emod_unit (by omega : 0 < n) hc tc
  exact ⟨_, by rw [hb1, GoM.ok_bind, ht]; rfl, ⟨m0, m1⟩, mc⟩

/-- the non-reducing product loop of `userCommitment`. -/
theorem foldlM_nomod_spec (hn : 1 < n) (bases : List Int) (hb : ∀ b ∈ bases, IsUnit (b : ZMod n))
    (what what' : String) (f : Int × Int → Int) (L : List (Int × Int)) (z0 : Int) (u : (ZMod n)ˣ)
    (hL : ∀ kv ∈ L, 0 ≤ kv.1 ∧ kv.1 < bases.length) (hc : (z0 : ZMod n) = (u : ZMod n)) :
    ∃ z, L.foldlM (fun (z : Int) (kv : Int × Int) => do
        let b ← idx what bases kv.1
        let t ← deref what' (goExp b (f kv) n)
        pure (z * t)) z0 = (.ok z : GoM Int) ∧
      (z : ZMod n) = ((u * repKV n bases f L : (ZMod n)ˣ) : ZMod n) := by
  refine (foldlM_rep (fun kv : Int × Int => baseU n bases kv.1) f (fun _ => True) _ L ?_ z0 u
    trivial hc).imp fun z h => ⟨h.1, h.2.2⟩
  intro kv hkv z u _ hc
  obtain ⟨b, t, hb1, ht, _, _, tc⟩ := idx_base hn bases hb what kv.1 (hL kv hkv).1 (hL kv hkv).2 (f kv)
  exact ⟨_, by rw [hb1, GoM.ok_bind, ht]; rfl, trivial, mul_unit hc tc⟩

/-! ### the user commitment and ProofU -/

theorem userCommitment_spec (pk : PublicKey) (secret vPrime : Int) (mUser : List (Int × Int))
    (hN : pk.n = n) (hn : 1 < n)
    (hs : IsUnit (pk.s : ZMod n)) (hr : ∀ x ∈ pk.r, IsUnit (x : ZMod n)) (hr0 : pk.r ≠ [])
    (hkeys : ∀ kv ∈ mUser, 0 ≤ kv.1 ∧ kv.1 < pk.r.length) :
    ∃ U, userCommitment pk secret vPrime mUser none = .ok U ∧ 0 ≤ U ∧ U < n ∧
      (U : ZMod n) = ((zunit n pk.s ^ vPrime * baseU n pk.r 0 ^ secret *
        repKV n pk.r (fun kv => kv.2) mUser : (ZMod n)ˣ) : ZMod n) := by
  have hlen : (0 : Int) < pk.r.length := Int.natCast_pos.mpr (List.length_pos_iff.mpr hr0)
  obtain ⟨r0, r0s, hr0i, hr0s, _, _, r0c⟩ := idx_base hn pk.r hr "R[0]" 0 (le_refl _) hlen secret
  obtain ⟨sv, hsv, _, _, svc⟩ := goExp_unit hn hs vPrime
  obtain ⟨z, hz, zc⟩ := foldlM_nomod_spec hn pk.r hr "R[i]" "Exp" (fun kv => kv.2) mUser
    (sv * r0s) _ hkeys (mul_unit svc r0c)
  refine ⟨z % n, ?_, (emod_range (by omega) _).1, (emod_range (by omega) _).2, by rw [ZMod.intCast_mod, zc]⟩
  unfold userCommitment
  simp only [hN, hr0i, hsv, hr0s, hz, deref_some, GoM.ok_bind]
  rfl

theorem userCommitment_some (pk : PublicKey) (secret vPrime : Int) (mUser : List (Int × Int))
    (p : Int) :
    userCommitment pk secret vPrime mUser (some p) =
      (fun U0 => U0 * p % pk.n) <$> userCommitment pk secret vPrime mUser none := by
  simp only [userCommitment, map_bind, map_pure]

theorem userCommitment_spec_ks (pk : PublicKey) (secret vPrime : Int) (mUser : List (Int × Int))
    (kp : Option Int) (hN : pk.n = n) (hn : 1 < n)
    (hs : IsUnit (pk.s : ZMod n)) (hr : ∀ x ∈ pk.r, IsUnit (x : ZMod n)) (hr0 : pk.r ≠ [])
    (hkeys : ∀ kv ∈ mUser, 0 ≤ kv.1 ∧ kv.1 < pk.r.length)
    (hp : ∀ p, kp = some p → IsUnit (p : ZMod n)) :
    ∃ U, userCommitment pk secret vPrime mUser kp = .ok U ∧ 0 ≤ U ∧ U < n ∧
      (U : ZMod n) = ((zunit n pk.s ^ vPrime * baseU n pk.r 0 ^ secret *
        repKV n pk.r (fun kv => kv.2) mUser * keyshareU n kp : (ZMod n)ˣ) : ZMod n) := by
  obtain ⟨U0, h0, a0, a1, ac⟩ := userCommitment_spec pk secret vPrime mUser hN hn hs hr hr0 hkeys
  cases kp with
  | none => exact ⟨U0, h0, a0, a1, by rw [ac, keyshareU, mul_one]⟩
  | some p =>
    rw [userCommitment_some, h0, hN]
    exact ⟨_, rfl, mul_emod_unit (by omega) ac (zunit_val (hp p rfl)).symm⟩

theorem userCommitment_unit_zpow {k : ℤ} (pk : PublicKey) (secret vPrime : Int)
    (mUser : List (Int × Int)) (kp : Option Int) (oS : zunit n pk.s ^ k = 1)
    (oR : ∀ b ∈ pk.r, zunit n b ^ k = 1) (oK : keyshareU n kp ^ k = 1) (hr0 : pk.r ≠ [])
    (hkeys : ∀ kv ∈ mUser, 0 ≤ kv.1 ∧ kv.1 < pk.r.length) :
    (zunit n pk.s ^ vPrime * baseU n pk.r 0 ^ secret * repKV n pk.r (fun kv => kv.2) mUser *
      keyshareU n kp) ^ k = 1 := by
  have oB0 : baseU n pk.r 0 ^ k = 1 := baseU_zpow_eq_one oR (List.length_pos_iff.mpr hr0)
  have oKV : repKV n pk.r (fun kv => kv.2) mUser ^ k = 1 :=
    Alg.rep_zpow_eq_one _ _ _ _ fun kv hm => baseU_zpow_eq_one oR (by have := hkeys kv hm; omega)
  rw [mul_zpow, mul_zpow, mul_zpow, Alg.zpow_zpow_eq_one oS, Alg.zpow_zpow_eq_one oB0, oKV, oK, mul_one,
    mul_one, mul_one]

theorem commit_spec (pk : PublicKey) (b : CredBuilder) (skR : Int)
    (hN : pk.n = n) (hn : 1 < n)
    (hs : IsUnit (pk.s : ZMod n)) (hr : ∀ x ∈ pk.r, IsUnit (x : ZMod n)) (hr0 : pk.r ≠ [])
    (hkeys : ∀ kv ∈ b.mUser, 0 ≤ kv.1 ∧ kv.1 < pk.r.length) :
    ∃ Ut, b.commit pk skR = .ok [b.u, Ut] ∧ 0 ≤ Ut ∧ Ut < n ∧
      (Ut : ZMod n) = ((zunit n pk.s ^ b.vPrimeCommit * baseU n pk.r 0 ^ skR *
        repKV n pk.r (fun kv => (b.mUserCommit.lookup kv.1).getD 0) b.mUser : (ZMod n)ˣ) : ZMod n) := by
  have hlen : (0 : Int) < pk.r.length := Int.natCast_pos.mpr (List.length_pos_iff.mpr hr0)
  obtain ⟨r0, r0s, hr0i, hr0s, _, _, r0c⟩ := idx_base hn pk.r hr "R[0]" 0 (le_refl _) hlen skR
  obtain ⟨sv, hsv, _, _, svc⟩ := goExp_unit hn hs b.vPrimeCommit
  obtain ⟨m0, m1, mc⟩ := mul_emod_unit (by omega : 0 < n) ((one_mul sv).symm ▸ svc) r0c
  obtain ⟨z, hz, z0, z1, zc⟩ := foldlM_mod_spec hn pk.r hr "R[i]" "Exp" (·.1)
    (fun kv => (b.mUserCommit.lookup kv.1).getD 0) b.mUser _ _ hkeys m0 m1 mc
  refine ⟨z, ?_, z0, z1, zc⟩
  unfold CredBuilder.commit
  simp only [hN, hr0i, hsv, hr0s, hz, deref_some, GoM.ok_bind, Option.getD_none]
  rfl

theorem reconstructUcommit_go_nil (pk : PublicKey) (acc : Int) :
    ProofU.reconstructUcommit.go pk [] acc = .ok (some acc) := rfl

theorem reconstructUcommit_go_cons (pk : PublicKey) (i : Int) (r : Option Int) (rest : IntMap) (acc : Int) :
    ProofU.reconstructUcommit.go pk ((i, r) :: rest) acc =
      (idx "R[i]" pk.r i >>= fun b => deref "MUserResponse" r >>= fun r =>
        match modPow b r pk.n with
        | some t => ProofU.reconstructUcommit.go pk rest (acc * t % pk.n)
        | none => pure none) := rfl

/-- on responses that are all present, the loop of `ProofU.reconstructUcommit` is the reducing
    product loop. -/
theorem reconstructUcommit_go_of_foldlM (pk : PublicKey) {m : Int} (hN : pk.n = m)
    (g : Int × Int → Int) (L : List (Int × Int)) (z0 z : Int)
    (h : L.foldlM (fun (z : Int) (kv : Int × Int) => do
        let b ← idx "R[i]" pk.r kv.1
        let t ← deref "Exp" (goExp b (g kv) m)
        pure (z * t % m)) z0 = .ok z) :
    ProofU.reconstructUcommit.go pk (L.map fun kv => (kv.1, some (g kv))) z0 = .ok (some z) := by
  induction L generalizing z0 with
  | nil => rw [GoM.pure_ok h]; rfl
  | cons kv L ih =>
    rw [List.foldlM_cons] at h
    obtain ⟨z', hz', h⟩ := GoM.bind_ok h
    obtain ⟨b, hb, hz'⟩ := GoM.bind_ok hz'
    obtain ⟨t, ht, hz'⟩ := GoM.bind_ok hz'
    rw [List.map_cons, reconstructUcommit_go_cons, hb, GoM.ok_bind, deref_some, GoM.ok_bind, modPow,
      hN, deref_ok ht]
    obtain rfl := GoM.pure_ok hz'
    exact ih _ h

theorem createProof_reconstructUcommit (pk : PublicKey) (b : CredBuilder) (skR c : Int)
    (U : (ZMod n)ˣ) (hN : pk.n = n) (hn : 1 < n)
    (hs : IsUnit (pk.s : ZMod n)) (hr : ∀ x ∈ pk.r, IsUnit (x : ZMod n)) (hr0 : pk.r ≠ [])
    (hkeys : ∀ kv ∈ b.mUser, 0 ≤ kv.1 ∧ kv.1 < pk.r.length) (hU : (b.u : ZMod n) = (U : ZMod n)) :
    ∃ z, (b.createProof skR c).reconstructUcommit pk = .ok (some z) ∧ 0 ≤ z ∧ z < n ∧
      (z : ZMod n) = ((U ^ (-c) * zunit n pk.s ^ (b.vPrimeCommit + c * b.vPrime) *
        baseU n pk.r 0 ^ (skR + c * b.secret) *
        repKV n pk.r (fun kv => (b.mUserCommit.lookup kv.1).getD 0 + c * kv.2) b.mUser :
          (ZMod n)ˣ) : ZMod n) := by
  have hlen : (0 : Int) < pk.r.length := Int.natCast_pos.mpr (List.length_pos_iff.mpr hr0)
  obtain ⟨r0, r0s, hr0i, hr0s, _, _, r0c⟩ :=
    idx_base hn pk.r hr "R[0]" 0 (le_refl _) hlen (skR + c * b.secret)
  obtain ⟨sv, hsv, _, _, svc⟩ := goExp_unit hn hs (b.vPrimeCommit + c * b.vPrime)
  obtain ⟨uc, huc, _, _, ucc⟩ := goExp_unit hn (isUnit_of_cast hU) (-c)
  rw [zunit_of_cast hU] at ucc
  obtain ⟨m0, m1, mc⟩ := mul_emod_unit (by omega : 0 < n) (mul_unit ucc svc) r0c
  obtain ⟨z, hz, z0, z1, zc⟩ := foldlM_mod_spec hn pk.r hr "R[i]" "Exp" (·.1)
    (fun kv => (b.mUserCommit.lookup kv.1).getD 0 + c * kv.2) b.mUser _ _ hkeys m0 m1 mc
  refine ⟨z, ?_, z0, z1, zc⟩
  unfold ProofU.reconstructUcommit
  simp only [CredBuilder.createProof, hN, hr0i, modPow, huc, hsv, hr0s, deref_some, GoM.ok_bind]
  exact reconstructUcommit_go_of_foldlM pk hN _ _ _ _ hz

/-- completeness of `ProofU` up to the size check: for every challenge the verifier recomputes from
    the builder's proof the `Ũ` that `Commit` returned (`Alg.proofU_complete` on the model). -/
theorem createProof_reconstructs (pk : PublicKey) (b : CredBuilder) (skR : Int)
    (hN : pk.n = n) (hn : 1 < n)
    (hs : IsUnit (pk.s : ZMod n)) (hr : ∀ x ∈ pk.r, IsUnit (x : ZMod n)) (hr0 : pk.r ≠ [])
    (hkeys : ∀ kv ∈ b.mUser, 0 ≤ kv.1 ∧ kv.1 < pk.r.length)
    (hU : userCommitment pk b.secret b.vPrime b.mUser none = .ok b.u) :
    ∃ Ut, b.commit pk skR = .ok [b.u, Ut] ∧
      ∀ c, (b.createProof skR c).reconstructUcommit pk = .ok (some Ut) := by
  obtain ⟨U, hU', _, _, Uc⟩ := userCommitment_spec pk b.secret b.vPrime b.mUser hN hn hs hr hr0 hkeys
  obtain rfl := Except.ok.inj (hU.symm.trans hU')
  obtain ⟨Ut, hUt, Ut0, Ut1, Utc⟩ := commit_spec pk b skR hN hn hs hr hr0 hkeys
  refine ⟨Ut, hUt, fun c => ?_⟩
  obtain ⟨z, hz, z0, z1, zc⟩ := createProof_reconstructUcommit pk b skR c _ hN hn hs hr hr0 hkeys Uc
  have hzU : z = Ut := by
    apply eq_of_cast_eq z0 z1 Ut0 Ut1
    rw [zc, Utc]
    exact congrArg Units.val
      (Alg.proofU_complete (fun kv : Int × Int => baseU n pk.r kv.1) b.mUser (fun kv => kv.2) _)
  rw [hz, hzU]

theorem createProof_wellFormed (pk : PublicKey) (b : CredBuilder) (skR c : Int) (hr0 : pk.r ≠ [])
    (hkeys : ∀ kv ∈ b.mUser, 1 ≤ kv.1 ∧ kv.1 < pk.r.length) :
    (b.createProof skR c).wellFormed pk = true := by
  have h1 : pk.r.isEmpty = false := by
    cases hpr : pk.r with
    | nil => exact absurd hpr hr0
    | cons _ _ => rfl
  simp only [ProofU.wellFormed, CredBuilder.createProof, h1, Option.isSome_some, Bool.not_false,
    Bool.true_and, List.all_map, List.all_eq_true, Function.comp, Bool.and_eq_true,
    decide_eq_true_eq]
  intro kv hkv
  exact ⟨(hkeys kv hkv).1, (hkeys kv hkv).2⟩

end Gabi
