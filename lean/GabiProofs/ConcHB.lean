/-
  GabiProofs.ConcHB — lemmas of the happens-before calculus of GabiModel.Conc.HB:
  * accesses inside critical sections of one mutex are ordered (`hb_of_prot`), accesses on the two
    sides of a one-shot token are ordered (`token_order`); a skeleton in which every conflicting
    pair is covered by one of the two has only race-free executions (`raceFree_of_discipline`);
  * fork–join skeletons meet that discipline as soon as the children's conflicting accesses are
    protected by a common mutex (`forkJoin_race_free`), in particular when the children have no
    conflicting accesses (`forkJoin_race_free_of_no_conflict`);
  * the executable checks `conformsB`, `wfB` are sound;
  * a conflicting access from which no edge leaves exhibits a race (`not_raceFree_of_isolated`).
-/
import GabiModel.Conc.HB
import GabiProofs.ConcLists
import Mathlib.Tactic.SplitIfs
import Mathlib.Tactic.ByContra
namespace Gabi.Conc.HB

/-! ### edges, conflicts, conforming executions -/

theorem edge_po {e : Exec} {i j : Nat} {a b : Event} (hij : i < j) (ha : e[i]? = some a)
    (hb : e[j]? = some b) (ht : a.tid = b.tid) : Edge e i j :=
  ⟨hij, a, b, ha, hb, by simp [edgeB, ht]⟩

theorem edge_sync {e : Exec} {i j : Nat} {a b : Event} (hij : i < j) (ha : e[i]? = some a)
    (hb : e[j]? = some b) (hs : syncs a.act b.act = true) : Edge e i j :=
  ⟨hij, a, b, ha, hb, by simp [edgeB, hs]⟩

/-- program order, one synchronisation, program order. -/
theorem hb_chain3 {e : Exec} {i r k j : Nat} (h1 : Edge e i r) (h2 : Edge e r k) (h3 : Edge e k j) :
    HB e i j :=
  .tail (.tail (.single h1) h2) h3

theorem conflict_comm (a b : Act) : conflict a b = conflict b a := by
  cases a <;> cases b <;> first | rfl | exact Bool.beq_comm

theorem conflict_not_tok {a b : Act} (h : conflict a b = true) :
    a.isTok = false ∧ b.isTok = false := by
  have left : ∀ {a b : Act}, conflict a b = true → a.isTok = false := by
    intro a b h; cases a <;> first | rfl | (cases b <;> cases h)
  exact ⟨left h, left (conflict_comm a b ▸ h)⟩

theorem Conforms.lt_of_pc_lt {prog : Prog} {e : Exec} (hc : Conforms prog e) {i j : Nat}
    {a b : Event} (ha : e[i]? = some a) (hb : e[j]? = some b) (ht : a.tid = b.tid)
    (hp : a.pc < b.pc) : i < j := by
  rcases Nat.lt_trichotomy i j with h | h | h
  · exact h
  · subst h; rw [ha] at hb; cases hb; omega
  · have := hc.mono j i b a h hb ha ht.symm; omega

theorem Conforms.inj {prog : Prog} {e : Exec} (hc : Conforms prog e) {i j : Nat} {a b : Event}
    (ha : e[i]? = some a) (hb : e[j]? = some b) (ht : a.tid = b.tid) (hp : a.pc = b.pc) : i = j := by
  rcases Nat.lt_trichotomy i j with h | h | h
  · have := hc.mono i j a b h ha hb ht; omega
  · exact h
  · have := hc.mono j i b a h hb ha ht.symm; omega

/-- the event that executed an earlier program point of the thread of `y`, with its action. -/
theorem Conforms.earlier {prog : Prog} {e : Exec} (hc : Conforms prog e) {j p : Nat} {y : Event}
    {a : Act} (hy : e[j]? = some y) (hp : p < y.pc) (ha : (prog y.tid)[p]? = some a) :
    ∃ (i : Nat) (x : Event), i < j ∧ e[i]? = some x ∧ x.tid = y.tid ∧ x.pc = p ∧ x.act = a := by
  obtain ⟨i, x, hij, hx, hxt, hxp⟩ := hc.prefixClosed j y hy p hp
  have := hc.act i x hx
  rw [hxt, hxp, ha] at this
  exact ⟨i, x, hij, hx, hxt, hxp, (Option.some.inj this).symm⟩

/-! ### critical sections -/

/-- `x` is inside a critical section of `m` entered at event `l0`; another thread locks `m` at a
    later event `l1`: in between, after `x`, the thread of `x` has unlocked `m`. -/
theorem unlock_between {prog : Prog} {e : Exec} (hc : Conforms prog e) (hw : WF e) {i l0 l1 : Nat}
    {x lx ly : Event} {m : Nat} (hx : e[i]? = some x) (hlx : e[l0]? = some lx)
    (hly : e[l1]? = some ly) (hlt : lx.tid = x.tid) (hla : lx.act = .lock m)
    (hlya : ly.act = .lock m) (h : l0 < l1)
    (hu : ∀ b, lx.pc < b → (prog x.tid)[b]? = some (.unlock m) → x.pc < b) :
    ∃ (u : Nat) (c : Event),
      i < u ∧ u < l1 ∧ e[u]? = some c ∧ c.tid = x.tid ∧ c.act = .unlock m := by
  obtain ⟨u, c, hl0u, hul1, hcu, hct, hca⟩ := hw.mutex l0 l1 lx ly m h hlx hly hla hlya
  have hctx : c.tid = x.tid := hct.trans hlt
  have hcprog := hc.act u c hcu
  rw [hctx, hca] at hcprog
  have hpc : x.pc < c.pc := hu c.pc (hc.mono l0 u lx c hl0u hlx hcu hct.symm) hcprog
  exact ⟨u, c, hc.lt_of_pc_lt hx hcu hctx.symm hpc, hul1, hcu, hctx, hca⟩

/-- accesses of different threads inside critical sections of the same mutex are ordered by
    happens-before, in the order in which they occur. -/
theorem hb_of_prot {prog : Prog} {e : Exec} (hc : Conforms prog e) (hw : WF e) {i j : Nat}
    {x y : Event} {m : Nat} (hij : i < j) (hx : e[i]? = some x) (hy : e[j]? = some y)
    (hne : x.tid ≠ y.tid)
    (px : Prot (prog x.tid) m x.pc) (py : Prot (prog y.tid) m y.pc) : HB e i j := by
  obtain ⟨a, hap, hla, hua⟩ := px
  obtain ⟨a', hap', hla', hua'⟩ := py
  obtain ⟨l0, lx, hl0i, hlx, hlxt, rfl, hlxa⟩ := hc.earlier hx hap hla
  obtain ⟨l1, ly, hl1j, hly, hlyt, rfl, hlya⟩ := hc.earlier hy hap' hla'
  have hl01 : l0 ≠ l1 := by
    rintro rfl; rw [hlx] at hly; cases hly; exact hne (hlxt.symm.trans hlyt)
  rcases Nat.lt_or_gt_of_ne hl01 with h | h
  · -- x's section was entered first: its unlock precedes y's lock
    obtain ⟨u, c, hiu, hul1, hcu, hct, hca⟩ := unlock_between hc hw hx hlx hly hlxt hlxa hlya h hua
    exact hb_chain3 (edge_po hiu hx hcu hct.symm)
      (edge_sync hul1 hcu hly (by simp [hca, hlya, syncs])) (edge_po hl1j hly hy hlyt)
  · -- otherwise y's unlock, hence y itself, would precede x's lock
    obtain ⟨u, c, hju, hul0, _⟩ := unlock_between hc hw hy hly hlx hlyt hlya hlxa h hua'
    omega

/-- a critical section stays one when the body is embedded in a longer program. -/
theorem Prot.cons_append {l : List Act} {m p : Nat} (h : Prot l m p) (c : Act) {r : List Act}
    (hr : Act.unlock m ∉ r) : Prot (c :: (l ++ r)) m (p + 1) := by
  obtain ⟨a, hap, hla, hua⟩ := h
  refine ⟨a + 1, by omega, ?_, ?_⟩
  · rw [List.getElem?_cons_succ]; exact getElem?_append_of_getElem? hla r
  · intro b hab hb
    obtain ⟨b, rfl⟩ : ∃ b', b = b' + 1 := ⟨b - 1, by omega⟩
    rw [List.getElem?_cons_succ, List.getElem?_append] at hb
    split at hb
    · have := hua b (by omega) hb; omega
    · exact absurd (List.mem_of_getElem? hb) hr

/-- in a body that is one critical section, every access is protected. -/
theorem prot_section {m : Nat} {cs : List Act} (hcs : Act.unlock m ∉ cs) {p : Nat} {a b : Act}
    (h : (Act.lock m :: (cs ++ [Act.unlock m]))[p]? = some a) (hc : conflict a b = true) :
    Prot (Act.lock m :: (cs ++ [Act.unlock m])) m p := by
  cases p with
  | zero => cases Option.some.inj h; cases b <;> cases hc
  | succ q =>
    rw [List.getElem?_cons_succ, List.getElem?_append, List.getElem?_singleton] at h
    split_ifs at h with hq hq'
    · refine ⟨0, by omega, rfl, fun r hr hu => ?_⟩
      obtain ⟨r, rfl⟩ : ∃ r', r = r' + 1 := ⟨r - 1, by omega⟩
      rw [List.getElem?_cons_succ, List.getElem?_append] at hu
      split at hu
      · exact absurd (List.mem_of_getElem? hu) hcs
      · omega
    · cases Option.some.inj h; cases b <;> cases hc

/-! ### ordering through a one-shot token -/

/-- program point (t, p) lies before the only release of some token, of which thread u has
    performed an acquire before its program point q. -/
def TokOrd (prog : Prog) (t p u q : Nat) : Prop :=
  ∃ o a b, (∀ t' p', (prog t')[p']? = some (Act.rel o) → t' = t ∧ p' = a) ∧ p < a ∧
    (prog u)[b]? = some (Act.acq o) ∧ b < q

/-- two events of an execution whose program points are related by `TokOrd`: the one before the
    release occurred first and happens before the one after the acquire (program order to the
    release, release → acquire, program order from the acquire). -/
theorem token_order {prog : Prog} {e : Exec} (hc : Conforms prog e) (hw : WF e) {i j : Nat}
    {x y : Event} (hx : e[i]? = some x) (hy : e[j]? = some y)
    (h : TokOrd prog x.tid x.pc y.tid y.pc) :
    i < j ∧ HB e i j := by
  obtain ⟨o, a, b, hrel, hap, hacq, hb⟩ := h
  obtain ⟨k, kz, hkj, hkz, hkt, _, hka⟩ := hc.earlier hy hb hacq
  obtain ⟨r, rz, hrk, hrz, hra⟩ := hw.token k kz o hkz hka
  have hrl := hc.act r rz hrz
  rw [hra] at hrl
  obtain ⟨hrt, hrp⟩ := hrel _ _ hrl
  have hir : i < r := hc.lt_of_pc_lt hx hrz hrt.symm (by omega)
  exact ⟨by omega, hb_chain3 (edge_po hir hx hrz hrt.symm)
    (edge_sync hrk hrz hkz (by simp [hra, hka, syncs])) (edge_po hkj hkz hy hkt)⟩

/-- **Synchronisation discipline.** If any two conflicting accesses of different threads are
    inside critical sections of a common mutex or ordered through a token, then every execution
    (any interleaving, any prefix) is race free. -/
theorem raceFree_of_discipline {prog : Prog}
    (hd : ∀ t u p q a b, t ≠ u → (prog t)[p]? = some a → (prog u)[q]? = some b →
      conflict a b = true →
      (∃ m, Prot (prog t) m p ∧ Prot (prog u) m q) ∨ TokOrd prog t p u q ∨ TokOrd prog u q t p)
    {e : Exec} (hc : Conforms prog e) (hw : WF e) : RaceFree e := by
  intro i j x y hij hx hy hcf
  by_cases hsame : x.tid = y.tid
  · exact .single (edge_po hij hx hy hsame)
  rcases hd _ _ _ _ _ _ hsame (hc.act i x hx) (hc.act j y hy) hcf with ⟨m, px, py⟩ | h | h
  · exact hb_of_prot hc hw hij hx hy hsame px py
  · exact (token_order hc hw hx hy h).2
  · have := (token_order hc hw hy hx h).1; omega

/-! ### fork–join programs -/

section forkJoin
variable {pre post : List Act} {body : Nat → List Act} {n : Nat}

/-- main: `pre`, the `go` statements, the `Wait`s, `post`. -/
theorem fj_main_get (p : Nat) : (forkJoin pre post body n 0)[p]? =
    if p < pre.length then pre[p]?
    else if p - pre.length < n then some (.rel (spawnTok (p - pre.length + 1)))
    else if p - pre.length - n < n then some (.acq (doneTok (p - pre.length - n + 1)))
    else post[p - pre.length - n - n]? := by
  simp only [forkJoin, if_true, List.append_assoc, List.getElem?_append, List.length_map,
    List.length_range]
  split_ifs with _ hgo hwait
  · rfl
  · rw [List.getElem?_map, List.getElem?_range hgo]; rfl
  · rw [List.getElem?_map, List.getElem?_range hwait]; rfl
  · rfl

theorem fj_child {t : Nat} (h1 : 1 ≤ t) (hn : t ≤ n) :
    forkJoin pre post body n t = Act.acq (spawnTok t) :: (body t ++ [Act.rel (doneTok t)]) := by
  have : t ≠ 0 := by omega
  simp [forkJoin, this, hn]

theorem fj_other {t : Nat} (h1 : t ≠ 0) (hn : n < t) : forkJoin pre post body n t = [] := by
  simp [forkJoin, h1, Nat.not_le.mpr hn]

theorem tid_le {t p : Nat} {a : Act} (h : (forkJoin pre post body n t)[p]? = some a) :
    t = 0 ∨ (1 ≤ t ∧ t ≤ n) := by
  by_contra hne
  rw [fj_other (by omega) (by omega)] at h
  cases h

theorem spawnTok_ne_doneTok (a b : Nat) : spawnTok a ≠ doneTok b := by
  unfold spawnTok doneTok; omega

theorem child_cases {t p : Nat} {a : Act} (h1 : 1 ≤ t) (hn : t ≤ n)
    (h : (forkJoin pre post body n t)[p]? = some a) :
    (p = 0 ∧ a = Act.acq (spawnTok t)) ∨
    (1 ≤ p ∧ p ≤ (body t).length ∧ (body t)[p - 1]? = some a) ∨
    (p = (body t).length + 1 ∧ a = Act.rel (doneTok t)) := by
  rw [fj_child h1 hn] at h
  cases p with
  | zero => exact .inl ⟨rfl, (Option.some.inj h).symm⟩
  | succ q =>
    rw [List.getElem?_cons_succ, List.getElem?_append, List.getElem?_singleton] at h
    split_ifs at h
    · exact .inr (.inl ⟨by omega, by omega, h⟩)
    · exact .inr (.inr ⟨by omega, (Option.some.inj h).symm⟩)

/-- the accesses of main are in `pre` or in `post`. -/
theorem main_access {p : Nat} {a : Act} (h : (forkJoin pre post body n 0)[p]? = some a)
    (ha : a.isTok = false) : p < pre.length ∨ pre.length + n + n ≤ p := by
  rw [fj_main_get] at h
  split_ifs at h
  · omega
  · cases Option.some.inj h; cases ha
  · cases Option.some.inj h; cases ha
  · omega

/-- the accesses of a child are those of its body. -/
theorem child_access {t p : Nat} {a : Act} (h1 : 1 ≤ t) (hn : t ≤ n)
    (h : (forkJoin pre post body n t)[p]? = some a) (ha : a.isTok = false) :
    1 ≤ p ∧ p ≤ (body t).length ∧ (body t)[p - 1]? = some a := by
  rcases child_cases h1 hn h with ⟨_, rfl⟩ | h | ⟨_, rfl⟩
  · cases ha
  · exact h
  · cases ha

variable (hpre : ∀ a ∈ pre, a.isTok = false) (hpost : ∀ a ∈ post, a.isTok = false)
  (hbody : ∀ t, ∀ a ∈ body t, a.isTok = false)
include hpre hpost hbody

/-- the only releases are the `go` statement for child u at pc |pre| + (u - 1) of main and the
    `Done` at the end of child u. -/
theorem rel_loc {t p o : Nat} (h : (forkJoin pre post body n t)[p]? = some (Act.rel o)) :
    (t = 0 ∧ o = spawnTok (p - pre.length + 1) ∧ pre.length ≤ p) ∨
    (1 ≤ t ∧ o = doneTok t ∧ p = (body t).length + 1) := by
  rcases tid_le h with rfl | ⟨h1, hn⟩
  · rw [fj_main_get] at h
    split_ifs at h
    · cases hpre _ (List.mem_of_getElem? h)
    · cases Option.some.inj h; exact .inl ⟨rfl, rfl, by omega⟩
    · cases Option.some.inj h
    · cases hpost _ (List.mem_of_getElem? h)
  · rcases child_cases h1 hn h with ⟨_, ha⟩ | ⟨_, _, hp⟩ | ⟨hp, ha⟩
    · cases ha
    · cases hbody t _ (List.mem_of_getElem? hp)
    · cases ha; exact .inr ⟨h1, rfl, hp⟩

/-- the `go` statement for child u is the only release of its spawn token. -/
theorem rel_spawn_loc {t p u : Nat}
    (h : (forkJoin pre post body n t)[p]? = some (Act.rel (spawnTok u))) :
    t = 0 ∧ p = pre.length + (u - 1) := by
  rcases rel_loc hpre hpost hbody h with ⟨ht, ho, hp⟩ | ⟨_, ho, _⟩
  · simp only [spawnTok] at ho; omega
  · exact absurd ho (spawnTok_ne_doneTok u t)

/-- the `Done` of child u is the only release of its done token. -/
theorem rel_done_loc {t p u : Nat}
    (h : (forkJoin pre post body n t)[p]? = some (Act.rel (doneTok u))) :
    t = u ∧ p = (body u).length + 1 := by
  rcases rel_loc hpre hpost hbody h with ⟨_, ho, _⟩ | ⟨_, ho, hp⟩
  · exact absurd ho.symm (spawnTok_ne_doneTok _ u)
  · obtain rfl : t = u := by simp only [doneTok] at ho; omega
    exact ⟨rfl, hp⟩

/-- an access of main and an access of a child are ordered through the child's spawn token
    (main still in `pre`) or through its done token (main already in `post`). -/
theorem main_child_tokOrd {u p q : Nat} {a b : Act} (h1 : 1 ≤ u) (hn : u ≤ n)
    (ha : (forkJoin pre post body n 0)[p]? = some a)
    (hb : (forkJoin pre post body n u)[q]? = some b)
    (hat : a.isTok = false) (hbt : b.isTok = false) :
    TokOrd (forkJoin pre post body n) 0 p u q ∨ TokOrd (forkJoin pre post body n) u q 0 p := by
  obtain ⟨hq1, hq2, _⟩ := child_access h1 hn hb hbt
  rcases main_access ha hat with hp | hp
  · refine .inl ⟨spawnTok u, pre.length + (u - 1), 0, fun _ _ => rel_spawn_loc hpre hpost hbody,
      by omega, ?_, hq1⟩
    rw [fj_child h1 hn]; rfl
  · refine .inr ⟨doneTok u, (body u).length + 1, pre.length + n + (u - 1),
      fun _ _ => rel_done_loc hpre hpost hbody, by omega, ?_, by omega⟩
    rw [fj_main_get, if_neg (by omega), if_neg (by omega), if_pos (by omega)]
    congr 3; omega

variable (pre post body n)

/-- **Fork–join discipline.** Main runs `pre`, starts children 1..n, waits for all, runs `post`.
    If any two conflicting accesses of different children are inside critical sections of a
    common mutex, then every execution (any interleaving, any prefix) is race free: accesses of
    main before the `go` statements / after `Wait` are ordered through the tokens. -/
theorem forkJoin_race_free
    (hcc : ∀ t u, t ≠ u → 1 ≤ t → t ≤ n → 1 ≤ u → u ≤ n → ∀ p q a b,
      (body t)[p]? = some a → (body u)[q]? = some b → conflict a b = true →
      ∃ m, Prot (body t) m p ∧ Prot (body u) m q)
    (e : Exec) (hc : Conforms (forkJoin pre post body n) e) (hw : WF e) : RaceFree e := by
  refine raceFree_of_discipline (fun t u p q a b htu ha hb hcf => ?_) hc hw
  obtain ⟨hat, hbt⟩ := conflict_not_tok hcf
  rcases tid_le ha with rfl | ⟨ht1, htn⟩ <;>
  rcases tid_le hb with rfl | ⟨hu1, hun⟩
  · exact absurd rfl htu
  · exact .inr (main_child_tokOrd hpre hpost hbody hu1 hun ha hb hat hbt)
  · exact .inr (main_child_tokOrd hpre hpost hbody ht1 htn hb ha hbt hat).symm
  · obtain ⟨hp1, _, hpa⟩ := child_access ht1 htn ha hat
    obtain ⟨hq1, _, hqb⟩ := child_access hu1 hun hb hbt
    obtain ⟨m, hpx, hpy⟩ := hcc t u htu ht1 htn hu1 hun _ _ _ _ hpa hqb hcf
    have hr : Act.unlock m ∉ [Act.rel (doneTok t)] ∧ Act.unlock m ∉ [Act.rel (doneTok u)] := by simp
    have px := hpx.cons_append (Act.acq (spawnTok t)) hr.1
    have py := hpy.cons_append (Act.acq (spawnTok u)) hr.2
    rw [Nat.sub_add_cancel hp1, ← fj_child ht1 htn] at px
    rw [Nat.sub_add_cancel hq1, ← fj_child hu1 hun] at py
    exact .inl ⟨m, px, py⟩

/-- children without conflicting accesses need no mutex. -/
theorem forkJoin_race_free_of_no_conflict
    (hnc : ∀ t u, t ≠ u → ∀ a ∈ body t, ∀ b ∈ body u, conflict a b = false)
    (e : Exec) (hc : Conforms (forkJoin pre post body n) e) (hw : WF e) : RaceFree e :=
  forkJoin_race_free pre post body n hpre hpost hbody (fun t u htu _ _ _ _ _ _ a b ha hb hcf => by
    rw [hnc t u htu a (List.mem_of_getElem? ha) b (List.mem_of_getElem? hb)] at hcf
    cases hcf) e hc hw

end forkJoin

/-! ### soundness of the executable checks (used for the concrete witness executions) -/

/-- both checks run over the positions of `e` and look at the event found there. -/
theorem of_all_range_length {e : Exec} {P : Nat → Event → Bool}
    (h : ((List.range e.length).all fun j =>
      match e[j]? with | none => true | some x => P j x) = true)
    {j : Nat} {x : Event} (hx : e[j]? = some x) : P j x = true := by
  have := List.all_eq_true.mp h j (List.mem_range.mpr (lt_length_of_getElem? hx))
  rwa [hx] at this

/-- the form in which both checks ask for an event with a given property at position `i`. -/
theorem exists_of_match_getElem? {e : Exec} {i : Nat} {q : Event → Bool}
    (h : (match e[i]? with | some z => q z | none => false) = true) :
    ∃ z, e[i]? = some z ∧ q z = true := by
  split at h
  · next z hz => exact ⟨z, hz, h⟩
  · cases h

theorem conforms_of_conformsB {prog : Prog} {e : Exec} (h : conformsB prog e = true) :
    Conforms prog e := by
  have at_pos {j x} (hx : e[j]? = some x) := of_all_range_length h hx
  simp only [Bool.and_eq_true, List.all_eq_true, List.mem_range] at at_pos
  refine ⟨fun i x hx => by simpa using (at_pos hx).1.1, fun j x hx p hp => ?_,
    fun i j a b hij ha hb hab => ?_⟩
  · obtain ⟨i, hi, hm⟩ := List.any_eq_true.mp ((at_pos hx).1.2 p hp)
    obtain ⟨z, hz, hq⟩ := exists_of_match_getElem? hm
    exact ⟨i, z, List.mem_range.mp hi, hz, by simpa using hq⟩
  · simpa [ha, hab] using (at_pos hb).2 i hij

theorem wf_of_wfB {e : Exec} (h : wfB e = true) : WF e := by
  have at_pos {j x} (hx : e[j]? = some x) := of_all_range_length h hx
  refine ⟨fun j x o hx hxa => ?_, fun i j a b m hij ha hb haa hba => ?_⟩
  · have := at_pos hx
    simp only [hxa] at this
    obtain ⟨i, hi, hm⟩ := List.any_eq_true.mp this
    obtain ⟨z, hz, hq⟩ := exists_of_match_getElem? hm
    exact ⟨i, z, List.mem_range.mp hi, hz, by simpa using hq⟩
  · have := at_pos hb
    simp only [hba, List.all_eq_true, List.mem_range] at this
    have := this i hij
    simp only [ha, haa, bne_self_eq_false, Bool.false_or] at this
    obtain ⟨u, hu, hm⟩ := List.any_eq_true.mp this
    obtain ⟨hiu, hm⟩ := Bool.and_eq_true_iff.mp hm
    obtain ⟨c, hc, hq⟩ := exists_of_match_getElem? hm
    exact ⟨u, c, of_decide_eq_true hiu, List.mem_range.mp hu, hc, by simpa using hq⟩

/-! ### exhibiting a race -/

theorem exists_edge_of_hb {e : Exec} {i j : Nat} (h : HB e i j) : ∃ k, Edge e i k := by
  induction h with
  | single hab => exact ⟨_, hab⟩
  | tail _ _ ih => exact ih

/-- a conflicting access from which no edge leaves is part of a race. -/
theorem not_raceFree_of_isolated {e : Exec} {i j : Nat} {a b : Event} (hij : i < j)
    (ha : e[i]? = some a) (hb : e[j]? = some b) (hcf : conflict a.act b.act = true)
    (hno : ∀ c ∈ e.drop (i + 1), edgeB a c = false) : ¬ RaceFree e := by
  intro h
  obtain ⟨k, hik, a', c, ha', hc, hedge⟩ := exists_edge_of_hb (h i j a b hij ha hb hcf)
  cases ha.symm.trans ha'
  have hmem : c ∈ e.drop (i + 1) := List.mem_of_getElem? (i := k - (i + 1)) (by
    rw [List.getElem?_drop, ← hc]; congr 1; omega)
  rw [hno c hmem] at hedge
  cases hedge

end Gabi.Conc.HB
