/-
  GabiProofs.DerLemmas — the DER encoder of GabiModel.Der is prefix-free, so the byte string that
  `hashCommit` / `createChallenge` hash determines their arguments: equal challenges mean equal
  arguments or a SHA-256 collision. These statements come twice: primed, for inputs shorter than
  `256 ^ 127` bytes, which is as far as the encoder of the model is injective (the `#eval`s at the
  end show that it fails there), and unprimed, for the `256 ^ 126` of X.690. The file begins with
  the length of a SHA-256 digest in the model, 32 bytes.
-/
import GabiModel.HashTool
import GabiProofs.NumLemmas
import Mathlib.Data.List.Basic

namespace Gabi

/-! ### SHA-256 output length -/

namespace Sha256

theorem compress_size (h : Array UInt32) (m : ByteArray) (off : Nat) :
    (compress h m off).size = 8 := by
  unfold compress
  simp only [Id.run, bind, pure]
  rfl

theorem foldl_compress_size (m : ByteArray) (l : List Nat) (h : Array UInt32) (hh : h.size = 8) :
    (List.foldl (fun b a => compress b m (a * 64)) h l).size = 8 := by
  induction l generalizing h with
  | nil => exact hh
  | cons a l ih => exact ih _ (compress_size _ _ _)

theorem foldl_push4_size (l : List UInt32) (init : ByteArray) :
    (List.foldl (fun (b : ByteArray) (a : UInt32) =>
      (((b.push (a >>> 24).toUInt8).push (a >>> 16).toUInt8).push (a >>> 8).toUInt8).push a.toUInt8)
      init l).size = init.size + 4 * l.length := by
  induction l generalizing init with
  | nil => simp
  | cons a l ih =>
    rw [List.foldl_cons, ih]
    simp only [ByteArray.size_push, List.length_cons]
    omega

theorem sha256_size (msg : ByteArray) : (sha256 msg).size = 32 := by
  unfold sha256
  simp only [Std.Legacy.Range.forIn_eq_forIn_range', List.forIn_pure_yield_eq_foldl,
    Array.forIn_pure_yield_eq_foldl, bind_pure_comp, map_pure, pure_bind]
  show ByteArray.size (Array.foldl _ _ _) = 32
  rw [← Array.foldl_toList, foldl_push4_size, Array.length_toList, foldl_compress_size _ _ _ rfl]
  rfl

theorem toList_loop_length (bs : ByteArray) (i : Nat) (r : List UInt8) :
    (ByteArray.toList.loop bs i r).length = r.length + (bs.size - i) := by
  induction i, r using ByteArray.toList.loop.induct bs with
  | case1 i r hlt ih =>
    rw [ByteArray.toList.loop.eq_1, if_pos hlt, ih, List.length_cons]; omega
  | case2 i r hge =>
    rw [ByteArray.toList.loop.eq_1, if_neg hge, List.length_reverse]; omega

theorem hash_length (bs : List UInt8) : (Sha256.hash bs).length = 32 := by
  rw [Sha256.hash, ByteArray.toList, toList_loop_length, sha256_size]
  rfl

end Sha256

theorem ofBytesBE_hash_lt (bs : List UInt8) : ofBytesBE (Sha256.hash bs) < 2 ^ 256 := by
  have h := ofBytesBE_lt (Sha256.hash bs)
  rwa [Sha256.hash_length, show (256 : Nat) ^ 32 = 2 ^ 256 by norm_num] at h

namespace Der

/-! ### `toBytesFixed` -/

theorem toBytesFixed_length (k n : Nat) : (toBytesFixed k n).length = k := by
  induction k with
  | zero => rfl
  | succ k ih => simp [toBytesFixed, ih]

theorem ofBytesBE_toBytesFixed (k n : Nat) : ofBytesBE (toBytesFixed k n) = n % 256 ^ k := by
  induction k with
  | zero => simp [toBytesFixed, ofBytesBE_nil, Nat.mod_one]
  | succ k ih =>
    rw [toBytesFixed, ofBytesBE_cons, ih, toBytesFixed_length, toUInt8_toNat, Nat.mod_mod,
      Nat.mod_pow_succ]
    ring

theorem toBytesFixed_injective {k a b : Nat} (ha : a < 256 ^ k) (hb : b < 256 ^ k)
    (h : toBytesFixed k a = toBytesFixed k b) : a = b := by
  have := congrArg ofBytesBE h
  rwa [ofBytesBE_toBytesFixed, ofBytesBE_toBytesFixed, Nat.mod_eq_of_lt ha,
    Nat.mod_eq_of_lt hb] at this

/-! ### `derLen`

In the long form the first octet is `0x80 + k` for `k` length octets. The encoder computes it with
`.toUInt8`, so it is right for `k ≤ 127`, that is for lengths below `256 ^ 127`, and the lemmas
of this file are stated with that bound. X.690 §8.1.3.5 reserves the octet `0xff` and so admits
only `k ≤ 126`: the bound `256 ^ 126` of the last section. -/

theorem two_pow_le_of_natBitLen {n : Nat} (hn : n ≠ 0) : 2 ^ (natBitLen n - 1) ≤ n :=
  two_pow_natBitLen_le n hn

theorem pow256 (k : Nat) : (256 : Nat) ^ k = 2 ^ (8 * k) := by
  rw [Nat.pow_mul]

theorem lenBytes_length (n : Nat) : (lenBytes n).length = (natBitLen n + 7) / 8 :=
  toBytesFixed_length _ _

theorem lt_pow_lenBytes (n : Nat) : n < 256 ^ ((natBitLen n + 7) / 8) := by
  rw [pow256]
  calc n < 2 ^ natBitLen n := lt_two_pow_natBitLen n
    _ ≤ 2 ^ (8 * ((natBitLen n + 7) / 8)) := Nat.pow_le_pow_right (by norm_num) (by omega)

theorem lenLen_lt {n : Nat} (h : n < 256 ^ 127) : (natBitLen n + 7) / 8 < 128 := by
  rw [pow256] at h
  have := (natBitLen_le_iff n _).mpr h
  omega

theorem lenLen_pos {n : Nat} (h : ¬ n < 128) : 1 ≤ (natBitLen n + 7) / 8 := by
  have := (natBitLen_pos_iff n).mpr (by omega)
  omega

/-- The first octet: the length itself in the short form, `0x80 +` the number of octets that
    follow in the long form. -/
theorem derLen_eq (n : Nat) (h : n < 256 ^ 127) :
    ∃ o, derLen n = o :: (if n < 128 then [] else lenBytes n) ∧
      o.toNat = if n < 128 then n else 128 + (natBitLen n + 7) / 8 := by
  have hL := lenLen_lt h
  unfold derLen
  split_ifs with h1
  · exact ⟨_, rfl, Nat.mod_eq_of_lt (by omega)⟩
  · exact ⟨_, rfl, by rw [lenBytes_length]; exact Nat.mod_eq_of_lt (by omega)⟩

theorem derLen_prefix_free' {a b : Nat} {r r' : List UInt8}
    (ha : a < 256 ^ 127) (hb : b < 256 ^ 127)
    (h : derLen a ++ r = derLen b ++ r') : a = b ∧ r = r' := by
  obtain ⟨oa, ea, ha'⟩ := derLen_eq a ha
  obtain ⟨ob, eb, hb'⟩ := derLen_eq b hb
  rw [ea, eb, List.cons_append, List.cons_append, List.cons.injEq] at h
  obtain ⟨rfl, ht⟩ := h
  have hLa := lenLen_pos (n := a)
  have hLb := lenLen_pos (n := b)
  by_cases h1 : a < 128 <;> by_cases h2 : b < 128 <;>
    simp only [h1, h2, if_true, if_false] at ha' hb' ht
  · exact ⟨by omega, ht⟩
  · omega
  · omega
  · -- the same number of length octets, hence the same octets
    have hk : (natBitLen a + 7) / 8 = (natBitLen b + 7) / 8 := by omega
    have hlen : (lenBytes a).length = (lenBytes b).length := by
      rw [lenBytes_length, lenBytes_length, hk]
    obtain ⟨hc, hr⟩ := List.append_inj ht hlen
    refine ⟨?_, hr⟩
    have hA := lt_pow_lenBytes a
    rw [lenBytes, lenBytes, hk] at hc
    rw [hk] at hA
    exact toBytesFixed_injective hA (lt_pow_lenBytes b) hc

/-! ### `intContent` -/

theorem intContent_length (z : Int) : (intContent z).length = intContentLen z :=
  toBytesFixed_length _ _

theorem intContentLen_pos (z : Int) : 1 ≤ intContentLen z := by
  unfold intContentLen; omega

theorem natCast_lt_two_pow (m : Nat) : (m : Int) < 2 ^ (8 * (natBitLen m / 8 + 1) - 1) := by
  exact_mod_cast lt_of_lt_of_le (lt_two_pow_natBitLen m)
    (Nat.pow_le_pow_right (by norm_num) (by omega : natBitLen m ≤ 8 * (natBitLen m / 8 + 1) - 1))

/-- `z` lies in the two's-complement range of `intContentLen z` octets. -/
theorem intContent_range (z : Int) :
    -(2 : Int) ^ (8 * intContentLen z - 1) ≤ z ∧ z < (2 : Int) ^ (8 * intContentLen z - 1) := by
  unfold intContentLen
  split
  · have := natCast_lt_two_pow z.toNat
    omega
  · have := natCast_lt_two_pow (-z - 1).toNat
    omega

theorem ofBytesBE_intContent (z : Int) :
    (ofBytesBE (intContent z) : Int) = z % 256 ^ intContentLen z := by
  rw [intContent, ofBytesBE_toBytesFixed]
  push_cast
  rw [Int.toNat_of_nonneg (Int.emod_nonneg _ (by positivity)), Int.emod_emod]

theorem intContent_injective {a b : Int} (h : intContent a = intContent b) : a = b := by
  have hk : intContentLen a = intContentLen b := by
    rw [← intContent_length, ← intContent_length, h]
  have hmod := ofBytesBE_intContent a
  rw [h, ofBytesBE_intContent b, hk] at hmod
  have hra := intContent_range a
  have hrb := intContent_range b
  have hkpos := intContentLen_pos b
  rw [hk] at hra
  generalize intContentLen b = k at *
  have hpow : (256 : Int) ^ k = 2 * 2 ^ (8 * k - 1) := by
    rw [show (256 : Int) = 2 ^ 8 by norm_num, ← pow_mul, ← pow_succ',
      show 8 * k - 1 + 1 = 8 * k by omega]
  -- `a` and `b` are congruent modulo `256^k` and lie in the same interval of that length
  have hdvd : (256 ^ k : Int) ∣ b - a :=
    Int.dvd_of_emod_eq_zero (Int.emod_eq_emod_iff_emod_sub_eq_zero.mp hmod)
  have := Int.eq_zero_of_abs_lt_dvd hdvd (by rw [hpow, abs_lt]; omega)
  omega

/-! ### `derInt` and concatenations of it -/

theorem derInt_prefix_free' {a b : Int} {r r' : List UInt8}
    (ha : intContentLen a < 256 ^ 127) (hb : intContentLen b < 256 ^ 127)
    (h : derInt a ++ r = derInt b ++ r') : a = b ∧ r = r' := by
  unfold derInt at h
  simp only [List.cons_append, List.cons.injEq, true_and, List.append_assoc,
    intContent_length] at h
  obtain ⟨hk, ht⟩ := derLen_prefix_free' ha hb h
  have hlen : (intContent a).length = (intContent b).length := by
    rw [intContent_length, intContent_length, hk]
  obtain ⟨hc, hr⟩ := List.append_inj ht hlen
  exact ⟨intContent_injective hc, hr⟩

theorem derInts_flatten_injective' {xs ys : List Int}
    (hx : ∀ x ∈ xs, intContentLen x < 256 ^ 127) (hy : ∀ y ∈ ys, intContentLen y < 256 ^ 127)
    (h : (xs.map derInt).flatten = (ys.map derInt).flatten) : xs = ys := by
  induction xs generalizing ys with
  | nil =>
    cases ys with
    | nil => rfl
    | cons y ys => simp [derInt] at h
  | cons x xs ih =>
    cases ys with
    | nil => simp [derInt] at h
    | cons y ys =>
      simp only [List.map_cons, List.flatten_cons] at h
      obtain ⟨hxy, hrest⟩ := derInt_prefix_free' (hx x (List.mem_cons_self ..))
        (hy y (List.mem_cons_self ..)) h
      rw [hxy, ih (fun z hz => hx z (List.mem_cons_of_mem _ hz))
        (fun z hz => hy z (List.mem_cons_of_mem _ hz)) hrest]

end Der

/-! ### `hashCommitInput` -/

open Der

/-- the body of the hashed SEQUENCE: the marker if there is one, then the count and the values as
    one run of INTEGERs. -/
theorem hashCommitItems_flatten (vs : List Int) (b : Bool) :
    (hashCommitItems vs b).flatten =
      (if b then [1, 1, 0xff] else []) ++ (((vs.length : Int) :: vs).map derInt).flatten := by
  cases b <;> simp [hashCommitItems, derBool]

theorem body_length_lt_input (vs : List Int) (b : Bool) :
    (hashCommitItems vs b).flatten.length < (hashCommitInput vs b).length := by
  simp only [hashCommitInput, derSeq, List.length_cons, List.length_append]
  omega

theorem hashCommitInput_injective' {vs vs' : List Int} {b b' : Bool}
    (hl : (hashCommitInput vs b).length < 256 ^ 127)
    (hl' : (hashCommitInput vs' b').length < 256 ^ 127)
    (h : hashCommitInput vs b = hashCommitInput vs' b') : vs = vs' ∧ b = b' := by
  -- every hashed integer is shorter than the input, so the size bound carries over to it
  have hlt : ∀ (vs : List Int) (b : Bool), (hashCommitInput vs b).length < 256 ^ 127 →
      ∀ x ∈ ((vs.length : Int) :: vs), intContentLen x < 256 ^ 127 := by
    intro vs b hl x hx
    have h1 : intContentLen x < (derInt x).length := by
      simp only [derInt, List.length_cons, List.length_append, intContent_length]
      omega
    have h2 := (List.sublist_flatten_of_mem (List.mem_map_of_mem (f := derInt) hx)).length_le
    have h3 := body_length_lt_input vs b
    rw [hashCommitItems_flatten, List.length_append] at h3
    omega
  simp only [hashCommitInput, derSeq, List.cons.injEq, true_and] at h
  obtain ⟨-, hbody⟩ := derLen_prefix_free' (lt_trans (body_length_lt_input vs b) hl)
    (lt_trans (body_length_lt_input vs' b') hl') h
  rw [hashCommitItems_flatten, hashCommitItems_flatten] at hbody
  -- the marker, if there is one, begins with 0x01 and the first INTEGER with 0x02
  have hb : b = b' := by
    cases b <;> cases b' <;> simp [derInt] at hbody ⊢
  subst hb
  have := derInts_flatten_injective' (hlt vs b hl) (hlt vs' b hl') (List.append_cancel_left hbody)
  exact ⟨(List.cons.inj this).2, rfl⟩

/-! ### `hashCommit` and `createChallenge` bind their arguments up to a SHA-256 collision -/

theorem hashCommit_binds' {vs vs' : List Int} {b b' : Bool}
    (hl : (hashCommitInput vs b).length < 256 ^ 127)
    (hl' : (hashCommitInput vs' b').length < 256 ^ 127)
    (h : hashCommit vs b = hashCommit vs' b') :
    (vs = vs' ∧ b = b') ∨
      (hashCommitInput vs b ≠ hashCommitInput vs' b' ∧
        Sha256.hash (hashCommitInput vs b) = Sha256.hash (hashCommitInput vs' b')) := by
  by_cases heq : hashCommitInput vs b = hashCommitInput vs' b'
  · exact Or.inl (hashCommitInput_injective' hl hl' heq)
  · refine Or.inr ⟨heq, ?_⟩
    unfold hashCommit at h
    exact ofBytesBE_injective_of_length
      (by rw [Sha256.hash_length, Sha256.hash_length]) h

theorem createChallenge_binds' {ctx ctx' n n' : Int} {cs cs' : List Int} {b b' : Bool}
    (hl : (hashCommitInput (ctx :: cs ++ [n]) b).length < 256 ^ 127)
    (hl' : (hashCommitInput (ctx' :: cs' ++ [n']) b').length < 256 ^ 127)
    (h : createChallenge ctx n cs b = createChallenge ctx' n' cs' b') :
    (ctx = ctx' ∧ cs = cs' ∧ n = n' ∧ b = b') ∨
      (hashCommitInput (ctx :: cs ++ [n]) b ≠ hashCommitInput (ctx' :: cs' ++ [n']) b' ∧
        Sha256.hash (hashCommitInput (ctx :: cs ++ [n]) b) =
          Sha256.hash (hashCommitInput (ctx' :: cs' ++ [n']) b')) := by
  unfold createChallenge at h
  rcases hashCommit_binds' hl hl' h with ⟨hv, hb⟩ | hcol
  · left
    simp only [List.cons_append, List.cons.injEq] at hv
    obtain ⟨hc, hrest⟩ := hv
    obtain ⟨hcs, hn⟩ := List.append_inj' hrest rfl
    exact ⟨hc, hcs, (List.cons.inj hn).1, hb⟩
  · exact Or.inr hcol

/-! ### lengths that X.690 admits

The statements above with the bound `256 ^ 126`; `GabiProps/C15.lean` quotes these. -/

namespace Der

theorem lt_pow127 {n : Nat} (h : n < 256 ^ 126) : n < 256 ^ 127 :=
  lt_trans h (Nat.pow_lt_pow_right (by norm_num) (by norm_num))

theorem derLen_prefix_free {a b : Nat} {r r' : List UInt8}
    (ha : a < 256 ^ 126) (hb : b < 256 ^ 126)
    (h : derLen a ++ r = derLen b ++ r') : a = b ∧ r = r' :=
  derLen_prefix_free' (lt_pow127 ha) (lt_pow127 hb) h

theorem derInt_prefix_free {a b : Int} {r r' : List UInt8}
    (ha : intContentLen a < 256 ^ 126) (hb : intContentLen b < 256 ^ 126)
    (h : derInt a ++ r = derInt b ++ r') : a = b ∧ r = r' :=
  derInt_prefix_free' (lt_pow127 ha) (lt_pow127 hb) h

theorem derInts_flatten_injective {xs ys : List Int}
    (hx : ∀ x ∈ xs, intContentLen x < 256 ^ 126) (hy : ∀ y ∈ ys, intContentLen y < 256 ^ 126)
    (h : (xs.map derInt).flatten = (ys.map derInt).flatten) : xs = ys :=
  derInts_flatten_injective' (fun x m => lt_pow127 (hx x m)) (fun y m => lt_pow127 (hy y m)) h

end Der

theorem hashCommitInput_injective {vs vs' : List Int} {b b' : Bool}
    (hl : (hashCommitInput vs b).length < 256 ^ 126)
    (hl' : (hashCommitInput vs' b').length < 256 ^ 126)
    (h : hashCommitInput vs b = hashCommitInput vs' b') : vs = vs' ∧ b = b' :=
  hashCommitInput_injective' (lt_pow127 hl) (lt_pow127 hl') h

theorem hashCommit_binds {vs vs' : List Int} {b b' : Bool}
    (hl : (hashCommitInput vs b).length < 256 ^ 126)
    (hl' : (hashCommitInput vs' b').length < 256 ^ 126)
    (h : hashCommit vs b = hashCommit vs' b') :
    (vs = vs' ∧ b = b') ∨
      (hashCommitInput vs b ≠ hashCommitInput vs' b' ∧
        Sha256.hash (hashCommitInput vs b) = Sha256.hash (hashCommitInput vs' b')) :=
  hashCommit_binds' (lt_pow127 hl) (lt_pow127 hl') h

theorem createChallenge_binds {ctx ctx' n n' : Int} {cs cs' : List Int} {b b' : Bool}
    (hl : (hashCommitInput (ctx :: cs ++ [n]) b).length < 256 ^ 126)
    (hl' : (hashCommitInput (ctx' :: cs' ++ [n']) b').length < 256 ^ 126)
    (h : createChallenge ctx n cs b = createChallenge ctx' n' cs' b') :
    (ctx = ctx' ∧ cs = cs' ∧ n = n' ∧ b = b') ∨
      (hashCommitInput (ctx :: cs ++ [n]) b ≠ hashCommitInput (ctx' :: cs' ++ [n']) b' ∧
        Sha256.hash (hashCommitInput (ctx :: cs ++ [n]) b) =
          Sha256.hash (hashCommitInput (ctx' :: cs' ++ [n']) b')) :=
  createChallenge_binds' (lt_pow127 hl) (lt_pow127 hl') h

/-! ### The size bound on `derLen` is necessary: `.toUInt8` wraps for 128 length octets. -/

-- `256^127` needs 128 length octets; `0x80 + 128` wraps to `0x00`, which is `derLen 0`.
#eval (Der.derLen (256 ^ 127)).head? == (Der.derLen 0).head?   -- true
#eval (Der.derLen (256 ^ 127)).length                           -- 129
-- counterexample to the unbounded statement: a = 256^127, b = 0, r = [], r' = tail
#eval decide (Der.derLen (256 ^ 127) ++ [] = Der.derLen 0 ++ (Der.derLen (256 ^ 127)).tail)  -- true
-- the bound 256^127 used in the primed theorems is tight: 256^127 - 1 still encodes with 0xff
#eval (Der.derLen (256 ^ 127 - 1)).head?                        -- some 255

end Gabi

#print axioms Gabi.Der.toBytesFixed_length
#print axioms Gabi.Der.toBytesFixed_injective
#print axioms Gabi.Der.derLen_prefix_free
#print axioms Gabi.Der.intContent_length
#print axioms Gabi.Der.intContent_injective
#print axioms Gabi.Der.derInt_prefix_free
#print axioms Gabi.Der.derInts_flatten_injective
#print axioms Gabi.hashCommitInput_injective
#print axioms Gabi.Sha256.hash_length
#print axioms Gabi.hashCommit_binds
#print axioms Gabi.createChallenge_binds
#print axioms Gabi.Der.derLen_prefix_free'
#print axioms Gabi.hashCommitInput_injective'
#print axioms Gabi.hashCommit_binds'
#print axioms Gabi.createChallenge_binds'
