/-
  GabiProofs.Serial — the codecs of GabiModel.Serial read back what they write: base64, decimal
  text (which the trimming of the readers leaves as it is), the `big.Int` (un)marshalers, CBOR byte
  strings, the compressed event list; and the mode of a key file that `WriteToFile` has written.
-/
import GabiModel.Serial
import GabiProofs.DerLemmas
import Mathlib.Tactic.SplitIfs
namespace Gabi.Serial
open Gabi

/-! ## base64 -/

/-- the decoding table inverts the alphabet (a table of 64 entries, checked entry by entry). -/
theorem b64Dec_enc : ∀ n < 64, b64Dec? (b64Enc n) = some n := by decide

theorem b64Enc_ge (n : Nat) : 43 ≤ b64Enc n ∧ b64Enc n ≠ pad ∧ b64Enc n ≠ 92 := by
  unfold b64Enc pad
  split_ifs <;> omega

theorem notNewline_of_ge {c : Nat} (h : 14 ≤ c) : notNewline c = true := by
  simp only [notNewline, bne_iff_ne, Bool.and_eq_true]
  omega

theorem b64Enc_notNewline (n : Nat) : notNewline (b64Enc n) = true :=
  notNewline_of_ge (by have := b64Enc_ge n; omega)

theorem mul_add_div_of_lt {k r : Nat} (m : Nat) (h : r < k) : (m * k + r) / k = m := by
  rw [Nat.add_comm, Nat.add_mul_div_right _ _ (Nat.zero_lt_of_lt h), Nat.div_eq_of_lt h, Nat.zero_add]

/-- three octets cut into four sextets (RFC 4648 §4) and joined again; a short last group is
    the case `c = 0` or `b = c = 0`. A middle sextet `x % d * e + y / f` has two digits, the low
    end of one octet and the high end of the next (`y / f < e`); dividing by `e` gives back the
    first and the remainder the second, and each octet is its high end times `d` plus its low end. -/
theorem sextets (a b c : UInt8) :
    (a.toNat / 4 < 64 ∧ a.toNat % 4 * 16 + b.toNat / 16 < 64 ∧ b.toNat % 16 * 4 + c.toNat / 64 < 64 ∧
      c.toNat % 64 < 64) ∧
    (a.toNat / 4 * 4 + (a.toNat % 4 * 16 + b.toNat / 16) / 16).toUInt8 = a ∧
    ((a.toNat % 4 * 16 + b.toNat / 16) % 16 * 16 + (b.toNat % 16 * 4 + c.toNat / 64) / 4).toUInt8 = b ∧
    ((b.toNat % 16 * 4 + c.toNat / 64) % 4 * 64 + c.toNat % 64).toUInt8 = c := by
  have ha := a.toNat_lt
  have hb : b.toNat / 16 < 16 := Nat.div_lt_of_lt_mul b.toNat_lt
  have hc : c.toNat / 64 < 4 := Nat.div_lt_of_lt_mul c.toNat_lt
  have join : ∀ {n : Nat} {x : UInt8}, n = x.toNat → n.toUInt8 = x := fun h => h ▸ UInt8.ofNat_toNat
  refine ⟨by omega, join ?_, join ?_, join ?_⟩
  · rw [mul_add_div_of_lt _ hb, Nat.div_add_mod']
  · rw [Nat.mul_add_mod_of_lt hb, mul_add_div_of_lt _ hc, Nat.div_add_mod']
  · rw [Nat.mul_add_mod_of_lt hc, Nat.div_add_mod']

/-- In each group the decoder finds the sextets the encoder wrote (`b64Dec_enc`) and joins them
    back into the octets they were cut from; a short last group is told by its padding. -/
theorem b64DecodeGroups_encode (bs : List UInt8) : b64DecodeGroups (b64Encode bs) = some bs := by
  induction bs using b64Encode.induct with
  | case1 => rfl
  | case2 a =>
    obtain ⟨⟨h0, h1, -, -⟩, j1, -, -⟩ := sextets a 0 0
    simp only [UInt8.toNat_zero, Nat.zero_div, Nat.add_zero] at h1 j1
    simp only [b64Encode, b64DecodeGroups, List.isEmpty_nil, true_and, if_true, b64Dec_enc _ h0,
      b64Dec_enc _ h1, j1]
  | case3 a b =>
    obtain ⟨⟨h0, h1, h2, -⟩, j1, j2, -⟩ := sextets a b 0
    simp only [UInt8.toNat_zero, Nat.zero_div, Nat.add_zero] at h2 j2
    simp only [b64Encode, b64DecodeGroups, List.isEmpty_nil, true_and, if_true,
      if_neg (b64Enc_ge _).2.1, b64Dec_enc _ h0, b64Dec_enc _ h1, b64Dec_enc _ h2, j1, j2]
  | case4 a b c rest ih =>
    obtain ⟨⟨h0, h1, h2, h3⟩, j1, j2, j3⟩ := sextets a b c
    simp only [b64Encode, b64DecodeGroups, if_neg (fun h => (b64Enc_ge _).2.1 (And.right h)),
      b64Dec_enc _ h0, b64Dec_enc _ h1, b64Dec_enc _ h2, b64Dec_enc _ h3, ih, j1, j2, j3]

/-- An encoding has no white space, control character or quote (all below `+` = 43) and no
    backslash (92): nothing that the trimming or the JSON string check would touch. -/
theorem b64Encode_chars (bs : List UInt8) : ∀ c ∈ b64Encode bs, 43 ≤ c ∧ c ≠ 92 := by
  have henc : ∀ n, 43 ≤ b64Enc n ∧ b64Enc n ≠ 92 := fun n => ⟨(b64Enc_ge n).1, (b64Enc_ge n).2.2⟩
  have hpad : 43 ≤ pad ∧ pad ≠ 92 := by decide
  intro x hx
  induction bs using b64Encode.induct with
  | case1 => exact absurd hx List.not_mem_nil
  | case2 a =>
    simp only [b64Encode, List.mem_cons, List.not_mem_nil, or_false] at hx
    rcases hx with rfl | rfl | rfl | rfl
    exacts [henc _, henc _, hpad, hpad]
  | case3 a b =>
    simp only [b64Encode, List.mem_cons, List.not_mem_nil, or_false] at hx
    rcases hx with rfl | rfl | rfl | rfl
    exacts [henc _, henc _, henc _, hpad]
  | case4 a b c rest ih =>
    simp only [b64Encode, List.mem_cons] at hx
    rcases hx with rfl | rfl | rfl | rfl | hx
    exacts [henc _, henc _, henc _, henc _, ih hx]

theorem b64Decode_encode (bs : List UInt8) : b64Decode (b64Encode bs) = some bs := by
  have hf : (b64Encode bs).filter notNewline = b64Encode bs :=
    List.filter_eq_self.mpr fun c hc => notNewline_of_ge (by have := b64Encode_chars bs c hc; omega)
  rw [b64Decode, hf, b64DecodeGroups_encode]

/-! ## decimal -/

theorem isDigit_iff {c : Nat} : isDigit c = true ↔ 48 ≤ c ∧ c ≤ 57 := by
  simp [isDigit]

theorem natToDec_small (n : Nat) (h : n < 10) : natToDec n = [48 + n] := by
  rw [natToDec, if_pos h]

theorem natToDec_big (n : Nat) (h : ¬ n < 10) : natToDec n = natToDec (n / 10) ++ [48 + n % 10] := by
  rw [natToDec, if_neg h]

theorem natToDec_ne_nil (n : Nat) : natToDec n ≠ [] := by
  rw [natToDec]
  split_ifs
  · exact List.cons_ne_nil _ _
  · exact List.append_ne_nil_of_right_ne_nil _ (List.cons_ne_nil _ _)

theorem natToDec_digits (n : Nat) : ∀ c ∈ natToDec n, isDigit c = true := by
  induction n using natToDec.induct with
  | case1 n h =>
    rw [natToDec_small n h]
    intro c hc
    rw [List.mem_singleton.mp hc, isDigit_iff]
    omega
  | case2 n h ih =>
    rw [natToDec_big n h]
    intro c hc
    rcases List.mem_append.mp hc with hc | hc
    · exact ih c hc
    · rw [List.mem_singleton.mp hc, isDigit_iff]
      omega

theorem natToDec_head (n : Nat) : ∃ c r, natToDec n = c :: r ∧ isDigit c = true := by
  cases hl : natToDec n with
  | nil => exact absurd hl (natToDec_ne_nil n)
  | cons c r => exact ⟨c, r, rfl, natToDec_digits n c (hl ▸ List.mem_cons_self ..)⟩

/-- a positive number is written without a leading zero. -/
theorem natToDec_head_pos (n : Nat) (h : 0 < n) :
    ∃ c r, natToDec n = c :: r ∧ 49 ≤ c ∧ c ≤ 57 := by
  induction n using natToDec.induct with
  | case1 n hs => exact ⟨48 + n, [], natToDec_small n hs, by omega, by omega⟩
  | case2 n hs ih =>
    obtain ⟨c, r, hcr, hc⟩ := ih (by omega)
    exact ⟨c, r ++ [48 + n % 10], by rw [natToDec_big n hs, hcr, List.cons_append], hc⟩

theorem decStep_digit (a : Nat) {c : Nat} (h : isDigit c = true) :
    decStep (some a) c = some (a * 10 + (c - 48)) := by
  rw [decStep, if_pos h]

theorem foldl_decStep_natToDec (n : Nat) : (natToDec n).foldl decStep (some 0) = some n := by
  induction n using natToDec.induct with
  | case1 n h =>
    rw [natToDec_small n h, List.foldl_cons, List.foldl_nil,
      decStep_digit 0 (isDigit_iff.mpr (by omega))]
    congr 1
    omega
  | case2 n h ih =>
    rw [natToDec_big n h, List.foldl_append, ih, List.foldl_cons, List.foldl_nil,
      decStep_digit _ (isDigit_iff.mpr (by omega))]
    congr 1
    omega

theorem decToNat_natToDec (n : Nat) : decToNat? (natToDec n) = some n := by
  rw [decToNat?, if_neg (mt List.isEmpty_iff.mp (natToDec_ne_nil n)), foldl_decStep_natToDec]

theorem intToDec_neg (z : Int) (h : z < 0) : intToDec z = 45 :: natToDec z.natAbs := if_pos h

theorem intToDec_nonneg (z : Int) (h : 0 ≤ z) : intToDec z = natToDec z.toNat :=
  if_neg (Int.not_lt.mpr h)

theorem natToDec_eq_intToDec (n : Nat) : natToDec n = intToDec (n : Int) :=
  (intToDec_nonneg _ (Int.natCast_nonneg n)).symm

theorem intToDec_ne_nil (z : Int) : intToDec z ≠ [] := by
  unfold intToDec
  split_ifs
  · exact List.cons_ne_nil _ _
  · exact natToDec_ne_nil _

/-- a written integer consists of characters from `-` (45) to `9` (57): no white space, no quote. -/
theorem intToDec_chars (z : Int) : ∀ c ∈ intToDec z, 45 ≤ c ∧ c ≤ 57 := by
  have hd : ∀ n, ∀ c ∈ natToDec n, 45 ≤ c ∧ c ≤ 57 := fun n c hc => by
    have := isDigit_iff.mp (natToDec_digits n c hc)
    omega
  unfold intToDec
  split_ifs
  · exact List.forall_mem_cons.mpr ⟨by omega, hd _⟩
  · exact hd _

theorem parseDecInt_intToDec (z : Int) : parseDecInt? (intToDec z) = some z := by
  unfold intToDec
  split_ifs with hz
  · rw [parseDecInt?, if_pos rfl, decToNat_natToDec]
    show some (-(z.natAbs : Int)) = some z
    congr 1
    omega
  · obtain ⟨c, r, hcr, hd⟩ := natToDec_head z.toNat
    rw [isDigit_iff] at hd
    rw [hcr, parseDecInt?, if_neg (by omega), if_neg (by omega), ← hcr, decToNat_natToDec]
    exact congrArg some (Int.toNat_of_nonneg (Int.not_lt.mp hz))

/-! ## trimming -/

theorem trimWith_of_all (p : Nat → Bool) (t : Text) (h : ∀ c ∈ t, p c = false) : trimWith p t = t := by
  have hd : ∀ l : Text, (∀ c ∈ l, p c = false) → l.dropWhile p = l := by
    intro l hl
    cases l with
    | nil => rfl
    | cons a r => rw [List.dropWhile_cons_of_neg (by simp [hl a])]
  rw [trimWith, hd t h, hd _ (fun c hc => h c (List.mem_reverse.mp hc)), List.reverse_reverse]

theorem isSpace_of_gt {c : Nat} (h : 32 < c) : isSpace c = false := by
  simp [isSpace]
  omega

theorem isJsonWs_of_gt {c : Nat} (h : 32 < c) : isJsonWs c = false := by
  simp [isJsonWs]
  omega

theorem trimSpace_intToDec (z : Int) : trimSpace (intToDec z) = intToDec z :=
  trimWith_of_all _ _ fun c hc => isSpace_of_gt (by have := intToDec_chars z c hc; omega)

theorem trimJson_intToDec (z : Int) : trimWith isJsonWs (intToDec z) = intToDec z :=
  trimWith_of_all _ _ fun c hc => isJsonWs_of_gt (by have := intToDec_chars z c hc; omega)

theorem trimSpace_natToDec (n : Nat) : trimSpace (natToDec n) = natToDec n := by
  rw [natToDec_eq_intToDec]
  exact trimSpace_intToDec _

/-! ## big.Int codecs -/

theorem unmarshalXML_marshalXML (z : Int) :
    unmarshalXML (marshalXML z) = if z < 0 then .error .negative else .ok z := by
  rw [unmarshalXML, marshalXML, parseDecInt_intToDec]

theorem marshalText_nonneg (z : Int) (h : 0 ≤ z) :
    marshalText z = .ok (b64Encode (natBytesBE z.toNat)) := if_neg (Int.not_lt.mpr h)

theorem marshalJSON_nonneg (z : Int) (h : 0 ≤ z) :
    marshalJSON z = .ok (34 :: b64Encode (natBytesBE z.toNat) ++ [34]) := by
  rw [marshalJSON, marshalText_nonneg z h]

/-- `SetBytes(Bytes(z)) = z` for `z ≥ 0`, in the form the readers return it. -/
theorem ofNat_bytes_toNat {z : Int} (h : 0 ≤ z) : Int.ofNat (ofBytesBE (natBytesBE z.toNat)) = z := by
  rw [ofBytesBE_natBytesBE]
  exact Int.toNat_of_nonneg h

theorem unmarshalJSON_quoted (prev : Int) (bs : List UInt8) :
    unmarshalJSON prev (34 :: b64Encode bs ++ [34]) = .ok (Int.ofNat (ofBytesBE bs)) := by
  rw [List.cons_append, unmarshalJSON, List.dropLast_concat, b64Decode_encode]

theorem jsonUnmarshalInt_quoted (prev : Int) (bs : List UInt8) :
    jsonUnmarshalInt prev (34 :: b64Encode bs ++ [34]) = .ok (Int.ofNat (ofBytesBE bs)) := by
  have htrim : trimWith isJsonWs (34 :: b64Encode bs ++ [34]) = 34 :: (b64Encode bs ++ [34]) := by
    apply trimWith_of_all
    intro c hc
    simp only [List.cons_append, List.mem_cons, List.mem_append, List.not_mem_nil, or_false] at hc
    apply isJsonWs_of_gt
    rcases hc with rfl | hc | rfl
    · omega
    · have := b64Encode_chars bs c hc
      omega
    · omega
  have hany : (b64Encode bs).any (fun c => c < 32 || c == 92 || c == 34) = false := by
    rw [List.any_eq_false]
    intro c hc
    have := b64Encode_chars bs c hc
    simp
    omega
  rw [jsonUnmarshalInt, htrim]
  simp only [List.getLast?_concat, ne_eq, not_true_eq_false, if_false, List.dropLast_concat, hany,
    Bool.false_eq_true]
  exact unmarshalJSON_quoted prev bs

theorem jsonIntBody_natToDec (n : Nat) : jsonIntBody (natToDec n) = true := by
  rcases Nat.eq_zero_or_pos n with rfl | h
  · rw [natToDec_small 0 (by omega)]
    rfl
  · obtain ⟨c, r, hcr, h1, h2⟩ := natToDec_head_pos n h
    have hall : ∀ x ∈ r, isDigit x = true := fun x hx =>
      natToDec_digits n x (hcr ▸ List.mem_cons_of_mem _ hx)
    rw [hcr, jsonIntBody, if_neg (by omega)]
    simpa [h1, h2] using hall

/-! ## CBOR byte strings -/

theorem fixedBE_eq_toBytesFixed (k n : Nat) : fixedBE k n = Der.toBytesFixed k n := by
  induction k with
  | zero => rfl
  | succ k ih =>
    rw [Der.toBytesFixed, ← ih, fixedBE, List.range_succ_eq_map, List.map_cons, List.map_map]
    refine congrArg₂ _ rfl (List.map_congr_left fun i _ => ?_)
    show (n / 256 ^ (k + 1 - 1 - (i + 1)) % 256).toUInt8 = _
    rw [show k + 1 - 1 - (i + 1) = k - 1 - i by omega]

/-- a head octet `0x58..0x5b` followed by the length on `k = 1, 2, 4, 8` octets. -/
theorem cborBytesDecode_long (o : UInt8) (k : Nat) (b : List UInt8) (hb : b.length < 256 ^ k)
    (ho : (o.toNat, k) ∈ [(0x58, 1), (0x59, 2), (0x5a, 4), (0x5b, 8)]) :
    cborBytesDecode? (o :: fixedBE k b.length ++ b) = some b := by
  have hlen : (fixedBE k b.length).length = k := by
    rw [fixedBE_eq_toBytesFixed, Der.toBytesFixed_length]
  have hval : ofBytesBE (fixedBE k b.length) = b.length := by
    rw [fixedBE_eq_toBytesFixed, Der.ofBytesBE_toBytesFixed, Nat.mod_eq_of_lt hb]
  simp only [List.mem_cons, Prod.mk.injEq, List.not_mem_nil, or_false] at ho
  rw [List.cons_append, cborBytesDecode?]
  rcases ho with ⟨ho, rfl⟩ | ⟨ho, rfl⟩ | ⟨ho, rfl⟩ | ⟨ho, rfl⟩ <;>
    simp [ho, List.take_left' hlen, List.drop_left' hlen, hlen, hval]

/-- `2 ^ 64` bounds every length a Go slice can have; the cases are the five forms of the head. -/
theorem cborBytes_roundtrip (b : List UInt8) (h : b.length < 2 ^ 64) :
    cborBytesDecode? (cborBytesHead b.length ++ b) = some b := by
  unfold cborBytesHead
  split_ifs with h1 h2 h3 h4
  · rw [List.singleton_append, cborBytesDecode?]
    simp only [toUInt8_toNat, Nat.mod_eq_of_lt (show 0x40 + b.length < 256 by omega)]
    rw [if_pos (by omega), if_pos (by omega)]
  · exact cborBytesDecode_long 0x58 1 b h2 (by decide)
  · exact cborBytesDecode_long 0x59 2 b h3 (by decide)
  · exact cborBytesDecode_long 0x5a 4 b h4 (by decide)
  · exact cborBytesDecode_long 0x5b 8 b h (by decide)

/-! ## file permissions -/

namespace FilePerm

theorem created_private (p : Proc) : created p 0o600 &&& 0o077 = 0 := by
  rw [created, Nat.and_comm 0o600, Nat.and_assoc, show (0o600 : Nat) &&& 0o077 = 0 from rfl,
    Nat.and_zero]

/-- the mode after a successful call: exactly 0600 after the fchmod of the overwriting branch,
    `0600 & ~umask` for a file that `O_EXCL` has just created. -/
theorem writeToFile_mode {p : Proc} {force : Bool} {prior : Prior} {m : Nat}
    (h : writeToFile p force prior = .ok m) : m = 0o600 ∨ m = created p 0o600 := by
  cases force with
  | false =>
    cases prior with
    | absent => exact .inr (Outcome.ok.inj h).symm
    | _ => cases h
  | true =>
    refine .inl ?_
    cases prior with
    | absent | linkAbsent => exact (Outcome.ok.inj h).symm
    | dir | linkDir => cases h
    | file m' | linkFile m' =>
      change (if mayWrite p m' = true then Outcome.ok 0o600 else .err) = .ok m at h
      split_ifs at h
      exact (Outcome.ok.inj h).symm

end FilePerm

/-! ## compressed event lists -/

namespace Events

theorem rebuild_map {H : Type} (hash : Event H → H) (evs : List (Event H)) (ev : Event H)
    (hc : Chained hash (ev :: evs)) :
    rebuild hash ev.index ev.parent ((ev :: evs).map (·.e)) = ev :: evs := by
  induction evs generalizing ev with
  | nil => rfl
  | cons b rest ih =>
    obtain ⟨hi, hp, hrest⟩ := hc
    have := ih b hrest
    simp only [List.map_cons, rebuild] at this ⊢
    rw [← hi, ← hp, this]

end Events

end Gabi.Serial
