/-
  GabiProofs.DisclosureE2E — the disclosure proof end to end in the unit group of `ZMod n`:
  `ProofD.reconstructZ` and `disclosureCommit` as unit-group expressions, the signed block split
  into disclosed and hidden part, the randomised signature, acceptance of a proof without
  non-revocation and range parts, well-formedness of the honest proof. Completeness and the
  extractor's equation are put together from these in GabiProps/C04E2E.lean.
-/
import GabiModel.Prover
import GabiProofs.IssuanceLemmas
import GabiProofs.Params
import GabiProofs.VerifyLogic
import GabiProofs.ListLogic
import Mathlib.Data.List.Perm.Basic
import Mathlib.Data.List.Nodup

namespace Gabi.E2E

variable {n : ℕ}

/-! ### bases and products over the model's maps -/

/-- the base `R_i` of the key as a unit modulo `n` (junk outside the list). -/
noncomputable def baseU (n : ℕ) (pk : PublicKey) (i : Int) : (ZMod n)ˣ :=
  zunit n (pk.r.getD i.toNat 0)

/-- `∏_{(i, x) ∈ l} R_i ^ f(x)` for an association list of the model. -/
noncomputable def mapU (n : ℕ) (pk : PublicKey) (f : Int → ℤ) (l : IntMap) : (ZMod n)ˣ :=
  Alg.rep (fun kv : Int × Option Int => baseU n pk kv.1) (fun kv => f (kv.2.getD 0)) l

theorem mapU_nil (pk : PublicKey) (f : Int → ℤ) : mapU n pk f [] = 1 := rfl

theorem mapU_cons (pk : PublicKey) (f : Int → ℤ) (i : Int) (x : Option Int) (l : IntMap) :
    mapU n pk f ((i, x) :: l) = baseU n pk i ^ f (x.getD 0) * mapU n pk f l := by
  simp [mapU]

theorem mapU_append (pk : PublicKey) (f : Int → ℤ) (l l' : IntMap) :
    mapU n pk f (l ++ l') = mapU n pk f l * mapU n pk f l' := Alg.rep_append _ _ _ _

theorem mapU_map (pk : PublicKey) (f : Int → ℤ) (g : Int → Int) (l : List Int) :
    mapU n pk f (l.map fun v => (v, some (g v))) = Alg.rep (baseU n pk) (fun v => f (g v)) l := by
  unfold mapU
  rw [Alg.rep_map]
  rfl

theorem intMap_get_of_mem {l : IntMap} (hnd : (l.map (·.1)).Nodup) {kv : Int × Option Int}
    (h : kv ∈ l) : l.get kv.1 = kv.2 := by
  unfold IntMap.get
  rw [lookup_of_mem_nodup hnd (show (kv.1, kv.2) ∈ l from h)]

/-- for a map without duplicate keys the product over its entries is the product over its key
    list of `R_j ^ f(l[j])`. -/
theorem mapU_eq_rep_keys (pk : PublicKey) (f : Int → ℤ) (l : IntMap) (hnd : (l.map (·.1)).Nodup) :
    mapU n pk f l =
      Alg.rep (baseU n pk) (fun j => f ((l.get j).getD 0)) (l.map (·.1)) := by
  unfold mapU
  rw [Alg.rep_map]
  apply Alg.rep_congr
  intro kv hkv
  rw [intMap_get_of_mem hnd hkv]

/-- every entry carries a value and its key is the index of a base of `pk`: what `wellFormed`
    asks of `AResponses` and `ADisclosed`, and what `reconstructZ` needs in order not to panic. -/
abbrev EntriesOK (pk : PublicKey) (l : IntMap) : Prop :=
  ∀ kv ∈ l, kv.2.isSome ∧ 0 ≤ kv.1 ∧ kv.1 < pk.r.length

theorem entriesOK_map {pk : PublicKey} {l : List Int} (g : Int → Int)
    (h : ∀ v ∈ l, 0 ≤ v ∧ v < pk.r.length) : EntriesOK pk (l.map fun v => (v, some (g v))) := by
  intro kv hkv
  obtain ⟨v, hv, rfl⟩ := List.mem_map.mp hkv
  exact ⟨rfl, h v hv⟩

/-! ### the two product loops of `reconstructZ` -/

/-- `prodLoop_rep` for the loops over an `IntMap`: a `loop` that returns its accumulator on `[]` and
    consumes an entry `(i, some x)` by multiplying the accumulator with `R_i ^ f x mod n` ends, on a
    map whose keys are inside the key's bases, with the accumulator times `∏ R_i ^ f x`. -/
theorem prodLoop_spec {β : Type} (hn : 1 < n) (pk : PublicKey) (hN : pk.n = n)
    (hr : ∀ b ∈ pk.r, IsUnit (b : ZMod n)) (f : Int → ℤ) (ret : Int → β)
    (loop : IntMap → Int → GoM β) (hnil : ∀ acc, loop [] acc = .ok (ret acc))
    (hcons : ∀ {i x b t : Int} (l : IntMap) (acc : Int), idx "R[i]" pk.r i = .ok b →
      goExp b (f x) pk.n = some t → loop ((i, some x) :: l) acc = loop l (acc * t))
    {l : IntMap} (hl : EntriesOK pk l) {acc : Int} {u : (ZMod n)ˣ} (hc : (acc : ZMod n) = u) :
    ∃ v : Int, loop l acc = .ok (ret v) ∧
      (v : ZMod n) = ((u * mapU n pk f l : (ZMod n)ˣ) : ZMod n) := by
  refine (prodLoop_rep (fun kv : Int × Option Int => baseU n pk kv.1) (fun kv => f (kv.2.getD 0))
    (fun _ => True) ret loop hnil l ?_ acc u trivial hc).imp fun v h => ⟨h.1, h.2.2⟩
  intro kv hkv l' acc u _ hc
  obtain ⟨i, x⟩ := kv
  obtain ⟨hx, h0, h1⟩ := hl _ hkv
  obtain ⟨x, rfl⟩ := Option.isSome_iff_exists.mp hx
  obtain ⟨b, t, hb, ht, -, -, htc⟩ := idx_base hn pk.r hr "R[i]" i h0 h1 (f x)
  rw [← hN] at ht
  exact ⟨acc * t, hcons l' acc hb ht, trivial, mul_unit hc htc⟩

theorem disclosed_fold_spec (hn : 1 < n) (pk : PublicKey) (hN : pk.n = n)
    (hr : ∀ b ∈ pk.r, IsUnit (b : ZMod n)) {l : IntMap} (hl : EntriesOK pk l) {num0 : Int}
    {u : (ZMod n)ˣ} (hc : (num0 : ZMod n) = u) :
    ∃ v : Int, l.foldlM (ProofD.disclosedStep pk) num0 = .ok v ∧
      (v : ZMod n) = ((u * mapU n pk (attrExp pk.params.Lm) l : (ZMod n)ˣ) : ZMod n) :=
  prodLoop_spec hn pk hN hr (attrExp pk.params.Lm) id
    (fun l acc => l.foldlM (ProofD.disclosedStep pk) acc) (fun _ => rfl)
    (fun l acc hb ht => by
      rw [List.foldlM_cons, ProofD.disclosedStep]
      simp only [deref_some, GoM.ok_bind, hb, ht]
      rfl) hl hc

theorem reconstructZ_go_spec (hn : 1 < n) (pk : PublicKey) (hN : pk.n = n)
    (hr : ∀ b ∈ pk.r, IsUnit (b : ZMod n)) {l : IntMap} (hl : EntriesOK pk l) {rs : Int}
    {u : (ZMod n)ˣ} (hc : (rs : ZMod n) = u) :
    ∃ v : Int, ProofD.reconstructZ.go pk l rs = .ok (some v) ∧
      (v : ZMod n) = ((u * mapU n pk id l : (ZMod n)ˣ) : ZMod n) :=
  prodLoop_spec hn pk hN hr id some (ProofD.reconstructZ.go pk) (fun _ => rfl)
    (fun l acc hb ht => by
      rw [id_eq] at ht
      rw [ProofD.reconstructZ.go]
      simp only [hb, deref_some, GoM.ok_bind, modPow, ht]) hl hc

/-- a proof `reconstructZ` does not reject has its entries inside the key. -/
theorem reconstructZ_entriesOK {pk : PublicKey} {p : ProofD} {z : Int}
    (h : p.reconstructZ pk = .ok (some z)) :
    EntriesOK pk p.aDisclosed ∧ EntriesOK pk p.aResponses := by
  have entry : ∀ {kv : Int × Option Int} {b x : Int}, 0 ≤ kv.1 → pk.r[kv.1.toNat]? = some b →
      kv.2 = some x → kv.2.isSome ∧ 0 ≤ kv.1 ∧ kv.1 < pk.r.length := fun h0 hb hx =>
    ⟨by rw [hx]; rfl, h0, by have := (List.getElem?_eq_some_iff.mp hb).1; omega⟩
  obtain ⟨F⟩ := ProofD.reconstructZ_closed h
  constructor
  · intro kv hkv
    obtain ⟨t, -, b, x, h0, hb, hx, -⟩ := forall₂_mem_left F.disclosed_factors hkv
    exact entry h0 hb hx
  · intro kv hkv
    obtain ⟨t, -, b, x, h0, hb, hx, -⟩ := forall₂_mem_left F.hidden_factors hkv
    exact entry h0 hb hx

/-! ### `reconstructZ` in the unit group -/

/-- `K = Z / (A'^(2^(Le-1)) · ∏_{disclosed} R_i^{attrExp(a_i)})`: the part of the verification
    equation fixed by the reported disclosed values. -/
noncomputable def knownU (n : ℕ) (pk : PublicKey) (a : Int) (disclosed : IntMap) : (ZMod n)ˣ :=
  zunit n pk.z / (zunit n a ^ ((2 : ℤ) ^ (pk.params.Le - 1)) *
    mapU n pk (attrExp pk.params.Lm) disclosed)

/-- the value `reconstructZ` computes: `K^(-c) · A'^ê · S^v̂ · ∏_{hidden} R_j^{ŝ_j}`. -/
noncomputable def reconU (n : ℕ) (pk : PublicKey) (a c er vr : Int) (disclosed hidden : IntMap) :
    (ZMod n)ˣ :=
  knownU n pk a disclosed ^ (-c) * zunit n a ^ er * zunit n pk.s ^ vr * mapU n pk id hidden

/-- on a key whose `Z`, `S`, `R_i` are units, for a proof with all fields present, a unit `A'` and
    all indices inside the key, `reconstructZ` returns the representative in `[0,n)` of `reconU`. -/
theorem reconstructZ_spec (pk : PublicKey) (p : ProofD) (hN : pk.n = n) (hn : 1 < n)
    (hz : IsUnit (pk.z : ZMod n)) (hs : IsUnit (pk.s : ZMod n))
    (hr : ∀ b ∈ pk.r, IsUnit (b : ZMod n))
    {a c er vr : Int} (ha : p.a = some a) (hau : IsUnit (a : ZMod n)) (hc : p.c = some c)
    (her : p.eResponse = some er) (hvr : p.vResponse = some vr)
    (hD : EntriesOK pk p.aDisclosed) (hA : EntriesOK pk p.aResponses) :
    ∃ z : Int, p.reconstructZ pk = .ok (some z) ∧ 0 ≤ z ∧ z < n ∧
      (z : ZMod n) = ((reconU n pk a c er vr p.aDisclosed p.aResponses : (ZMod n)ˣ) : ZMod n) := by
  have hn0 : 0 < n := by omega
  obtain ⟨num0, hnum0, _, _, num0c⟩ := goExp_unit hn hau ((2 : ℤ) ^ (pk.params.Le - 1))
  obtain ⟨num, hnum, numc⟩ := disclosed_fold_spec hn pk hN hr hD num0c
  obtain ⟨inv, hinv, _, _, invc⟩ := goModInverse_unit hn0 (isUnit_of_cast numc)
  rw [zunit_of_cast numc] at invc
  have hknown : ((pk.z * inv : Int) : ZMod n) =
      ((knownU n pk a p.aDisclosed : (ZMod n)ˣ) : ZMod n) := by
    unfold knownU
    rw [div_eq_mul_inv]; push_cast; rw [invc, zunit_val hz]
  obtain ⟨kc, hkc, _, _, kcc⟩ := goExp_unit hn (isUnit_of_cast hknown) (-c)
  rw [zunit_of_cast hknown] at kcc
  obtain ⟨ae, hae, _, _, aec⟩ := goExp_unit hn hau er
  obtain ⟨sv, hsv, _, _, svc⟩ := goExp_unit hn hs vr
  obtain ⟨rs, hrs, rsc⟩ := reconstructZ_go_spec hn pk hN hr hA (rs := 1) (u := 1) (by simp)
  rw [one_mul] at rsc
  rw [← hN] at hnum0 hinv hkc hae hsv
  refine ⟨kc * ae * rs * sv % pk.n, ?_, ?_⟩
  · rw [ProofD.reconstructZ_eq]
    simp only [ha, hc, her, hvr, deref_some, GoM.ok_bind, hnum0, hnum, hinv, modPow, hkc, hae, hsv,
      hrs]
    rfl
  · rw [hN]
    refine ⟨(emod_range hn0 _).1, (emod_range hn0 _).2, ?_⟩
    rw [ZMod.intCast_mod]; unfold reconU; push_cast
    rw [kcc, aec, svc, rsc]
    ring

/-! ### the prover's commitment in the unit group -/

/-- `DisclosureProofBuilder.Commit` returns `[A', Z~]` with
    `Z~ = A'^ẽ · S^ṽ · ∏_{hidden} R_j^{r_j}` reduced modulo `n`. -/
theorem disclosureCommit_spec (pk : PublicKey) (sigR : CLSignature) (rnd : DisclosureRandomness)
    (U : List Int) (hN : pk.n = n) (hn : 1 < n) (hs : IsUnit (pk.s : ZMod n))
    (hr : ∀ b ∈ pk.r, IsUnit (b : ZMod n)) (hau : IsUnit (sigR.a : ZMod n))
    (hU : ∀ v ∈ U, 0 ≤ v ∧ v < pk.r.length) :
    ∃ zc : Int, disclosureCommit pk sigR rnd U = .ok [sigR.a, zc] ∧ 0 ≤ zc ∧ zc < n ∧
      (zc : ZMod n) = ((zunit n sigR.a ^ rnd.eCommit * zunit n pk.s ^ rnd.vCommit *
        Alg.rep (baseU n pk) rnd.attrRand U : (ZMod n)ˣ) : ZMod n) := by
  have hn0 : 0 < n := by omega
  obtain ⟨ae, hae, _, _, aec⟩ := goExp_unit hn hau rnd.eCommit
  obtain ⟨sv, hsv, _, _, svc⟩ := goExp_unit hn hs rnd.vCommit
  have h1 : ((1 : Int) : ZMod n) = ((1 : (ZMod n)ˣ) : ZMod n) := by simp
  obtain ⟨m0, m1, mc⟩ := mul_emod_unit hn0 (mul_unit h1 aec) svc
  obtain ⟨z, hz, z0, z1, zc⟩ := foldlM_mod_spec hn pk.r hr "R[v]" "ModPow" (fun v => v) rnd.attrRand U _ _ hU
    m0 m1 mc
  rw [one_mul] at zc
  refine ⟨z, ?_, z0, z1, zc⟩
  rw [← hN] at hae hsv hz
  unfold disclosureCommit
  simp only [modPow, hae, hsv, deref_some, GoM.ok_bind, Option.getD_none, hz]
  rfl

/-! ### the signed block split into disclosed and hidden part -/

/-- `RepresentToBases` as a product over the index list `0 … len-1`. -/
theorem repU_eq_rep_range (pk : PublicKey) (lm : ℕ) (exps : List Int)
    (h : exps.length ≤ pk.r.length) :
    repU n lm pk.r exps =
      Alg.rep (baseU n pk) (fun j => attrExp lm (exps.getD j.toNat 0))
        ((List.range exps.length).map Int.ofNat) := by
  rw [repU_eq_range lm pk.r exps h, Alg.rep_map]
  rfl

theorem mem_range_map_ofNat {len : ℕ} {a : Int} :
    a ∈ (List.range len).map Int.ofNat ↔ 0 ≤ a ∧ a < (len : Int) := by
  simp only [List.mem_map, List.mem_range, Int.ofNat_eq_natCast]
  exact ⟨fun ⟨i, hi, h⟩ => by omega, fun h => ⟨a.toNat, by omega, by omega⟩⟩

/-- disclosed and hidden indices together are a rearrangement of `0 … len-1`. -/
theorem complement_perm (D : List Int) (len : ℕ) (hnd : D.Nodup)
    (hD : ∀ v ∈ D, 0 ≤ v ∧ v < (len : Int)) :
    (D ++ complementList D len).Perm ((List.range len).map Int.ofNat) := by
  rw [List.perm_ext_iff_of_nodup]
  · intro a
    rw [List.mem_append, mem_complementList, mem_range_map_ofNat]
    constructor
    · rintro (h | ⟨h0, h1, -⟩)
      · exact hD a h
      · exact ⟨h0, h1⟩
    · rintro ⟨h0, h1⟩
      exact (em (a ∈ D)).imp_right fun h => ⟨h0, h1, h⟩
  · rw [List.nodup_append]
    exact ⟨hnd, (complementList_sorted D len).imp ne_of_lt,
      fun a ha b hb hab => ((mem_complementList D len b).mp hb).2.2 (hab ▸ ha)⟩
  · exact List.nodup_range.map fun _ _ => Int.ofNat.inj

theorem repU_split (pk : PublicKey) (lm : ℕ) (attrs D : List Int)
    (h : attrs.length ≤ pk.r.length) (hnd : D.Nodup)
    (hD : ∀ v ∈ D, 0 ≤ v ∧ v < (attrs.length : Int)) :
    repU n lm pk.r attrs =
      Alg.rep (baseU n pk) (fun j => attrExp lm (attrs.getD j.toNat 0)) D *
      Alg.rep (baseU n pk) (fun j => attrExp lm (attrs.getD j.toNat 0))
        (complementList D attrs.length) := by
  rw [repU_eq_rep_range pk lm attrs h, ← Alg.rep_append]
  exact (((complement_perm D attrs.length hnd hD).map _).prod_eq).symm

/-! ### the randomised signature in the unit group -/

/-- the randomised signature satisfies the verification equation, split into disclosed and
    hidden part. -/
theorem randomized_sig_eq (isPrime : Nat → Bool) (pk : PublicKey) (sig : CLSignature)
    (attrs D : List Int) (rr : Int)
    (hN : pk.n = n) (hn : 1 < n) (hz : IsUnit (pk.z : ZMod n)) (hs : IsUnit (pk.s : ZMod n))
    (hr : ∀ b ∈ pk.r, IsUnit (b : ZMod n)) (hlen : attrs.length ≤ pk.r.length)
    (hkp : sig.keyshareP = none) (h : clVerifyWith isPrime pk sig attrs = .ok true)
    (hnd : D.Nodup) (hD : ∀ v ∈ D, 0 ≤ v ∧ v < (attrs.length : Int)) :
    IsUnit ((clRandomize pk sig rr).a : ZMod n) ∧
    zunit n (clRandomize pk sig rr).a ^ sig.e *
        Alg.rep (baseU n pk) (fun j => attrExp pk.params.Lm (attrs.getD j.toNat 0)) D *
        Alg.rep (baseU n pk) (fun j => attrExp pk.params.Lm (attrs.getD j.toNat 0))
          (complementList D attrs.length) *
        zunit n pk.s ^ (sig.v - sig.e * rr) = zunit n pk.z := by
  obtain ⟨hua, heq⟩ := clVerifyWith_repU isPrime pk sig attrs hN hn hz hs hr hlen hkp h
  obtain ⟨hua', ha', _, _⟩ := clRandomize_unit pk sig rr hN hn hs hua
  refine ⟨hua', ?_⟩
  have := Alg.cl_randomize rr heq
  rw [repU_split pk pk.params.Lm attrs D hlen hnd hD, ← mul_assoc, ← ha'] at this
  exact this

/-! ### acceptance of a plain proof (no non-revocation, no range part); the honest proof exists and
is well-formed -/

/-- `ChallengeContribution` of a proof without non-revocation and range parts: `[A', Z~]`, the
    proof is unchanged. -/
theorem challengeContribution_plain (o : SigOracle) (kid : String) (pk : PublicKey) (p : ProofD)
    (i : Int) {a z c : Int} (hw : p.wellFormed pk = true) (hz : p.reconstructZ pk = .ok (some z))
    (ha : p.a = some a) (hc : p.c = some c) (hnr : p.nonrev = none) (hrp : p.rangeProofs = none) :
    (p.challengeContribution o kid pk i).run = .ok (some ([a, z], p)) := by
  have hrc : (p.rangeContributions pk c).run = .ok (some ([], none)) := by
    unfold ProofD.rangeContributions
    simp only [hrp]
    rfl
  unfold ProofD.challengeContribution
  simp only [hw, Bool.not_true, Bool.false_eq_true, if_false]
  rw [GoE.run_bind_ok_some_iff]
  refine ⟨z, hz, ?_⟩
  rw [GoE.run_bind_ok_some_iff]
  refine ⟨a, (GoE.run_liftM_ok_some_iff _ _).mpr (by rw [ha]; rfl), ?_⟩
  rw [GoE.run_bind_ok_some_iff]
  refine ⟨c, (GoE.run_liftM_ok_some_iff _ _).mpr (by rw [hc]; rfl), ?_⟩
  simp only [hnr]
  rw [GoE.run_bind_ok_some_iff]
  refine ⟨([], none), hrc, ?_⟩
  have : ({ p with nonrev := none, rangeProofs := none } : ProofD) = p := by
    cases p; simp only at hrp hnr; subst hrp hnr; rfl
  simp only [GoE.run_pure, List.append_nil]
  rw [this]

theorem verifyWithChallenge_plain (o : SigOracle) (kid : String) (pk : PublicKey) (p : ProofD)
    (i : Int) {c' : Int} (hw : p.wellFormed pk = true) (hnr : p.nonrev = none)
    (hsz : p.correctResponseSizes pk = .ok true) (hc : p.c = some c') :
    p.verifyWithChallenge o kid pk i c' = .ok (true, none) := by
  unfold ProofD.verifyWithChallenge
  simp only [hw, hnr, hsz, hc, Bool.not_true, Bool.false_eq_true, if_false, GoM.pure_eq_ok,
    GoM.ok_bind, deref_some, decide_true]

/-- `ProofD.Verify` accepts a well-formed proof without non-revocation / range parts whose
    challenge is the hash of `[A', reconstructed Z~]` and whose responses have the right sizes. -/
theorem verifyWith_plain (o : SigOracle) (kid : String) (pk : PublicKey) (p : ProofD)
    (ctx nonce : Int) (issig : Bool) (i1 i2 : Int) {a z : Int}
    (hw : p.wellFormed pk = true) (hz : p.reconstructZ pk = .ok (some z))
    (ha : p.a = some a) (hc : p.c = some ((createChallenge ctx nonce [a, z] issig : Nat) : Int))
    (hnr : p.nonrev = none) (hrp : p.rangeProofs = none)
    (hsz : p.correctResponseSizes pk = .ok true) :
    p.verifyWith o kid pk ctx nonce issig i1 i2 = .ok true := by
  unfold ProofD.verifyWith
  rw [challengeContribution_plain o kid pk p i1 hw hz ha hc hnr hrp]
  simp only [GoM.ok_bind]
  rw [verifyWithChallenge_plain o kid pk p i2 hw hnr hsz hc]
  rfl

/-- `Credential.CreateDisclosureProof` succeeds when the disclosed indices are inside the
    attribute list and the key has enough invertible bases. -/
theorem createDisclosureProof_isOk (pk : PublicKey) (sig : CLSignature)
    (attrs D : List Int) (rnd : DisclosureRandomness) (ctx nonce : Int) (issig : Bool)
    (hN : pk.n = n) (hn : 1 < n) (hs : IsUnit (pk.s : ZMod n))
    (hr : ∀ b ∈ pk.r, IsUnit (b : ZMod n)) (hlen : attrs.length ≤ pk.r.length)
    (hua : IsUnit (sig.a : ZMod n)) (hD : ∀ v ∈ D, 0 ≤ v ∧ v < (attrs.length : Int)) :
    ∃ p, createDisclosureProof pk sig attrs D rnd ctx nonce issig = .ok p := by
  obtain ⟨hua', _⟩ := clRandomize_unit pk sig rnd.r hN hn hs hua
  have hU : ∀ v ∈ complementList D attrs.length, 0 ≤ v ∧ v < (attrs.length : Int) := by
    intro v hv
    have := (mem_complementList D attrs.length v).mp hv
    omega
  obtain ⟨zc, hzc, _⟩ := disclosureCommit_spec pk (clRandomize pk sig rnd.r) rnd
    (complementList D attrs.length) hN hn hs hr hua' (fun v hv => by have := hU v hv; omega)
  unfold createDisclosureProof
  rw [getUndisclosed_of_bounds hD]
  simp only [GoM.ok_bind, hzc]
  rw [disclosureCreateProof_eq, if_pos]
  · exact ⟨_, rfl⟩
  · exact ⟨fun v hv => by have := hU v hv; omega, fun v hv => by have := hD v hv; omega⟩

/-- an honest disclosure proof is well-formed for the key, provided no disclosed attribute is
    negative and longer than `Lm` bits (`wellFormed` refuses such a disclosed value; without
    `hneg` the statement is false, e.g. for `attrs = [0, -(2^300)]`, `D = [1]`, `Lm = 256`). -/
theorem honest_wellFormed (pk : PublicKey) (sig : CLSignature)
    (attrs D : List Int) (rnd : DisclosureRandomness) (ctx nonce : Int) (issig : Bool)
    (hlen : attrs.length ≤ pk.r.length) (hpos : 0 < attrs.length)
    (hD : ∀ v ∈ D, 1 ≤ v)
    (hneg : ∀ v ∈ D, ∀ a, attrs[v.toNat]? = some a → ¬ (a < 0 ∧ bitLen a > pk.params.Lm)) {p : ProofD}
    (h : createDisclosureProof pk sig attrs D rnd ctx nonce issig = .ok p) :
    p.wellFormed pk = true ∧ p.nonrev = none ∧ p.rangeProofs = none := by
  obtain ⟨commit, hDr, _, hp⟩ := createDisclosureProof_ok h
  obtain ⟨-, rfl⟩ := disclosureCreateProof_ok hp
  have hmemU := mem_complementList D attrs.length
  refine ⟨?_, rfl, rfl⟩
  rw [ProofD.wellFormed_iff]
  refine ⟨⟨rfl, rfl, rfl, rfl⟩, ?_, ?_, ?_, ?_, ?_⟩
  · -- index 0, the secret key, is hidden
    show (IntMap.get (List.map _ _) 0).isSome
    rw [IntMap.get, lookup_map_self, if_pos]
    · rfl
    · exact (hmemU 0).mpr ⟨le_refl _, by omega, fun h0 => by have := hD 0 h0; omega⟩
  · exact entriesOK_map _ fun v hv => by have := (hmemU v).mp hv; omega
  · intro kv hkv
    obtain ⟨v, hv, rfl⟩ := List.mem_map.mp hkv
    have := hDr v hv
    refine ⟨rfl, this.1, by simp only; omega, ?_⟩
    show IntMap.has (List.map _ _) v = false
    rw [IntMap.has, lookup_map_self, if_neg fun hh => ((hmemU v).mp hh).2.2 hv]
    rfl
  · intro kv hkv
    cases hkv
  · intro kv hkv a ha
    obtain ⟨v, hv, rfl⟩ := List.mem_map.mp hkv
    have hlt : v.toNat < attrs.length := by have := hDr v hv; omega
    refine hneg v hv a ?_
    rw [← Option.some.inj ha, List.getD_eq_getElem?_getD, List.getElem?_eq_getElem hlt,
      Option.getD_some]

end Gabi.E2E

