/-
  GabiProofs.GroupAlgebra — the algebraic core of the CL-signature / Idemix protocols in an
  arbitrary commutative group `G` (integer exponents).  Nothing here mentions the executable
  model; `GabiProofs.Bridge` transports these statements to `(ZMod n)ˣ` and from there to
  `goExp`/`modPow` of the model.

  Conventions: `rep R m l = ∏_{j ∈ l} R j ^ m j` for a list `l` of indices (indices may repeat,
  nothing depends on `l` being duplicate free).
-/
import Mathlib.Algebra.Group.Basic
import Mathlib.Algebra.Group.TypeTags.Basic
import Mathlib.Algebra.BigOperators.Group.List.Basic
import Mathlib.Tactic.Module
import Mathlib.Tactic.LinearCombination
import Mathlib.Tactic.Ring
import Mathlib.Data.ZMod.Basic

namespace Gabi.Alg

variable {G : Type*} [CommGroup G] {ι : Type*}

/-- `∏_{j ∈ l} R j ^ m j`. -/
def rep (R : ι → G) (m : ι → ℤ) (l : List ι) : G := (l.map fun j => R j ^ m j).prod

@[simp] theorem rep_nil (R : ι → G) (m : ι → ℤ) : rep R m [] = 1 := rfl

@[simp] theorem rep_cons (R : ι → G) (m : ι → ℤ) (i : ι) (l : List ι) :
    rep R m (i :: l) = R i ^ m i * rep R m l := by
  simp [rep]

theorem rep_append (R : ι → G) (m : ι → ℤ) (l l' : List ι) :
    rep R m (l ++ l') = rep R m l * rep R m l' := by
  simp [rep]

theorem rep_add (R : ι → G) (a b : ι → ℤ) (l : List ι) :
    rep R (fun j => a j + b j) l = rep R a l * rep R b l := by
  induction l with
  | nil => simp
  | cons i l ih => simp only [rep_cons, ih, zpow_add]; exact mul_mul_mul_comm _ _ _ _

theorem rep_const_mul (R : ι → G) (c : ℤ) (a : ι → ℤ) (l : List ι) :
    rep R (fun j => c * a j) l = rep R a l ^ c := by
  induction l with
  | nil => simp
  | cons i l ih => rw [rep_cons, rep_cons, ih, mul_zpow, zpow_mul']

theorem rep_neg (R : ι → G) (a : ι → ℤ) (l : List ι) :
    rep R (fun j => - a j) l = (rep R a l)⁻¹ := by
  induction l with
  | nil => simp
  | cons i l ih => simp only [rep_cons, ih, zpow_neg, mul_inv]

theorem rep_sub (R : ι → G) (a b : ι → ℤ) (l : List ι) :
    rep R (fun j => a j - b j) l = rep R a l / rep R b l := by
  simp only [sub_eq_add_neg]
  rw [rep_add, rep_neg, div_eq_mul_inv]

theorem rep_map {κ : Type*} (R : κ → G) (m : κ → ℤ) (f : ι → κ) (l : List ι) :
    rep R m (l.map f) = rep (fun i => R (f i)) (fun i => m (f i)) l := by
  unfold rep
  rw [List.map_map]
  rfl

theorem rep_congr_base {R R' : ι → G} (m : ι → ℤ) {l : List ι} (h : ∀ j ∈ l, R j = R' j) :
    rep R m l = rep R' m l := by
  unfold rep
  rw [List.map_congr_left fun j hj => by rw [h j hj]]

theorem rep_congr (R : ι → G) {a b : ι → ℤ} {l : List ι} (h : ∀ j ∈ l, a j = b j) :
    rep R a l = rep R b l := by
  unfold rep
  rw [List.map_congr_left fun j hj => by rw [h j hj]]

theorem rep_zero (R : ι → G) (m : ι → ℤ) (l : List ι) (h : ∀ j ∈ l, m j = 0) : rep R m l = 1 := by
  induction l with
  | nil => rfl
  | cons a l ih =>
    rw [rep_cons, h a (List.mem_cons_self ..), zpow_zero, one_mul,
      ih (fun j hj => h j (List.mem_cons_of_mem _ hj))]

theorem rep_single [DecidableEq ι] (R : ι → G) (k : ι) (x : ℤ) {l : List ι} (hl : l.Nodup)
    (hk : k ∈ l) : rep R (fun j => if j = k then x else 0) l = R k ^ x := by
  unfold rep
  rw [List.prod_map_eq_pow_single k _ fun j hj _ => by beta_reduce; rw [if_neg hj, zpow_zero],
    List.count_eq_one_of_mem hl hk, pow_one]
  beta_reduce
  rw [if_pos rfl]

/-- `rep` over a list of (index, exponent) pairs, the shape of the model's `IntMap`s. -/
theorem rep_pairs_eq (R : ι → G) (l : List (ι × ℤ)) :
    rep (fun kv : ι × ℤ => R kv.1) (fun kv => kv.2) l = (l.map fun kv => R kv.1 ^ kv.2).prod := rfl

/-! ### elements of exponent dividing `k` are closed under the group operations -/

section exponent
variable {x y : G} {k : ℤ}

theorem mul_zpow_eq_one (hx : x ^ k = 1) (hy : y ^ k = 1) : (x * y) ^ k = 1 := by
  rw [mul_zpow, hx, hy, mul_one]

theorem div_zpow_eq_one (hx : x ^ k = 1) (hy : y ^ k = 1) : (x / y) ^ k = 1 := by
  rw [div_zpow, hx, hy, div_one]

theorem zpow_zpow_eq_one (hx : x ^ k = 1) (a : ℤ) : (x ^ a) ^ k = 1 := by
  rw [zpow_comm, hx, one_zpow]

end exponent

theorem rep_zpow_eq_one (R : ι → G) (m : ι → ℤ) (l : List ι) (k : ℤ)
    (h : ∀ j ∈ l, R j ^ k = 1) : rep R m l ^ k = 1 := by
  induction l with
  | nil => exact one_zpow k
  | cons i l ih =>
    rw [rep_cons]
    exact mul_zpow_eq_one (zpow_zpow_eq_one (h i List.mem_cons_self) _)
      (ih fun j hj => h j (List.mem_cons_of_mem _ hj))

/-! ### a small decision procedure: move to `Additive G`, a ℤ-module, and use `module` -/

omit [CommGroup G] in
theorem ofMul_congr {a b : G} (h : a = b) : Additive.ofMul a = Additive.ofMul b := congrArg _ h

/-- `to_additive_goal` rewrites a goal `lhs = rhs` in a commutative group `G` as the same
    equation in the ℤ-module `Additive G`; `module` / `linear_combination (norm := module)` then
    finish (hypotheses are translated with `ofMul_congr` + `simp only [ofMul_mul, ofMul_zpow, …]`). -/
macro "to_additive_goal" : tactic =>
  `(tactic| (apply Additive.ofMul.injective
             try simp only [ofMul_mul, ofMul_zpow, ofMul_div, ofMul_inv, ofMul_one]))

/-! ### two accepting transcripts with the same first message -/

theorem zpow_sub_div (x : G) (a b : ℤ) : x ^ (a - b) = x ^ a / x ^ b := by
  rw [zpow_sub, div_eq_mul_inv]

/-- two accepting transcripts `K^(-c)·X = T = K^(-c')·X'` with the same first message `T` give
    `K^(c-c') = X/X'`: the core of every special-soundness statement of this file. -/
theorem two_transcripts {K X X' T : G} {c c' : ℤ} (h1 : K ^ (-c) * X = T) (h2 : K ^ (-c') * X' = T) :
    K ^ (c - c') = X / X' := by
  have hX : X = K ^ c * T := by
    rw [← h1, ← mul_assoc, ← zpow_add, add_neg_cancel, zpow_zero, one_mul]
  have hX' : X' = K ^ c' * T := by
    rw [← h2, ← mul_assoc, ← zpow_add, add_neg_cancel, zpow_zero, one_mul]
  rw [hX, hX', mul_div_mul_right_eq_div, zpow_sub_div]

/-! ### CL signatures -/

/-- the signing equation: an `e`-th root `A` of `Q = Z / (S^v · R)` verifies. -/
theorem cl_sign_verifies {A R S Z : G} {e v : ℤ} (h : A ^ e = Z / (S ^ v * R)) :
    A ^ e * R * S ^ v = Z := by
  rw [h, mul_assoc, mul_comm R, div_mul_cancel]

/-- the issuer's computation: with `Q = Z / (S^v · R)` of order dividing `ord`,
    `d·e ≡ 1 (mod ord)` and `A = Q^d`, the signature verifies. -/
theorem cl_sign_verifies_of_inverse {A Q R S Z : G} {e v d ord k : ℤ}
    (hQ : Q = Z / (S ^ v * R)) (hord : Q ^ ord = 1) (hd : d * e = 1 + k * ord) (hA : A = Q ^ d) :
    A ^ e * R * S ^ v = Z := by
  apply cl_sign_verifies
  rw [← hQ, hA, ← zpow_mul, hd, zpow_add, zpow_one, mul_comm k, zpow_mul, hord, one_zpow, mul_one]

theorem cl_randomize {A R S Z : G} {e v : ℤ} (r : ℤ) (h : A ^ e * R * S ^ v = Z) :
    (A * S ^ r) ^ e * R * S ^ (v - e * r) = Z := by
  subst h
  to_additive_goal
  module

/-- the group identity behind issuance: the issuer signs the block `RI · U` with `v`, where
    `U = S^v' · R0s · KV · K` is the holder's commitment (`R0s` the secret-key factor, `KV` the
    product over the holder's attributes, `K` the keyshare factor); this is the verification
    equation of the credential `(A, e, v + v')` for the block `RI · R0s · KV · K`. -/
theorem issuance_algebra {A RI R0s KV K S Z : G} {e v v' : ℤ}
    (h : A ^ e * (RI * (S ^ v' * R0s * KV * K)) * S ^ v = Z) :
    A ^ e * (RI * (R0s * KV) * K) * S ^ (v + v') = Z := by
  rw [zpow_add, ← h]
  ac_rfl

/-- the state transformation of `CLSignature.Randomize` on `(A, v)`. -/
def randStep (S : G) (e : ℤ) (Av : G × ℤ) (r : ℤ) : G × ℤ := (Av.1 * S ^ r, Av.2 - e * r)

theorem cl_randomize_list {R S Z : G} {e : ℤ} (rs : List ℤ) (Av : G × ℤ)
    (h : Av.1 ^ e * R * S ^ Av.2 = Z) :
    ((rs.foldl (randStep S e) Av).1) ^ e * R * S ^ (rs.foldl (randStep S e) Av).2 = Z := by
  induction rs generalizing Av with
  | nil => exact h
  | cons r rs ih => exact ih _ (cl_randomize r h)

/-- closed form of the iterated randomisation. -/
theorem randStep_foldl (S : G) (e : ℤ) (rs : List ℤ) (Av : G × ℤ) :
    rs.foldl (randStep S e) Av = (Av.1 * S ^ rs.sum, Av.2 - e * rs.sum) := by
  induction rs generalizing Av with
  | nil => simp
  | cons r rs ih =>
    rw [List.foldl_cons, ih]
    simp only [randStep, List.sum_cons, zpow_add, mul_assoc]
    congr 1; ring

/-- one signature `(A, e, v)` verifying for two blocks forces the blocks to be equal. -/
theorem cl_binds_block {A R R' S Z : G} {e v : ℤ}
    (h : A ^ e * R * S ^ v = Z) (h' : A ^ e * R' * S ^ v = Z) : R = R' :=
  mul_left_cancel (mul_right_cancel (h.trans h'.symm))

/-- one signature `(A, e, v)` verifying for two blocks `∏ R_i^{m_i}` and `∏ R_i^{m'_i}` over the
    same index list gives `∏ R_i^{m_i - m'_i} = 1`: a non-trivial relation among the bases unless
    `m = m'`. -/
theorem cl_binds_block_rep {A S Z : G} {e v : ℤ} (Rb : ι → G) (m m' : ι → ℤ) (l : List ι)
    (h : A ^ e * rep Rb m l * S ^ v = Z) (h' : A ^ e * rep Rb m' l * S ^ v = Z) :
    rep Rb (fun j => m j - m' j) l = 1 := by
  rw [rep_sub, cl_binds_block h h', div_self']

/-! ### disclosure proofs (ProofD) -/

/-- completeness of the disclosure proof. `D` disclosed, `H` hidden indices,
    `E0 = 2^(le-1)` (any integer here). -/
theorem proofD_complete {A' S Z : G} (R : ι → G) (D H : List ι) (a m rr : ι → ℤ)
    {e v' eC vC c E0 : ℤ}
    (hsig : A' ^ e * rep R a D * rep R m H * S ^ v' = Z) :
    (Z / (A' ^ E0 * rep R a D)) ^ (-c) * A' ^ (eC + c * (e - E0)) * S ^ (vC + c * v') *
        rep R (fun j => rr j + c * m j) H
      = A' ^ eC * S ^ vC * rep R rr H := by
  subst hsig
  rw [rep_add, rep_const_mul]
  to_additive_goal
  module

/-- special soundness of the disclosure proof: two accepting transcripts with the same
    first message (`A'`, disclosed part `K`, commitment `T`) give a representation of
    `K^(c - c')`. (For `c ≠ c'` this is a non-trivial relation; with `c = c'` it is vacuous.) -/
theorem proofD_special_soundness {A' S K T : G} (R : ι → G) (H : List ι) (s s' : ι → ℤ)
    {c c' eR eR' vR vR' : ℤ}
    (h1 : K ^ (-c) * A' ^ eR * S ^ vR * rep R s H = T)
    (h2 : K ^ (-c') * A' ^ eR' * S ^ vR' * rep R s' H = T) :
    K ^ (c - c') = A' ^ (eR - eR') * S ^ (vR - vR') * rep R (fun j => s j - s' j) H := by
  rw [rep_sub, zpow_sub_div A', zpow_sub_div S, div_mul_div_comm, div_mul_div_comm]
  exact two_transcripts (by simpa only [mul_assoc] using h1) (by simpa only [mul_assoc] using h2)

/-- unfolding `K = Z / (A'^E0 · P)`, `P` the product over the disclosed part, in the relation that
    special soundness gives for `K^(c-c')` (`X` the product over the hidden part). -/
theorem proofD_extract_of_known {A' S Z P X : G} {c c' eR eR' vR vR' E0 : ℤ}
    (h : (Z / (A' ^ E0 * P)) ^ (c - c') = A' ^ (eR - eR') * S ^ (vR - vR') * X) :
    A' ^ (E0 * (c - c') + (eR - eR')) * P ^ (c - c') * X * S ^ (vR - vR') = Z ^ (c - c') := by
  -- `Z = K · (A'^E0 · P)`
  rw [← div_mul_cancel Z (A' ^ E0 * P), mul_zpow, h]
  to_additive_goal
  module

/-- unfolding `K = Z / (A'^E0 · ∏_D R_i^{a_i})`: the two transcripts
    yield `Z^(c-c') = A'^(E0·(c-c') + (eR-eR')) · (∏_D R_i^{a_i})^(c-c') · ∏_H R_j^{s_j-s'_j} ·
    S^(vR-vR')`, i.e. a CL-signature-shaped relation "in the exponent `c - c'`". -/
theorem proofD_extract {A' S Z T : G} (R : ι → G) (D H : List ι) (a s s' : ι → ℤ)
    {c c' eR eR' vR vR' E0 : ℤ}
    (h1 : (Z / (A' ^ E0 * rep R a D)) ^ (-c) * A' ^ eR * S ^ vR * rep R s H = T)
    (h2 : (Z / (A' ^ E0 * rep R a D)) ^ (-c') * A' ^ eR' * S ^ vR' * rep R s' H = T) :
    A' ^ (E0 * (c - c') + (eR - eR')) * rep R (fun j => (c - c') * a j) D *
        rep R (fun j => s j - s' j) H * S ^ (vR - vR') = Z ^ (c - c') := by
  rw [rep_const_mul]
  exact proofD_extract_of_known (proofD_special_soundness R H s s' h1 h2)

/-! ### ProofU (commitment to the user's secrets at issuance) -/

theorem proofU_complete {S R0 : G} (R : ι → G) (L : List ι) (m mt : ι → ℤ)
    {v' s vt st c : ℤ} :
    (S ^ v' * R0 ^ s * rep R m L) ^ (-c) * S ^ (vt + c * v') * R0 ^ (st + c * s) *
        rep R (fun j => mt j + c * m j) L
      = S ^ vt * R0 ^ st * rep R mt L := by
  rw [rep_add, rep_const_mul]
  to_additive_goal
  module

theorem proofU_special_soundness {U Ut S R0 : G} (R : ι → G) (L : List ι) (mR mR' : ι → ℤ)
    {c c' vR vR' sR sR' : ℤ}
    (h1 : U ^ (-c) * S ^ vR * R0 ^ sR * rep R mR L = Ut)
    (h2 : U ^ (-c') * S ^ vR' * R0 ^ sR' * rep R mR' L = Ut) :
    U ^ (c - c') = S ^ (vR - vR') * R0 ^ (sR - sR') * rep R (fun j => mR j - mR' j) L := by
  rw [rep_sub, zpow_sub_div S, zpow_sub_div R0, div_mul_div_comm, div_mul_div_comm]
  exact two_transcripts (by simpa only [mul_assoc] using h1) (by simpa only [mul_assoc] using h2)

/-! ### ProofS (the issuer knows `d = e⁻¹`) -/

/-- `Q = A^e` is what the verifier recomputes, `A = Q^d` is what the issuer computed,
    `Q^ord = 1`, and the response is any representative of `eC - c·d` modulo `ord`. -/
theorem proofS_complete {A Q : G} {e d ord eC eR c k : ℤ}
    (hQ : Q = A ^ e) (hA : A = Q ^ d) (hord : Q ^ ord = 1) (heR : eR = eC - c * d + k * ord) :
    A ^ (c + eR * e) = Q ^ eC := by
  have hAc : A ^ c = Q ^ (d * c) := by rw [zpow_mul, ← hA]
  have hk : Q ^ (k * ord) = 1 := by rw [mul_comm, zpow_mul, hord, one_zpow]
  rw [zpow_add, mul_comm eR e, zpow_mul, ← hQ, hAc, ← zpow_add, heR]
  have : d * c + (eC - c * d + k * ord) = eC + k * ord := by ring
  rw [this, zpow_add, hk, mul_one]

/-- the hypothesis `Q^(e·d) = Q` (instead of `A = Q^d`) is *not* sufficient for completeness of
    ProofS: `G = C₆ = ⟨g⟩`, `A = g`, `e = 3`, `Q = g³`, `d = 1`, `ord = 2`, `eC = 0`, `c = 1`,
    `eR = -1`. -/
example : ∃ (A Q : Multiplicative (ZMod 6)) (e d ord eC eR c : ℤ),
    Q = A ^ e ∧ Q ^ (e * d) = Q ∧ Q ^ ord = 1 ∧ eR = eC - c * d ∧ A ^ (c + eR * e) ≠ Q ^ eC := by
  refine ⟨Multiplicative.ofAdd 1, Multiplicative.ofAdd 3, 3, 1, 2, 0, -1, 1, ?_, ?_, ?_, ?_, ?_⟩
  all_goals
    simp only [← ofAdd_zsmul, ← ofAdd_zero, ne_eq, Multiplicative.ofAdd.injective.eq_iff, mul_one]
  all_goals decide

/-- `proofS_complete` from what the model provides: `A^ord = 1` and `e·d = 1 + j·ord`. -/
theorem proofS_complete' {A : G} {e d ord eC eR c k j : ℤ}
    (hord : A ^ ord = 1) (hd : e * d = 1 + j * ord) (heR : eR = eC - c * d + k * ord) :
    A ^ (c + eR * e) = (A ^ e) ^ eC := by
  refine proofS_complete rfl ?_ ?_ heR
  · rw [← zpow_mul, hd, zpow_add, zpow_one, mul_comm j, zpow_mul, hord, one_zpow, mul_one]
  · rw [← zpow_mul, mul_comm, zpow_mul, hord, one_zpow]

/-- special soundness of ProofS: two accepting transcripts with the same commitment `AC` show that
    the order of `A` divides `(c - c') + (eR - eR')·e`. -/
theorem proofS_special_soundness {A AC : G} {e c c' eR eR' : ℤ}
    (h1 : A ^ (c + eR * e) = AC) (h2 : A ^ (c' + eR' * e) = AC) :
    A ^ ((c - c') + (eR - eR') * e) = 1 := by
  have : (c - c') + (eR - eR') * e = (c + eR * e) - (c' + eR' * e) := by ring
  rw [this, zpow_sub, h1, h2, mul_inv_cancel]

/-! ### linked secrets -/

/-- `proofD_special_soundness` with the secret-key index `i0` split off the hidden list. -/
theorem proofD_special_soundness_sk {A' S K T : G} (R : ι → G) (i0 : ι) (H : List ι) (s s' : ι → ℤ)
    {c c' eR eR' vR vR' : ℤ}
    (h1 : K ^ (-c) * A' ^ eR * S ^ vR * rep R s (i0 :: H) = T)
    (h2 : K ^ (-c') * A' ^ eR' * S ^ vR' * rep R s' (i0 :: H) = T) :
    K ^ (c - c') =
      A' ^ (eR - eR') * S ^ (vR - vR') * (R i0 ^ (s i0 - s' i0) * rep R (fun j => s j - s' j) H) := by
  have := proofD_special_soundness R (i0 :: H) s s' h1 h2
  rwa [rep_cons] at this

/-- two proofs (here: a ProofD in `G` and a ProofU in a possibly different group `G₂`,
    e.g. under another issuer key) that answer the *same* challenges `c, c'` with the *same*
    secret-key responses `s0, s0'`: the two extracted relations contain the secret-key base with
    literally the same exponent `s0 - s0'`, i.e. the extractor outputs the same secret
    `(s0 - s0')/(c - c')` for both. -/
theorem linked_secrets {G₂ : Type*} [CommGroup G₂] {κ : Type*}
    {A' S K T : G} (R : ι → G) (i0 : ι) (H : List ι) (s s' : ι → ℤ)
    {U Ut S₂ R0 : G₂} (R₂ : κ → G₂) (L : List κ) (mR mR' : κ → ℤ)
    {c c' eR eR' vR vR' wR wR' s0 s0' : ℤ}
    (hs : s i0 = s0) (hs' : s' i0 = s0')
    (d1 : K ^ (-c) * A' ^ eR * S ^ vR * rep R s (i0 :: H) = T)
    (d2 : K ^ (-c') * A' ^ eR' * S ^ vR' * rep R s' (i0 :: H) = T)
    (u1 : U ^ (-c) * S₂ ^ wR * R0 ^ s0 * rep R₂ mR L = Ut)
    (u2 : U ^ (-c') * S₂ ^ wR' * R0 ^ s0' * rep R₂ mR' L = Ut) :
    K ^ (c - c') =
        A' ^ (eR - eR') * S ^ (vR - vR') * (R i0 ^ (s0 - s0') * rep R (fun j => s j - s' j) H) ∧
    U ^ (c - c') =
        S₂ ^ (wR - wR') * R0 ^ (s0 - s0') * rep R₂ (fun j => mR j - mR' j) L := by
  subst hs hs'
  exact ⟨proofD_special_soundness_sk R i0 H s s' d1 d2,
    proofU_special_soundness R₂ L mR mR' u1 u2⟩

/-- two disclosure proofs (in possibly different groups) that answer the same challenges with the
    same secret-key responses. -/
theorem linked_secrets_DD {G₂ : Type*} [CommGroup G₂] {κ : Type*}
    {A' S K T : G} (R : ι → G) (i0 : ι) (H : List ι) (s s' : ι → ℤ)
    {A₂ S₂ K₂ T₂ : G₂} (R₂ : κ → G₂) (k0 : κ) (H₂ : List κ) (t t' : κ → ℤ)
    {c c' eR eR' vR vR' fR fR' wR wR' s0 s0' : ℤ}
    (hs : s i0 = s0) (hs' : s' i0 = s0') (ht : t k0 = s0) (ht' : t' k0 = s0')
    (d1 : K ^ (-c) * A' ^ eR * S ^ vR * rep R s (i0 :: H) = T)
    (d2 : K ^ (-c') * A' ^ eR' * S ^ vR' * rep R s' (i0 :: H) = T)
    (e1 : K₂ ^ (-c) * A₂ ^ fR * S₂ ^ wR * rep R₂ t (k0 :: H₂) = T₂)
    (e2 : K₂ ^ (-c') * A₂ ^ fR' * S₂ ^ wR' * rep R₂ t' (k0 :: H₂) = T₂) :
    K ^ (c - c') =
        A' ^ (eR - eR') * S ^ (vR - vR') * (R i0 ^ (s0 - s0') * rep R (fun j => s j - s' j) H) ∧
    K₂ ^ (c - c') =
        A₂ ^ (fR - fR') * S₂ ^ (wR - wR') * (R₂ k0 ^ (s0 - s0') * rep R₂ (fun j => t j - t' j) H₂) := by
  have a := proofD_special_soundness_sk R i0 H s s' d1 d2
  have b := proofD_special_soundness_sk R₂ k0 H₂ t t' e1 e2
  rw [hs, hs'] at a
  rw [ht, ht'] at b
  exact ⟨a, b⟩

/-! ### keyshare -/

/-- ProofU with a keyshare server: `U = U_user · P` with `P = R0^ks`, commitment `Ũ_user · W`. -/
theorem keyshare_proofU {S R0 : G} (R : ι → G) (L : List ι) (m mt : ι → ℤ)
    {v' vt c mu ks ru w : ℤ} :
    ((S ^ v' * R0 ^ mu * rep R m L) * R0 ^ ks) ^ (-c) * S ^ (vt + c * v') *
        R0 ^ ((ru + c * mu) + (w + c * ks)) * rep R (fun j => mt j + c * m j) L
      = (S ^ vt * R0 ^ ru * rep R mt L) * R0 ^ w := by
  rw [rep_add, rep_const_mul]
  to_additive_goal
  module

end Gabi.Alg
