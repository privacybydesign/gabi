/-
  GabiProofs.KeyProofLemmas — for C17 (package keyproof): round sequencing; roots modulo `N` from an
  inverse of the exponent modulo `φ(N)`, and with them the square-free and the disjoint-prime-product
  proof (the verifier accepts what the prover builds; when the prover can build); the prime-power-product
  proof with the square-root routine as a parameter (`SqrtSpec`, `pppBuildWith`); the conditions `KeyCond`
  on a key; the representation-proof interpreter over an abstract commutative group.
-/
import GabiModel.KeyProof
import GabiProofs.NumLemmas
import GabiProofs.MathUtilLemmas
import Mathlib.Data.Nat.Totient
import Mathlib.FieldTheory.Finite.Basic
import Mathlib.Data.ZMod.Basic
import Mathlib.Tactic.Ring
import Mathlib.Tactic.Linarith
import Mathlib.Tactic.LinearCombination
import Mathlib.Tactic.NormNum.Prime
import Mathlib.Algebra.Group.Basic
import Mathlib.Algebra.Group.Int.Defs

namespace Gabi.KeyProof
open Gabi

/-! ## round sequencing -/

theorem firstFailure_accept_iff (l : List Nat) (f : Nat → Verdict) :
    firstFailure l f = .accept ↔ ∀ i ∈ l, f i = .accept := by
  induction l with
  | nil => simp [firstFailure]
  | cons a as ih =>
    unfold firstFailure
    cases h : f a <;> simp [h, ih]

theorem andThen_accept_iff (a : Verdict) (b : Unit → Verdict) :
    a.andThen b = .accept ↔ a = .accept ∧ b () = .accept := by
  cases a <;> simp [Verdict.andThen]

theorem ofBool_accept_iff (b : Bool) : ofBool b = .accept ↔ b = true := by
  cases b <;> simp [ofBool]

theorem collect_eq_some {α : Type} (l : List (Option α)) (rs : List α) :
    collect l = some rs ↔ l = rs.map some := by
  induction l generalizing rs with
  | nil => cases rs <;> simp [collect]
  | cons a as ih =>
    cases a with
    | none => cases rs <;> simp [collect]
    | some x =>
      rw [collect]
      cases rs with
      | nil => cases collect as <;> simp
      | cons r rs' =>
        simp only [List.map_cons, List.cons.injEq, Option.some.injEq, ← ih]
        cases collect as <;> simp

theorem rounds_eq_some {α : Type} (k : Nat) (f : Nat → Option α) (rs : List α) :
    rounds k f = some rs ↔ rs.length = k ∧ ∀ i, i < k → f i = rs[i]? := by
  unfold rounds
  rw [collect_eq_some]
  constructor
  · intro h
    have hl : rs.length = k := by simpa using (congrArg List.length h).symm
    refine ⟨hl, fun i hi => ?_⟩
    simpa [hi, hl ▸ hi] using congrArg (·[i]?) h
  · rintro ⟨hl, h⟩
    refine List.ext_getElem (by simp [hl]) fun i h1 h2 => ?_
    simp only [List.length_map, List.length_range] at h1
    simp [h i h1, hl ▸ h1]

theorem collect_isSome {α : Type} (l : List (Option α)) (h : ∀ x ∈ l, x.isSome = true) :
    ∃ rs, collect l = some rs := by
  induction l with
  | nil => exact ⟨[], rfl⟩
  | cons a as ih =>
    obtain ⟨rs, hrs⟩ := ih (fun x hx => h x (List.mem_cons_of_mem _ hx))
    cases a with
    | none => have := h none (List.mem_cons_self); simp at this
    | some x => exact ⟨x :: rs, by simp [collect, hrs]⟩

theorem rounds_isSome {α : Type} (k : Nat) (f : Nat → Option α) (h : ∀ i, i < k → (f i).isSome = true) :
    ∃ rs, rounds k f = some rs := by
  unfold rounds
  apply collect_isSome
  intro x hx
  obtain ⟨i, hi, rfl⟩ := List.mem_map.mp hx
  exact h i (List.mem_range.mp hi)

/-! ## roots: exponent inverse modulo the totient -/

/-- if `e·m ≡ 1 (mod φ(N))` then `x ↦ x^m` inverts `x ↦ x^e` on the units modulo `N`. -/
theorem pow_pow_inverse_exponent {N : Nat} (c e m : Nat)
    (hc : Nat.Coprime c N) (hem : e * m % Nat.totient N = 1) :
    (c ^ m) ^ e % N = c % N := by
  have hdiv := Nat.div_add_mod (e * m) (Nat.totient N)
  rw [hem] at hdiv
  rw [← pow_mul, mul_comm m e, ← hdiv, pow_add, pow_mul, pow_one]
  have h := ((Nat.ModEq.pow_totient hc).pow (e * m / Nat.totient N)).mul_right c
  rwa [one_pow, one_mul] at h

/-- `pow_pow_inverse_exponent` over `Int`, as prover and verifier compute it: the response `c^m mod N`
    raised to `e` gives back the challenge `c`. -/
theorem int_root_correct {N : Nat} (c m : Int) (e : Nat) (hc0 : 0 ≤ c) (hcN : c < N) (hm0 : 0 ≤ m)
    (hcop : Nat.gcd c.natAbs N = 1)
    (hem : ((e : Int) * m) % (Nat.totient N : Int) = 1) :
    (c ^ m.toNat % (N : Int)) ^ e % (N : Int) = c := by
  rw [int_emod_pow_emod]
  lift c to Nat using hc0
  lift m to Nat using hm0
  have key := pow_pow_inverse_exponent c e m hcop (by exact_mod_cast hem)
  rw [Int.toNat_natCast]
  exact_mod_cast key.trans (Nat.mod_eq_of_lt (by exact_mod_cast hcN))

theorem roundChallenge_range (challenge index : Int) (i : Nat) {n : Int} (hn : 0 < n) :
    0 ≤ roundChallenge challenge index i n ∧ roundChallenge challenge index i n < n :=
  ⟨Int.emod_nonneg _ (by omega), Int.emod_lt_of_pos _ hn⟩

/-- the verifier's loop of the square-free and the disjoint-prime-product proof: round `i` checks
    `r_i ^ e ≡ c_i (mod n)`. -/
theorem rootRounds_accept_iff {n e : Int} (hn : 0 < n) (he : 0 ≤ e) (k : Nat) (c : Nat → Int) (rs : List Int) :
    firstFailure (List.range k) (fun i =>
      match rs[i]? with
      | none => .panic
      | some r =>
        match goExp r e n with
        | none => .panic
        | some v => ofBool (v = c i)) = .accept ↔
    ∀ i, i < k → ∃ r, rs[i]? = some r ∧ r ^ e.toNat % n = c i := by
  rw [firstFailure_accept_iff]
  refine forall_congr' fun i => ?_
  rw [List.mem_range]
  refine imp_congr_right fun _ => ?_
  cases rs[i]? with
  | none => simp
  | some r => simp [goExp_nonneg r e n hn he, ofBool_accept_iff]

/-- rounds answered with `c^m mod N` pass a verifier that checks `r^e ≡ c (mod N)`, when `m` is what
    `ModInverse(e, φ(N))` returned. -/
theorem root_rounds_accept {N : Nat} {e m : Int} (k : Nat) (challenge index : Int) (rs : List Int)
    (hφ : 2 ≤ Nat.totient N) (he0 : 0 ≤ e) (hinv : goModInverse e (Nat.totient N : Int) = some m)
    (hb : rounds k (fun i =>
      let c := roundChallenge challenge index i (N : Int)
      if Nat.gcd c.natAbs (N : Int).natAbs ≠ 1 then none else goExp c m N) = some rs) :
    firstFailure (List.range k) (fun i =>
      match rs[i]? with
      | none => .panic
      | some r =>
        match goExp r e N with
        | none => .panic
        | some v => ofBool (v = roundChallenge challenge index i (N : Int))) = .accept := by
  have hN : (0 : Int) < N := by
    have : N ≠ 0 := by rintro rfl; simp at hφ
    omega
  obtain ⟨hm0, -, hminv⟩ := goModInverse_some hinv
  rw [Int.natAbs_natCast, Int.emod_eq_of_lt (by omega) (by exact_mod_cast hφ : (1 : Int) < _),
    ← Int.toNat_of_nonneg he0] at hminv
  rw [rounds_eq_some] at hb
  rw [rootRounds_accept_iff hN he0]
  intro i hi
  have hr := hb.2 i hi
  rw [List.getElem?_eq_getElem (by omega : i < rs.length)] at hr ⊢
  refine ⟨_, rfl, ?_⟩
  obtain ⟨hc0, hcN⟩ := roundChallenge_range challenge index i hN
  dsimp only at hr  -- the `let` of the model
  split at hr
  · exact absurd hr (by simp)
  · next hg =>
    rw [goExp_nonneg _ _ _ hN hm0] at hr
    rw [← Option.some.inj hr]
    exact int_root_correct _ m _ hc0 hcN hm0 (by simpa using hg) hminv

/-- when `e` is invertible modulo `φ(N)` and every round challenge is a unit, the prover that answers
    with `c^(e⁻¹) mod N` answers every round. -/
theorem root_rounds_isSome {N : Nat} {e : Int} (k : Nat) (challenge index : Int) (hN : 0 < N)
    (hcop : Int.gcd e (Nat.totient N : Int) = 1)
    (hunits : ∀ i, i < k → Nat.gcd (roundChallenge challenge index i (N : Int)).natAbs N = 1) :
    ∃ m rs, goModInverse e (Nat.totient N : Int) = some m ∧
      rounds k (fun i =>
        let c := roundChallenge challenge index i (N : Int)
        if Nat.gcd c.natAbs (N : Int).natAbs ≠ 1 then none else goExp c m N) = some rs := by
  cases h : goModInverse e (Nat.totient N : Int) with
  | none =>
    have hφ0 := (Nat.totient_pos.mpr hN).ne'
    exact absurd hcop ((goModInverse_none_iff _ _ (by exact_mod_cast hφ0)).mp h)
  | some m =>
    obtain ⟨rs, hrs⟩ := rounds_isSome k (fun i =>
        let c := roundChallenge challenge index i (N : Int)
        if Nat.gcd c.natAbs (N : Int).natAbs ≠ 1 then none else goExp c m N) fun i hi => by
      simp only [Int.natAbs_natCast, hunits i hi, ne_eq, not_true_eq_false, if_false]
      rw [goExp_nonneg _ _ _ (by exact_mod_cast hN) (goModInverse_some h).1]
      rfl
    exact ⟨m, rs, rfl, hrs⟩

/-! ## the square-free proof on a modulus with known totient -/

theorem squareFree_accept_of_build {N : Nat} (hφ : 2 ≤ Nat.totient N) {challenge index : Int} {rs : List Int}
    (hb : squareFreeBuild N (Nat.totient N) challenge index = some rs) :
    squareFreeVerifyProof N challenge index rs = .accept := by
  have hN : 0 < N := Nat.pos_of_ne_zero (by rintro rfl; simp at hφ)
  unfold squareFreeBuild at hb
  rw [if_neg (by omega)] at hb
  cases hinv : goModInverse (N : Int) (Nat.totient N : Int) with
  | none => rw [hinv] at hb; exact absurd hb (by simp)
  | some m =>
    rw [hinv] at hb
    have hlen := ((rounds_eq_some _ _ _).mp hb).1
    unfold squareFreeVerifyProof
    rw [if_neg (by omega), if_neg (by simpa using hlen)]
    exact root_rounds_accept _ challenge index rs hφ (by omega) hinv hb

theorem squareFreeBuild_isSome {N : Nat} (hN : 0 < N) (hcop : Nat.Coprime N (Nat.totient N)) (challenge index : Int)
    (hunits : ∀ i, i < Gen.kp_squareFreeIters → Nat.gcd (roundChallenge challenge index i (N : Int)).natAbs N = 1) :
    ∃ rs, squareFreeBuild N (Nat.totient N) challenge index = some rs := by
  obtain ⟨m, rs, hm, hrs⟩ := root_rounds_isSome (e := (N : Int)) Gen.kp_squareFreeIters challenge index hN
    (by rwa [Int.gcd_natCast_natCast]) hunits
  unfold squareFreeBuild
  rw [if_neg (by omega), hm]
  exact ⟨rs, hrs⟩

/-! ## the disjoint-prime-product proof on factors `p`, `q` of a modulus with known totient -/

theorem oddPartPred_natCast (N : Nat) : oddPartPred (N : Int) = ((stripTwos (N - 1)).1 : Nat) := by
  unfold oddPartPred
  rw [show ((N : Int) - 1).toNat = N - 1 by omega]
  rfl

theorem disjointPrimeProduct_accept_of_build {p q : Int} {N : Nat} (hN : p * q = N)
    (hφ : (p - 1) * (q - 1) = Nat.totient N) (hφ2 : 2 ≤ Nat.totient N) (hnp : probablyPrime N = false)
    {challenge index : Int} {rs : List Int} (hb : disjointPrimeProductBuild p q challenge index = some rs) :
    disjointPrimeProductVerifyProof N challenge index rs = .accept := by
  have hN1 : 1 < N := by have := Nat.totient_le N; omega
  unfold disjointPrimeProductBuild at hb
  simp only [hN, hφ] at hb
  rw [if_neg (by omega)] at hb
  cases hinv : goModInverse (oddPartPred (N : Int)) (Nat.totient N : Int) with
  | none => rw [hinv] at hb; exact absurd hb (by simp)
  | some m =>
    rw [hinv] at hb
    unfold disjointPrimeProductVerifyProof
    rw [if_neg (by rw [Int.toNat_natCast, hnp]; simp), if_neg (by omega)]
    exact root_rounds_accept _ challenge index rs hφ2 (Int.natCast_nonneg _) hinv hb

theorem disjointPrimeProductBuild_isSome {p q : Int} {N : Nat} (hN : p * q = N)
    (hφ : (p - 1) * (q - 1) = Nat.totient N) (hN1 : 1 < N)
    (hcop : Nat.Coprime (stripTwos (N - 1)).1 (Nat.totient N)) (challenge index : Int)
    (hunits : ∀ i, i < Gen.kp_squareFreeIters → Nat.gcd (roundChallenge challenge index i (N : Int)).natAbs N = 1) :
    ∃ rs, disjointPrimeProductBuild p q challenge index = some rs := by
  obtain ⟨m, rs, hm, hrs⟩ := root_rounds_isSome (e := oddPartPred (N : Int)) Gen.kp_squareFreeIters challenge index
    (by omega) (by rw [oddPartPred_natCast, Int.gcd_natCast_natCast]; exact hcop) hunits
  unfold disjointPrimeProductBuild
  simp only [hN, hφ]
  rw [if_neg (by omega), hm]
  exact ⟨rs, hrs⟩

/-! ## the prime-power-product proof with the square-root routine as a parameter -/

/-- the contract of a modular square-root routine (`common.ModSqrt(·, [P, Q])`, property C19): what
    it returns is a root in `[0, N)`, and it returns one whenever a root exists. -/
structure SqrtSpec (sqrt : Int → Option Int) (n : Int) : Prop where
  sound : ∀ a r, sqrt a = some r → 0 ≤ r ∧ r < n ∧ r * r % n = a % n
  complete : ∀ a, (∃ x : Int, x * x % n = a % n) → (sqrt a).isSome

/-- `primePowerProductBuildProof` with the square-root routine as a parameter. -/
def pppBuildWith (sqrt : Int → Option Int) (n challenge index : Int) : Option (List Int) :=
  if n = 0 then none else
  rounds Gen.kp_primePowerProductIters fun i =>
    let c := roundChallenge challenge index i n
    if Nat.gcd c.natAbs n.natAbs ≠ 1 then none else pppResponse sqrt n c

/-- the residues `primePowerProductBuildProof` tries a square root of, in order: `c, −c, 2c, −2c`
    reduced modulo `n`. -/
def pppCandidates (n c : Int) : List Int := [c, (-c) % n, (2 * c) % n, (2 * ((-c) % n)) % n]

theorem pppResponse_eq_findSome? (sqrt : Int → Option Int) (n c : Int) :
    pppResponse sqrt n c = (pppCandidates n c).findSome? sqrt := by
  simp only [pppResponse, pppCandidates, List.findSome?_cons, List.findSome?_nil]
  cases sqrt c with
  | some r => rfl
  | none =>
    cases sqrt ((-c) % n) with
    | some r => rfl
    | none =>
      cases sqrt ((2 * c) % n) with
      | some r => rfl
      | none => cases sqrt ((2 * ((-c) % n)) % n) <;> rfl

theorem two_mul_neg_emod (n c : Int) : (2 * ((-c) % n)) % n = (-(2 * c)) % n := by
  rw [Int.mul_emod, Int.emod_emod, ← Int.mul_emod]; congr 1; ring

/-- whatever the prover answers squares to one of the candidates, so the verifier's round check passes. -/
theorem pppRoundOk_of_response {n c r : Int} (hn : 0 < n) (hc : 0 ≤ c ∧ c < n) {sqrt : Int → Option Int}
    (hsound : ∀ a r, sqrt a = some r → r * r % n = a % n) (hr : pppResponse sqrt n c = some r) :
    pppRoundOk n c r = true := by
  rw [pppResponse_eq_findSome?] at hr
  obtain ⟨a, ha, hra⟩ := List.exists_of_findSome?_eq_some hr
  unfold pppRoundOk
  rw [goExp_nonneg r 2 n hn (by omega), show (2 : Int).toNat = 2 from rfl, pow_two, hsound a r hra]
  simp only [pppCandidates, List.mem_cons, List.not_mem_nil, or_false] at ha
  rcases ha with rfl | rfl | rfl | rfl <;>
    simp [Int.emod_emod_of_dvd, Int.emod_eq_of_lt hc.1 hc.2, two_mul_neg_emod]

theorem pppResponse_isSome {n c x : Int} {sqrt : Int → Option Int} (hs : SqrtSpec sqrt n)
    (hx : x * x % n = c % n ∨ x * x % n = (-c) % n ∨ x * x % n = (2 * c) % n ∨ x * x % n = (-(2 * c)) % n) :
    (pppResponse sqrt n c).isSome := by
  have ⟨a, ha, hxa⟩ : ∃ a ∈ pppCandidates n c, x * x % n = a % n := by
    simpa only [pppCandidates, List.mem_cons, List.not_mem_nil, or_false, exists_eq_or_imp, exists_eq_left,
      Int.emod_emod_of_dvd _ (dvd_refl n), two_mul_neg_emod] using hx
  rw [pppResponse_eq_findSome?, List.findSome?_isSome_iff]
  exact ⟨a, ha, hs.complete a ⟨x, hxa⟩⟩

theorem primePowerProduct_accept_of_build {n : Int} (hn : 0 < n) {sqrt : Int → Option Int}
    (hsound : ∀ a r, sqrt a = some r → r * r % n = a % n) {challenge index : Int} {rs : List Int}
    (hb : pppBuildWith sqrt n challenge index = some rs) :
    primePowerProductVerifyProof n challenge index rs = .accept := by
  unfold pppBuildWith at hb
  rw [if_neg (by omega), rounds_eq_some] at hb
  obtain ⟨hlen, hround⟩ := hb
  unfold primePowerProductVerifyProof
  rw [if_neg (by omega), firstFailure_accept_iff]
  intro i hi
  have hi' := List.mem_range.mp hi
  have hr := hround i hi'
  rw [List.getElem?_eq_getElem (by omega : i < rs.length)] at hr ⊢
  dsimp only at hr ⊢  -- the `let` of the model, the `match` on `some`
  split at hr
  · exact absurd hr (by simp)
  · exact (ofBool_accept_iff _).mpr (pppRoundOk_of_response hn (roundChallenge_range challenge index i hn) hsound hr)

theorem pppBuildWith_isSome {n : Int} (hn : 0 < n) {sqrt : Int → Option Int} (hs : SqrtSpec sqrt n)
    (challenge index : Int)
    (hunits : ∀ i, i < Gen.kp_primePowerProductIters →
      Nat.gcd (roundChallenge challenge index i n).natAbs n.natAbs = 1)
    (hex : ∀ c : Int, Int.gcd c n = 1 → ∃ x : Int, x * x % n = c % n ∨ x * x % n = (-c) % n ∨
      x * x % n = (2 * c) % n ∨ x * x % n = (-(2 * c)) % n) :
    ∃ rs, pppBuildWith sqrt n challenge index = some rs := by
  unfold pppBuildWith
  rw [if_neg (by omega)]
  refine rounds_isSome _ _ fun i hi => ?_
  obtain ⟨x, hx⟩ := hex _ (hunits i hi)
  dsimp only
  rw [if_neg (not_not.mpr (hunits i hi))]
  exact pppResponse_isSome hs hx

/-! ## the Fiat–Shamir input of the whole proof (validkeyproof.go) -/

theorem ChallengeParts.input_eq_flatten (c : ChallengeParts) :
    c.input = [c.pprime, c.qprime, c.p, c.q, [c.groupPrime, c.n], c.pPprimeRel, c.qQprimeRel, c.pQNRel,
      c.pprimeIsPrime, c.qprimeIsPrime, c.qspp, c.basesValid].flatten := by
  simp only [ChallengeParts.input, List.flatten_cons, List.flatten_nil, List.append_nil, List.append_assoc]

/-! ## key conditions -/

/-- What `keyproof.CanProve(p', q')` tests (`P = 2p'+1`, `Q = 2q'+1`), with primality as a proposition,
    and two conditions that it does not test: `p'`, `q'` are not 2, and `P`, `Q` have the same bit length
    (gabi generates both with `Ln/2` bits; property C16). -/
structure KeyCond (pp qp : Nat) : Prop where
  pp_prime : pp.Prime
  qp_prime : qp.Prime
  p_prime : (2 * pp + 1).Prime
  q_prime : (2 * qp + 1).Prime
  pp_odd : pp ≠ 2
  qp_odd : qp ≠ 2
  p_mod8 : (2 * pp + 1) % 8 ≠ 1
  q_mod8 : (2 * qp + 1) % 8 ≠ 1
  pp_mod8 : pp % 8 ≠ 1
  qp_mod8 : qp % 8 ≠ 1
  pq_mod8 : (2 * pp + 1) % 8 ≠ (2 * qp + 1) % 8
  ppqp_mod8 : pp % 8 ≠ qp % 8
  same_len : natBitLen (2 * pp + 1) = natBitLen (2 * qp + 1)

theorem totient_two_primes {p q : Nat} (hp : p.Prime) (hq : q.Prime) (hne : p ≠ q) :
    Nat.totient (p * q) = (p - 1) * (q - 1) := by
  rw [Nat.totient_mul ((Nat.coprime_primes hp hq).mpr hne), Nat.totient_prime hp, Nat.totient_prime hq]

theorem totient_safe_product {pp qp : Nat} (hP : (2 * pp + 1).Prime) (hQ : (2 * qp + 1).Prime) (hne : pp ≠ qp) :
    Nat.totient ((2 * pp + 1) * (2 * qp + 1)) = 4 * (pp * qp) := by
  rw [totient_two_primes hP hQ (by omega)]
  simp only [Nat.add_sub_cancel]
  ring

/-- `N − 1 = 2b + a·(4b+2)` for `N = (2a+1)(2b+1)`, so a common factor of `N − 1` and `a` divides `2b`. -/
theorem coprime_pred_mul {a b : Nat} (ha : a.Prime) (hb : b.Prime) (ha2 : a ≠ 2) (hab : a ≠ b) :
    Nat.Coprime ((2 * a + 1) * (2 * b + 1) - 1) a := by
  have e : (2 * a + 1) * (2 * b + 1) - 1 = 2 * b + a * (4 * b + 2) := by
    have : (2 * a + 1) * (2 * b + 1) = 2 * b + a * (4 * b + 2) + 1 := by ring
    omega
  rw [e, Nat.coprime_add_mul_left_left]
  exact ((Nat.coprime_primes Nat.prime_two ha).mpr (Ne.symm ha2)).mul_left
    ((Nat.coprime_primes hb ha).mpr (Ne.symm hab))

theorem two_mul_add_one_ne_of_natBitLen_eq {a b : Nat} (h : natBitLen (2 * a + 1) = natBitLen (2 * b + 1)) :
    2 * a + 1 ≠ b := by
  rintro rfl
  have := natBitLen_two_mul_add_one (2 * a + 1)
  omega

namespace KeyCond
variable {pp qp : Nat}

theorem ne (k : KeyCond pp qp) : pp ≠ qp := by
  intro h; exact k.ppqp_mod8 (by rw [h])

theorem totient_eq (k : KeyCond pp qp) : Nat.totient ((2 * pp + 1) * (2 * qp + 1)) = 4 * (pp * qp) :=
  totient_safe_product k.p_prime k.q_prime k.ne

theorem two_le_totient (k : KeyCond pp qp) : 2 ≤ Nat.totient ((2 * pp + 1) * (2 * qp + 1)) := by
  rw [k.totient_eq]
  have := Nat.mul_pos k.pp_prime.pos k.qp_prime.pos
  omega

/-- `gcd(N, φ(N)) = 1`: the square-free prover's inverse `N⁻¹ mod φ(N)` exists. Each of the primes
    `2p'+1`, `2q'+1` is odd and different from the primes `p'`, `q'`. -/
theorem coprime_totient (k : KeyCond pp qp) :
    Nat.Coprime ((2 * pp + 1) * (2 * qp + 1)) (Nat.totient ((2 * pp + 1) * (2 * qp + 1))) := by
  rw [k.totient_eq]
  have aux : ∀ {a b c : Nat}, (2 * a + 1).Prime → b.Prime → c.Prime → 2 * a + 1 ≠ b → 2 * a + 1 ≠ c →
      Nat.Coprime (2 * a + 1) (4 * (b * c)) := fun hP hb hc h1 h2 =>
    ((Nat.coprime_two_right.mpr (odd_two_mul_add_one _)).pow_right 2).mul_right
      (((Nat.coprime_primes hP hb).mpr h1).mul_right ((Nat.coprime_primes hP hc).mpr h2))
  exact (aux k.p_prime k.pp_prime k.qp_prime (by omega) (two_mul_add_one_ne_of_natBitLen_eq k.same_len)).mul_left
    (aux k.q_prime k.pp_prime k.qp_prime (two_mul_add_one_ne_of_natBitLen_eq k.same_len.symm) (by omega))

/-- `gcd(odd(N−1), φ(N)) = 1`: the disjoint-prime-product prover's inverse exists. The odd part of
    `N − 1` is odd and divides `N − 1`, which is coprime to `p'` and to `q'`. -/
theorem coprime_oddPart (k : KeyCond pp qp) :
    Nat.Coprime (stripTwos ((2 * pp + 1) * (2 * qp + 1) - 1)).1 (Nat.totient ((2 * pp + 1) * (2 * qp + 1))) := by
  rw [k.totient_eq]
  have hN : (2 * pp + 1) * (2 * qp + 1) - 1 ≠ 0 := by
    have := Nat.mul_le_mul (show 3 ≤ 2 * pp + 1 by have := k.pp_prime.two_le; omega)
      (show 3 ≤ 2 * qp + 1 by have := k.qp_prime.two_le; omega)
    omega
  obtain ⟨hfact, hodd⟩ := stripTwos_spec _ hN
  have hdvd : (stripTwos ((2 * pp + 1) * (2 * qp + 1) - 1)).1 ∣ (2 * pp + 1) * (2 * qp + 1) - 1 :=
    Dvd.intro _ hfact.symm
  have hpp := coprime_pred_mul k.pp_prime k.qp_prime k.pp_odd k.ne
  have hqp := coprime_pred_mul k.qp_prime k.pp_prime k.qp_odd k.ne.symm
  rw [Nat.mul_comm (2 * qp + 1)] at hqp
  exact ((Nat.coprime_two_right.mpr (Nat.odd_iff.mpr hodd)).pow_right 2).mul_right
    ((hpp.coprime_dvd_left hdvd).mul_right (hqp.coprime_dvd_left hdvd))

end KeyCond

/-! ## the representation proof interpreter over an abstract commutative group -/

section Repr
variable {G : Type} [CommGroup G]

/-- the interpreter's operations in a commutative group: integer powers. -/
def zpowOps : GroupOps G := { one := 1, mul := fun a b => a * b, pow := fun b e => b ^ e }

/-- every named base has order dividing `order` (the elements of the prime-order subgroup). -/
def BasesInSubgroup (order : Int) (bases : BaseLookup G) : Prop :=
  ∀ name b, bases name = some b → b.val ^ order = 1

theorem baseExp_emod {order : Int} (ho : 0 < order) {bases : BaseLookup G} (hB : BasesInSubgroup order bases)
    (name : String) (e : Int) :
    baseExp zpowOps order bases name (e % order) = (bases name).map (fun b => b.val ^ e) := by
  unfold baseExp
  cases hb : bases name with
  | none => rfl
  | some b =>
    have h0 : 0 ≤ e % order := Int.emod_nonneg _ (by omega)
    have h1 : e % order < order := Int.emod_lt_of_pos _ ho
    have hz := (zpow_eq_zpow_emod e (hB name b hb)).symm
    simp only [Option.map_some]
    split
    · unfold groupFoldExp
      simp only [show ¬ e % order < 0 by omega, if_false, show ¬ e % order ≥ order by omega]
      simp [zpowOps, hz]
    · simp [zpowOps, hz]

/-- closed form of the right-hand-side fold: `start · ∏ base^(power·value)`. -/
def rhsSpec (bases : BaseLookup G) (value : String → Option Int) : List RhsContribution → Option G
  | [] => some 1
  | r :: rest =>
    match value r.secret, bases r.base, rhsSpec bases value rest with
    | some v, some b, some x => some (b.val ^ (r.power * v) * x)
    | _, _, _ => none

theorem rhsSpec_cons_eq_some {bases : BaseLookup G} {value : String → Option Int} {r : RhsContribution}
    {rest : List RhsContribution} {X : G} :
    rhsSpec bases value (r :: rest) = some X ↔ ∃ v b x, value r.secret = some v ∧ bases r.base = some b ∧
      rhsSpec bases value rest = some x ∧ b.val ^ (r.power * v) * x = X := by
  rw [rhsSpec]
  constructor
  · intro h
    split at h
    · next v b x hv hb hx => exact ⟨v, b, x, hv, hb, hx, Option.some.inj h⟩
    · exact absurd h (by simp)
  · rintro ⟨v, b, x, hv, hb, hx, rfl⟩
    rw [hv, hb, hx]

theorem rhsProduct_eq_spec {order : Int} (ho : 0 < order) {bases : BaseLookup G} (hB : BasesInSubgroup order bases)
    (value : String → Option Int) (rhs : List RhsContribution) (start : G) :
    rhsProduct zpowOps order bases value rhs start = (rhsSpec bases value rhs).map (fun x => start * x) := by
  induction rhs generalizing start with
  | nil => simp [rhsProduct, rhsSpec]
  | cons r rest ih =>
    unfold rhsProduct at ih ⊢
    rw [List.foldlM_cons]
    unfold rhsSpec
    cases hv : value r.secret with
    | none => simp
    | some v =>
      have hbe := baseExp_emod ho hB r.base (r.power * v)
      cases hb : bases r.base with
      | none =>
        rw [hb] at hbe
        simp [hbe]
      | some b =>
        rw [hb] at hbe
        simp only [Option.map_some] at hbe
        simp only [Option.bind_eq_bind, Option.bind_some, hbe, Option.pure_def]
        refine (ih _).trans ?_
        cases hx : rhsSpec bases value rest with
        | none => simp
        | some x => simp [zpowOps, mul_assoc]

/-- `commitFromProof` in a group: `lhs^challenge · ∏ base^(power·result)`. -/
theorem commitFromProof_eq_some {order : Int} (ho : 0 < order) {bases : BaseLookup G}
    (hB : BasesInSubgroup order bases) {c : Int} {res : String → Option Int} {S : ReprStructure} {t : G} :
    commitFromProof zpowOps order bases c res S = some t ↔
      ∃ l X, lhsProduct zpowOps order bases S.lhs = some l ∧ rhsSpec bases res S.rhs = some X ∧ l ^ c * X = t := by
  unfold commitFromProof
  cases lhsProduct zpowOps order bases S.lhs with
  | none => simp
  | some l =>
    simp only [Option.bind_eq_bind, Option.bind_some, rhsProduct_eq_spec ho hB]
    simp [zpowOps]

theorem commitFromSecrets_eq {order : Int} (ho : 0 < order) {bases : BaseLookup G}
    (hB : BasesInSubgroup order bases) (randomizer : String → Option Int) (S : ReprStructure) :
    commitFromSecrets zpowOps order bases randomizer S = rhsSpec bases randomizer S.rhs := by
  unfold commitFromSecrets
  rw [rhsProduct_eq_spec ho hB]
  cases rhsSpec bases randomizer S.rhs <;> simp [zpowOps]

theorem reprSides_eq_some {order : Int} (ho : 0 < order) {bases : BaseLookup G}
    (hB : BasesInSubgroup order bases) {secret : String → Option Int} {S : ReprStructure} {l r : G} :
    reprSides zpowOps order bases secret S = some (l, r) ↔
      lhsProduct zpowOps order bases S.lhs = some l ∧ rhsSpec bases secret S.rhs = some r := by
  unfold reprSides
  rw [← commitFromSecrets_eq ho hB, commitFromSecrets]
  cases lhsProduct zpowOps order bases S.lhs <;>
    cases rhsProduct zpowOps order bases secret S.rhs zpowOps.one <;> simp

theorem rhsSpec_honest {order : Int} {bases : BaseLookup G} (hB : BasesInSubgroup order bases)
    (secret randomizer : String → Option Int) (c : Int) (rhs : List RhsContribution) (R S : G)
    (hR : rhsSpec bases randomizer rhs = some R) (hS : rhsSpec bases secret rhs = some S) :
    rhsSpec bases (honestResult order c secret randomizer) rhs = some (R * (S ^ c)⁻¹) := by
  induction rhs generalizing R S with
  | nil =>
    cases hR
    cases hS
    simp [rhsSpec]
  | cons r rest ih =>
    obtain ⟨rv, b, R', hr, hb, hR', rfl⟩ := rhsSpec_cons_eq_some.mp hR
    obtain ⟨sv, b', S', hs, hb', hS', rfl⟩ := rhsSpec_cons_eq_some.mp hS
    cases hb.symm.trans hb'
    refine rhsSpec_cons_eq_some.mpr ⟨(rv - sv * c) % order, b, _, by simp [honestResult, hr, hs], hb, ih R' S' hR' hS', ?_⟩
    have e1 : b.val ^ (r.power * ((rv - sv * c) % order)) = b.val ^ (r.power * (rv - sv * c)) := by
      rw [mul_comm r.power, zpow_mul, ← zpow_eq_zpow_emod _ (hB r.base b hb), ← zpow_mul, mul_comm]
    rw [e1, show r.power * (rv - sv * c) = r.power * rv + -(r.power * sv * c) by ring, zpow_add, zpow_neg, mul_zpow,
      ← zpow_mul, mul_inv, mul_mul_mul_comm]

theorem rhsSpec_diff {bases : BaseLookup G} (res' res : String → Option Int) (rhs : List RhsContribution) (X' X : G)
    (hX' : rhsSpec bases res' rhs = some X') (hX : rhsSpec bases res rhs = some X) :
    rhsSpec bases (resultDiff res' res) rhs = some (X' * X⁻¹) := by
  induction rhs generalizing X' X with
  | nil =>
    cases hX'
    cases hX
    simp [rhsSpec]
  | cons r rest ih =>
    obtain ⟨a, b, R', hr, hb, hR', rfl⟩ := rhsSpec_cons_eq_some.mp hX'
    obtain ⟨a0, b', S', hs, hb', hS', rfl⟩ := rhsSpec_cons_eq_some.mp hX
    cases hb.symm.trans hb'
    refine rhsSpec_cons_eq_some.mpr ⟨a - a0, b, _, by simp [resultDiff, hr, hs], hb, ih R' S' hR' hS', ?_⟩
    rw [mul_sub, zpow_sub, mul_inv, mul_mul_mul_comm]

theorem rhsSpec_scale {bases : BaseLookup G} (d : Int) (v : String → Option Int) (rhs : List RhsContribution) (W : G)
    (hW : rhsSpec bases v rhs = some W) :
    rhsSpec bases (scaleValues d v) rhs = some (W ^ d) := by
  induction rhs generalizing W with
  | nil =>
    cases hW
    simp [rhsSpec]
  | cons r rest ih =>
    obtain ⟨x, b, W', hv, hb, hW', rfl⟩ := rhsSpec_cons_eq_some.mp hW
    refine rhsSpec_cons_eq_some.mpr ⟨d * x, b, _, by simp [scaleValues, hv], hb, ih W' hW', ?_⟩
    rw [mul_zpow, ← zpow_mul, show r.power * (d * x) = r.power * x * d by ring]

end Repr

end Gabi.KeyProof
