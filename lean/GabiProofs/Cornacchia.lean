/-
  GabiProofs.Cornacchia — the deterministic core of `sumFourSquaresSpecial`
  (internal/common/mathutil.go): Cornacchia's descent for `a² + b² = p`.

  For a prime `p ≡ 1 (mod 4)` and `w` with `w² ≡ −1 (mod p)`, `0 < w < p`, the Go loop runs Euclid's
  algorithm on `(p, w)` and returns the first remainder `r_k` with `r_k² < p` together with the next
  remainder `r_{k+1}`. We transcribe the loop statement by statement (`cornacchia`; a proof module,
  not reached by the correspondence run: the Go statements are quoted beside each line instead),
  show that it is the plain Euclidean descent (`descent`), and prove that the descent always
  stops with `r_k² + r_{k+1}² = p`. `specialAttempt` puts one iteration of the routine's outer loop
  around it, with `ProbablyPrime` and `ModSqrt` as oracles (`OraclesOk`); `exists_oracles` shows that
  the oracle hypotheses are satisfiable.

  Proof idea (elementary, no continued-fraction symmetry needed). Along Euclid's sequence keep the
  unsigned cofactors `s_i` (`s_0 = 0, s_1 = 1, s_{i+1} = s_{i-1} + q_i s_i`). The lattice
  `{(x, y) | x ≡ w·y (mod p)}` has a Gram matrix divisible by `p`, which gives the invariants
    p ∣ r_i² + s_i²,   p ∣ r_{i+1}² + s_{i+1}²,   p ∣ r_i r_{i+1} − s_i s_{i+1},   r_i s_{i+1} + r_{i+1} s_i = p.
  At the stopping index the size bounds force `r_k² + s_k² = p` and then
  `r_k r_{k+1} − s_k s_{k+1} = 0`, from which `r_{k+1} = s_k`.
-/
import GabiProofs.MathUtilLemmas
import Mathlib.Data.Nat.Prime.Basic
import Mathlib.NumberTheory.LegendreSymbol.Basic

namespace Gabi.Cornacchia
open Gabi

/-! ## The Go loop, as written -/

/-- the guarded comparison of the Go code:
    `if 2*r.BitLen()-1 <= p.BitLen() { t1.Mul(r, r); if p.Cmp(t1) > 0 { … } }`
    (Go `int` arithmetic: for `r = 0` the left side is `-1`). -/
def sqTest (p r : Nat) : Bool :=
  decide (2 * (natBitLen r : Int) - 1 ≤ (natBitLen p : Int)) && decide (r * r < p)

/-- the inner `for { … }` of `sumFourSquaresSpecial` on the state `(z, w)`;
    `none` = `break` (a remainder became 0: the outer loop retries with fresh random `x, y`).
    The guard `w = 0` is unreachable from `cornacchia` (Go would panic with a division by zero). -/
def goLoop (p : Nat) (z w : Nat) : Option (Nat × Nat) :=
  if hw : w = 0 then none else
  let z1 := z % w                                   -- z.Mod(z, w)
  if hz : z1 = 0 then none                          -- if z.BitLen() == 0 { break }
  else if sqTest p z1 then some (z1, w % z1)        -- w.Mod(w, z); return x, y, z, w
  else
    let w1 := w % z1                                -- w.Mod(w, z)
    if w1 = 0 then none                             -- if w.BitLen() == 0 { break }
    else if sqTest p w1 then some (z1 % w1, w1)     -- z.Mod(z, w); return x, y, z, w
    else goLoop p z1 w1
termination_by w
decreasing_by
  have h1 : z % w < w := Nat.mod_lt _ (Nat.pos_of_ne_zero hw)
  have h2 : w % (z % w) < z % w := Nat.mod_lt _ (Nat.pos_of_ne_zero hz)
  omega

/-- `sumFourSquaresSpecial` after `p.Set(z)` and `w = ModSqrt(p-1, p)`: the pre-test on `w` itself, then
    the loop started at `(z, w) = (p, w)`. Returns the final `(z, w)`.
    `w = 0` is outside the domain (Go: `z.Mod(z, 0)` panics; cannot happen for a root of `−1`). -/
def cornacchia (p w : Nat) : Option (Nat × Nat) :=
  if w = 0 then none
  else if sqTest p w then some (p % w, w)           -- z.Mod(z, w); return x, y, z, w
  else goLoop p p w

/-! ## The bit-length pre-test is only an optimisation -/

/-- `2^(ℓ − 1) ≤ r` for `ℓ = bitLen r`, so `2^(2ℓ − 2) ≤ r² < p < 2^(bitLen p)`. -/
theorem bitLen_pretest {p r : Nat} (h : r * r < p) :
    2 * (natBitLen r : Int) - 1 ≤ (natBitLen p : Int) := by
  by_cases hr : r = 0
  · rw [hr, natBitLen_zero]; omega
  · have h1 := two_pow_natBitLen_le r hr
    have h2 := lt_two_pow_natBitLen p
    have hpos := (natBitLen_pos_iff r).mpr hr
    have h3 : 2 ^ (natBitLen r - 1) * 2 ^ (natBitLen r - 1) ≤ r * r := Nat.mul_le_mul h1 h1
    rw [← Nat.pow_add] at h3
    have h4 : 2 ^ (natBitLen r - 1 + (natBitLen r - 1)) < 2 ^ natBitLen p := by omega
    have h5 := (Nat.pow_lt_pow_iff_right (by norm_num : 1 < 2)).mp h4
    omega

theorem sqTest_iff (p r : Nat) : sqTest p r = true ↔ r * r < p := by
  rw [sqTest, Bool.and_eq_true, decide_eq_true_iff, decide_eq_true_iff]
  exact ⟨And.right, fun h => ⟨bitLen_pretest h, h⟩⟩

/-! ## Plain Euclidean descent -/

/-- Euclid on consecutive remainders `(a, b)`: stop at the first `b` with `b² < p` and return it with
    the next remainder; `swap` records in which of the two Go variables (`z`, `w`) it sits. -/
def descent (p : Nat) (swap : Bool) (a b : Nat) : Option (Nat × Nat) :=
  if h : b = 0 then none
  else if b * b < p then some (if swap then (a % b, b) else (b, a % b))
  else descent p (!swap) b (a % b)
termination_by b
decreasing_by exact Nat.mod_lt _ (Nat.pos_of_ne_zero h)

theorem goLoop_eq_descent (p : Nat) : ∀ (w z : Nat), w ≠ 0 →
    goLoop p z w = descent p false w (z % w) := by
  intro w
  induction w using Nat.strongRecOn with
  | _ w ih =>
    intro z hw
    rw [goLoop, dif_neg hw, descent, descent]
    simp only [sqTest_iff, Bool.not_false, Bool.false_eq_true, if_false, if_true]
    split_ifs with hz h1 hw1 h2
    · rfl
    · rfl
    · rfl
    · rfl
    · exact ih _ ((Nat.mod_lt _ (Nat.pos_of_ne_zero hz)).trans (Nat.mod_lt _ (Nat.pos_of_ne_zero hw))) _ hw1

theorem cornacchia_eq_descent (p w : Nat) : cornacchia p w = descent p true p w := by
  rw [cornacchia, descent]
  simp only [sqTest_iff, Bool.not_true, if_true]
  split_ifs with hw h1
  · rfl
  · rfl
  · exact goLoop_eq_descent p w p hw

/-! ## The invariant -/

/-- invariant for consecutive remainders `a = r_i > b = r_{i+1}` with unsigned cofactors
    `s = s_i ≤ t = s_{i+1}`. -/
structure Inv (p a b s t : Nat) : Prop where
  n1 : (p : Int) ∣ (a : Int) * a + s * s
  n2 : (p : Int) ∣ (b : Int) * b + t * t
  ip : (p : Int) ∣ (a : Int) * b - s * t
  det : a * t + b * s = p
  lt : b < a
  st : s ≤ t

/-- start of the descent: `(r_0, r_1, s_0, s_1) = (p, w, 0, 1)`. -/
theorem Inv.init {p w : Nat} (hwp : w < p) (hw : p ∣ w * w + 1) : Inv p p w 0 1 where
  n1 := ⟨p, by push_cast; ring⟩
  n2 := by
    have : (p : Int) ∣ ((w * w + 1 : Nat) : Int) := Int.natCast_dvd_natCast.mpr hw
    simpa using this
  ip := ⟨w, by push_cast; ring⟩
  det := by omega
  lt := hwp
  st := by omega

theorem Inv.step {p a b s t : Nat} (h : Inv p a b s t) (hb : b ≠ 0) :
    Inv p b (a % b) t (s + a / b * t) := by
  obtain ⟨⟨k1, h1⟩, ⟨k2, h2⟩, ⟨k3, h3⟩, det, lt, st⟩ := h
  refine ⟨⟨k2, h2⟩, ⟨k1 - 2 * (a / b : Nat) * k3 + (a / b : Nat) * (a / b : Nat) * k2, ?_⟩,
    ⟨k3 - (a / b : Nat) * k2, ?_⟩, ?_, Nat.mod_lt _ (Nat.pos_of_ne_zero hb), ?_⟩
  · push_cast
    rw [Int.emod_def]
    linear_combination h1 - 2 * ((a : Int) / b) * h3 + ((a : Int) / b) * ((a : Int) / b) * h2
  · push_cast
    rw [Int.emod_def]
    linear_combination h3 - ((a : Int) / b) * h2
  · have := Nat.div_add_mod a b
    calc b * (s + a / b * t) + a % b * t = (b * (a / b) + a % b) * t + b * s := by ring
      _ = a * t + b * s := by rw [this]
      _ = p := det
  · have hq : 1 ≤ a / b := (Nat.one_le_div_iff (Nat.pos_of_ne_zero hb)).mpr (le_of_lt lt)
    calc t = 1 * t := (Nat.one_mul t).symm
      _ ≤ a / b * t := Nat.mul_le_mul_right t hq
      _ ≤ s + a / b * t := Nat.le_add_left _ _

/-- a remainder never becomes 0 while the previous one is still `> √p`. -/
theorem Inv.ne_zero {p a b s t : Nat} (h : Inv p a b s t) (hp : p.Prime) (big : p < a * a) :
    b ≠ 0 := by
  rintro rfl
  obtain ⟨-, n2, -, det, -, -⟩ := h
  -- `p ∣ t²` and `a * t = p` give `a = 1`
  rw [Nat.cast_zero, zero_mul, zero_add, ← Nat.cast_mul, Int.natCast_dvd_natCast,
    hp.dvd_mul, or_self] at n2
  obtain ⟨m, rfl⟩ := n2
  rw [Nat.zero_mul, Nat.add_zero, Nat.mul_left_comm] at det
  obtain rfl := Nat.eq_one_of_mul_eq_one_right
    (Nat.eq_of_mul_eq_mul_left hp.pos (det.trans (Nat.mul_one p).symm))
  exact absurd big (by have := hp.two_le; omega)

/-- if `a² + s² = p` and both products in `p ∣ a b − s t` are below `p`, then `a b = s t`, and
    `a t + b s = p` turns into `b p = s p`. -/
theorem Inv.eq_cofactor {p a b s t : Nat} (hp : 0 < p) (norm : a * a + s * s = p)
    (ip : (p : Int) ∣ (a : Int) * b - s * t) (det : a * t + b * s = p)
    (hab : a * b < p) (hst : s * t < p) : b = s := by
  have e : s * t = a * b :=
    (Nat.modEq_iff_dvd.mpr (by push_cast; exact ip)).eq_of_lt_of_lt hst hab
  refine Nat.eq_of_mul_eq_mul_right hp ?_
  calc b * p = a * b * a + b * s * s := by rw [← norm]; ring
    _ = s * (a * t + b * s) := by rw [← e]; ring
    _ = s * p := by rw [det]

/-- at the stopping index `b = r_k` (`r_{k-1}² > p > r_k²`): `r_k² + r_{k+1}² = p`. -/
theorem Inv.final {p a b s t : Nat} (h : Inv p a b s t) (hp : p.Prime) (h2 : p ≠ 2)
    (big : p < a * a) (hb0 : b ≠ 0) (hb : b * b < p) :
    b * b + (a % b) * (a % b) = p := by
  obtain ⟨-, -, ip', det', -, -⟩ := h.step hb0
  obtain ⟨-, n2, ip, det, lt, st⟩ := h
  have hbpos : 0 < b := Nat.pos_of_ne_zero hb0
  have hat : a * t ≤ p := by omega
  have hta : t < a := Nat.lt_of_mul_lt_mul_left (lt_of_le_of_lt hat big)
  have htt : t * t < p :=
    lt_of_le_of_ne (le_trans (Nat.mul_le_mul_right t hta.le) hat) fun h => hp.not_isSquare ⟨t, h.symm⟩
  -- `p ∣ b² + t²` with `0 < b² + t² < 2p`
  have hsum : b * b + t * t = p :=
    Nat.eq_of_dvd_of_lt_two_mul (Nat.add_pos_left (Nat.mul_pos hbpos hbpos) _).ne'
      (Int.natCast_dvd_natCast.mp (by push_cast; exact n2)) (by omega)
  have htb : t < b := by
    by_contra hcon
    rcases Nat.eq_or_lt_of_le (not_lt.mp hcon) with rfl | hlt
    · exact h2 ((Nat.prime_dvd_prime_iff_eq Nat.prime_two hp).mp ⟨b * b, by omega⟩).symm
    · -- otherwise `a b < a t ≤ p` and `s t ≤ t² < p`, so `a = t`, against `a t ≤ p < a²`
      have := Inv.eq_cofactor hp.pos hsum (by simpa only [mul_comm] using ip)
        ((Nat.add_comm _ _).trans det)
        (lt_of_lt_of_le (by rw [Nat.mul_comm]; exact Nat.mul_lt_mul_of_pos_left hlt (by omega)) hat)
        (lt_of_le_of_lt (Nat.mul_le_mul_left t st) htt)
      omega
  -- the next remainder `c` equals `t`: `b c < b² < p` and `t d < b d ≤ p`
  have hc : a % b < b := Nat.mod_lt _ hbpos
  have hbd : b * (s + a / b * t) ≤ p := by omega
  have htd : t * (s + a / b * t) < p := by
    rcases Nat.eq_zero_or_pos (s + a / b * t) with hd | hd
    · rw [hd]; exact hp.pos
    · exact lt_of_lt_of_le (Nat.mul_lt_mul_of_pos_right htb hd) hbd
  rw [Inv.eq_cofactor hp.pos hsum ip' det'
    (lt_of_le_of_lt (Nat.mul_le_mul_left b hc.le) hb) htd]
  exact hsum

/-! ## Soundness and completeness of the descent -/

theorem descent_spec {p : Nat} (hp : p.Prime) (h2 : p ≠ 2) : ∀ (b a s t : Nat) (sw : Bool),
    Inv p a b s t → p < a * a →
    ∃ x y, descent p sw a b = some (x, y) ∧ x * x + y * y = p := by
  intro b
  induction b using Nat.strongRecOn with
  | _ b ih =>
    intro a s t sw hinv big
    have hb0 := hinv.ne_zero hp big
    rw [descent, dif_neg hb0]
    by_cases hb : b * b < p
    · rw [if_pos hb]
      have hfin := hinv.final hp h2 big hb0 hb
      cases sw
      · exact ⟨b, a % b, rfl, hfin⟩
      · exact ⟨a % b, b, rfl, (Nat.add_comm _ _).trans hfin⟩
    · rw [if_neg hb]
      exact ih (a % b) (Nat.mod_lt _ (Nat.pos_of_ne_zero hb0)) b t (s + a / b * t) (!sw)
        (hinv.step hb0) (lt_of_le_of_ne (not_lt.mp hb) fun h => hp.not_isSquare ⟨b, h⟩)

/-- hypotheses on the inputs of the descent: `p` an odd prime (the Go code only gets here with
    `p ≡ 1 (mod 4)`; `p ≠ 2` is all that is used) and `w` a square root of `−1` modulo `p`. -/
structure Input (p w : Nat) : Prop where
  prime : p.Prime
  ne_two : p ≠ 2
  pos : 0 < w
  lt : w < p
  root : (w * w + 1) % p = 0

theorem cornacchia_total {p w : Nat} (h : Input p w) :
    ∃ x y, cornacchia p w = some (x, y) ∧ x * x + y * y = p := by
  rw [cornacchia_eq_descent]
  exact descent_spec h.prime h.ne_two w p 0 1 true
    (Inv.init h.lt (Nat.dvd_of_mod_eq_zero h.root)) (Nat.lt_mul_self_iff.mpr h.prime.one_lt)

/-- soundness: whatever the loop returns is a two-squares decomposition of `p`. -/
theorem cornacchia_sound {p w a b : Nat} (h : Input p w) (hr : cornacchia p w = some (a, b)) :
    a * a + b * b = p := by
  obtain ⟨x, y, hxy, hs⟩ := cornacchia_total h
  rw [hr] at hxy
  cases hxy
  exact hs

/-- completeness: on such inputs the loop never `break`s (no remainder becomes 0 before the
    stopping index) and terminates with a result. -/
theorem cornacchia_complete {p w : Nat} (h : Input p w) : (cornacchia p w).isSome = true := by
  obtain ⟨x, y, hxy, -⟩ := cornacchia_total h
  simp [hxy]

/-! ## One iteration of the outer loop of `sumFourSquaresSpecial` -/

/-- one iteration of the outer `for` of `sumFourSquaresSpecial(n)` with the random draws `x, y`;
    `none` = `continue` / `break` (another iteration with fresh `x, y`).
    `isPrime` stands for `z.ProbablyPrime(10)` and `sqrtNegOne z` for `ModSqrt(z-1, z)`.
    Negative `z = n − x² − y²` is rejected by `ProbablyPrime` (false for negative numbers). -/
def specialAttempt (isPrime : Nat → Bool) (sqrtNegOne : Nat → Nat) (n x y : Nat) : Option Quad :=
  let z : Int := (n : Int) - x * x - y * y
  if z = 2 then some ((x : Int), (y : Int), 1, 1)
  else if z ≤ 0 ∨ z.toNat % 4 ≠ 1 then none
  else if !isPrime z.toNat then none
  else (cornacchia z.toNat (sqrtNegOne z.toNat)).map (fun ab => ((x : Int), (y : Int), (ab.1 : Int), (ab.2 : Int)))

/-- what an iteration returns, with `z = n − x² − y²`: the shortcut for `z = 2`, else the answer of the
    descent for an accepted `z ≡ 1 (mod 4)`. -/
theorem specialAttempt_eq_some_iff {isPrime : Nat → Bool} {sqrtNegOne : Nat → Nat} {n x y : Nat}
    {q : Quad} {z : Int} (hz : (n : Int) - x * x - y * y = z) :
    specialAttempt isPrime sqrtNegOne n x y = some q ↔
      (z = 2 ∧ q = ((x : Int), (y : Int), 1, 1)) ∨
      (0 < z ∧ z.toNat % 4 = 1 ∧ isPrime z.toNat = true ∧
        ∃ a b, cornacchia z.toNat (sqrtNegOne z.toNat) = some (a, b) ∧
          q = ((x : Int), (y : Int), (a : Int), (b : Int))) := by
  subst hz
  unfold specialAttempt
  dsimp only
  split_ifs with h2 hdom hpr
  · refine ⟨fun h => Or.inl ⟨h2, (Option.some.inj h).symm⟩, ?_⟩
    rintro (⟨-, rfl⟩ | ⟨-, h4, -⟩)
    · rfl
    · rw [h2] at h4
      exact absurd h4 (by decide)
  · refine iff_of_false nofun ?_
    rintro (⟨h, -⟩ | ⟨h0, h4, -⟩)
    · exact h2 h
    · exact hdom.elim (not_le.mpr h0) (fun h => h h4)
  · refine iff_of_false nofun ?_
    rintro (⟨h, -⟩ | ⟨-, -, h, -⟩)
    · exact h2 h
    · rw [h] at hpr
      exact absurd hpr (by decide)
  · obtain ⟨h0, h4⟩ := not_or.mp hdom
    rw [Option.map_eq_some_iff]
    constructor
    · rintro ⟨⟨a, b⟩, hc, rfl⟩
      exact Or.inr ⟨not_le.mp h0, not_not.mp h4, by simpa using hpr, a, b, hc, rfl⟩
    · rintro (⟨h, -⟩ | ⟨-, -, -, a, b, hc, rfl⟩)
      · exact absurd h h2
      · exact ⟨(a, b), hc, rfl⟩

/-- outputs of `sumFourSquaresSpecial(n)`: the constant answer for `n < 4`, otherwise the result of a
    successful iteration for some draw `x, y`. -/
def SpecialOutput (isPrime : Nat → Bool) (sqrtNegOne : Nat → Nat) (n : Nat) (q : Quad) : Prop :=
  (n < 4 ∧ q = (1, 1, 0, 0)) ∨ (4 ≤ n ∧ ∃ x y : Nat, specialAttempt isPrime sqrtNegOne n x y = some q)

/-- the two oracles the routine calls, `ProbablyPrime` and `ModSqrt(z-1, z)`, are correct. -/
structure OraclesOk (isPrime : Nat → Bool) (sqrtNegOne : Nat → Nat) : Prop where
  prime_ok : ∀ z, isPrime z = true → z.Prime
  sqrt_ok : ∀ z, z.Prime → z % 4 = 1 →
    0 < sqrtNegOne z ∧ sqrtNegOne z < z ∧ (sqrtNegOne z * sqrtNegOne z + 1) % z = 0

/-- correct oracles hand the descent an input in its domain. -/
theorem OraclesOk.input {isPrime : Nat → Bool} {sqrtNegOne : Nat → Nat}
    (ho : OraclesOk isPrime sqrtNegOne) {z : Nat} (hpr : isPrime z = true) (h4 : z % 4 = 1) :
    Input z (sqrtNegOne z) :=
  have hp := ho.prime_ok z hpr
  have ⟨w0, wlt, wroot⟩ := ho.sqrt_ok z hp h4
  ⟨hp, by omega, w0, wlt, wroot⟩

/-! ## The oracle hypotheses are satisfiable (non-vacuity) -/

/-- a square root of `−1` exists modulo every prime `p ≡ 1 (mod 4)` (Euler's criterion). -/
theorem exists_sqrtNegOne {p : Nat} (hp : p.Prime) (h4 : p % 4 = 1) :
    ∃ w, 0 < w ∧ w < p ∧ (w * w + 1) % p = 0 := by
  have : Fact p.Prime := ⟨hp⟩
  obtain ⟨y, hy⟩ := (ZMod.exists_sq_eq_neg_one_iff (p := p)).mpr (by omega)
  refine ⟨y.val, ?_, ZMod.val_lt y, ?_⟩
  · refine Nat.pos_of_ne_zero fun h0 => ?_
    rw [(ZMod.val_eq_zero y).mp h0, zero_mul, neg_eq_zero] at hy
    exact one_ne_zero hy
  · apply Nat.mod_eq_zero_of_dvd
    rw [← ZMod.natCast_eq_zero_iff]
    push_cast
    rw [ZMod.natCast_zmod_val, ← hy]
    ring

/-- there are oracles satisfying `OraclesOk` that accept every prime: the theorems that assume
    `OraclesOk` (`GabiProps/C19Descent.lean`) are not vacuous. -/
theorem exists_oracles : ∃ (isPrime : Nat → Bool) (sqrtNegOne : Nat → Nat),
    OraclesOk isPrime sqrtNegOne ∧ ∀ z, z.Prime → isPrime z = true := by
  classical
  exact ⟨fun z => decide z.Prime,
    fun z => if h : z.Prime ∧ z % 4 = 1 then (exists_sqrtNegOne h.1 h.2).choose else 0,
    ⟨fun z hz => of_decide_eq_true hz, fun z hp h4 => by
      rw [dif_pos ⟨hp, h4⟩]
      exact (exists_sqrtNegOne hp h4).choose_spec⟩,
    fun z hz => decide_eq_true hz⟩

end Gabi.Cornacchia

#print axioms Gabi.Cornacchia.bitLen_pretest
#print axioms Gabi.Cornacchia.cornacchia_eq_descent
#print axioms Gabi.Cornacchia.cornacchia_sound
#print axioms Gabi.Cornacchia.cornacchia_complete
#print axioms Gabi.Cornacchia.exists_oracles
