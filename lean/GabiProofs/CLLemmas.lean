/-
  GabiProofs.CLLemmas — the CL-signature part of the model (`GabiModel/CL.lean`) expressed in the
  unit group of `ZMod n`: `representToBases`, `clVerifyWith`, `clRandomize`, `clSignWith`, the
  hypothesis `PublicKey.InGroup` on an issuer key under which the CL theorems are stated, and a toy
  key that satisfies it. First the invariant rule `prodLoop_rep` for the loops of the model that
  multiply `R_i ^ x_i` into an accumulator.
-/
import GabiModel.CL
import GabiProofs.Bridge
import GabiProofs.GroupAlgebra
import GabiProofs.GoMonad

namespace Gabi

variable {n : ℕ}

theorem idx_ok {α} {what : String} {l : List α} {i : Int} {a : α} (h : idx what l i = .ok a) :
    0 ≤ i ∧ l[i.toNat]? = some a :=
  (idx_ok_iff what l i a).mp h

/-! ### product loops -/

/-- Invariant rule for the product loops of the model, written as `foldlM` or as a recursive `go`.
    A `loop` that returns its accumulator on `[]` and whose step on `a :: l` continues on `l` with
    an accumulator whose class in `ZMod n` is multiplied by `R a ^ f a`, keeping `P`, ends with the
    class multiplied by `Alg.rep R f L`, and `P`. -/
theorem prodLoop_rep {α β : Type} (R : α → (ZMod n)ˣ) (f : α → ℤ) (P : Int → Prop) (ret : Int → β)
    (loop : List α → Int → GoM β) (hnil : ∀ z, loop [] z = .ok (ret z)) (L : List α)
    (hcons : ∀ a ∈ L, ∀ (l : List α) (z : Int) (u : (ZMod n)ˣ), P z → (z : ZMod n) = (u : ZMod n) →
      ∃ z', loop (a :: l) z = loop l z' ∧ P z' ∧
        (z' : ZMod n) = ((u * R a ^ f a : (ZMod n)ˣ) : ZMod n))
    (z0 : Int) (u : (ZMod n)ˣ) (h0 : P z0) (hc : (z0 : ZMod n) = (u : ZMod n)) :
    ∃ z, loop L z0 = .ok (ret z) ∧ P z ∧
      (z : ZMod n) = ((u * Alg.rep R f L : (ZMod n)ˣ) : ZMod n) := by
  induction L generalizing z0 u with
  | nil => exact ⟨z0, hnil z0, h0, by rw [Alg.rep_nil, mul_one, hc]⟩
  | cons a L ih =>
    obtain ⟨z', hz', hP', hc'⟩ := hcons a List.mem_cons_self L z0 u h0 hc
    obtain ⟨z, hz, hP, hzc⟩ := ih (fun a' h' => hcons a' (List.mem_cons_of_mem _ h')) z' _ hP' hc'
    exact ⟨z, hz'.trans hz, hP, by rw [hzc, Alg.rep_cons, mul_assoc]⟩

/-- `prodLoop_rep` for a monadic fold. -/
theorem foldlM_rep {α : Type} (R : α → (ZMod n)ˣ) (f : α → ℤ) (P : Int → Prop)
    (step : Int → α → GoM Int) (L : List α)
    (hstep : ∀ a ∈ L, ∀ (z : Int) (u : (ZMod n)ˣ), P z → (z : ZMod n) = (u : ZMod n) →
      ∃ z', step z a = .ok z' ∧ P z' ∧ (z' : ZMod n) = ((u * R a ^ f a : (ZMod n)ˣ) : ZMod n))
    (z0 : Int) (u : (ZMod n)ˣ) (h0 : P z0) (hc : (z0 : ZMod n) = (u : ZMod n)) :
    ∃ z, L.foldlM step z0 = .ok z ∧ P z ∧
      (z : ZMod n) = ((u * Alg.rep R f L : (ZMod n)ˣ) : ZMod n) :=
  prodLoop_rep R f P id (fun l z => l.foldlM step z) (fun _ => rfl) L
    (fun a ha l z u hP hc => by
      obtain ⟨z', hz', h⟩ := hstep a ha z u hP hc
      exact ⟨z', by rw [List.foldlM_cons, hz']; rfl, h⟩) z0 u h0 hc

/-! ### `RepresentToBases` -/

/-- the representation `∏ bases_i ^ attrExp(exps_i)` in the unit group; the product runs over
    `bases.zip exps`, i.e. over the first `exps.length` bases. -/
noncomputable def repU (n : ℕ) (lm : ℕ) (bases exps : List Int) : (ZMod n)ˣ :=
  Alg.rep (fun p : Int × Int => zunit n p.1) (fun p => attrExp lm p.2) (bases.zip exps)

theorem repU_nil_right (lm : ℕ) (bases : List Int) : repU n lm bases [] = 1 := by
  simp [repU]

theorem repU_cons (lm : ℕ) (b e : Int) (bases exps : List Int) :
    repU n lm (b :: bases) (e :: exps) = zunit n b ^ attrExp lm e * repU n lm bases exps := by
  simp [repU]

theorem repU_zpow_order (lm : ℕ) (bases exps : List Int) (k : Int)
    (h : ∀ b ∈ bases, zunit n b ^ k = 1) : repU n lm bases exps ^ k = 1 := by
  apply Alg.rep_zpow_eq_one
  intro p hp
  exact h p.1 (List.of_mem_zip hp).1

theorem representToBases_go_nil (bases : List Int) (m : Int) (lm i : ℕ) (r : Int) :
    representToBases.go bases m lm i [] r = .ok r := rfl

theorem representToBases_go_cons (bases : List Int) (m : Int) (lm i : ℕ) (e : Int) (es : List Int)
    (r : Int) :
    representToBases.go bases m lm i (e :: es) r =
      (idx "bases[i]" bases i >>= fun b =>
        match goExp b (attrExp lm e) m with
        | some t => representToBases.go bases m lm (i + 1) es (r * t % m)
        | none => throw (.nilDeref "Exp returned nil")) := rfl

/-- `RepresentToBases` on invertible bases (at least as many bases as exponents): it does not
    panic, and the accumulator is multiplied by the representation. -/
theorem representToBases_go_spec (hn : 1 < n) (bases : List Int) (lm : ℕ)
    (hb : ∀ b ∈ bases, IsUnit (b : ZMod n)) (es : List Int) (i : ℕ) (r : Int) (u : (ZMod n)ˣ)
    (hlen : i + es.length ≤ bases.length) (h0 : 0 ≤ r) (h1 : r < n)
    (hc : (r : ZMod n) = (u : ZMod n)) :
    ∃ r', representToBases.go bases n lm i es r = .ok r' ∧ 0 ≤ r' ∧ r' < n ∧
      (r' : ZMod n) = ((u * repU n lm (bases.drop i) es : (ZMod n)ˣ) : ZMod n) := by
  induction es generalizing i r u with
  | nil => exact ⟨r, rfl, h0, h1, by rw [repU_nil_right, mul_one, hc]⟩
  | cons e es ih =>
    rw [List.length_cons] at hlen
    have hi : i < bases.length := by omega
    obtain ⟨t, ht, -, -, htc⟩ := goExp_unit hn (hb _ (List.getElem_mem hi)) (attrExp lm e)
    obtain ⟨m0, m1, mc⟩ := mul_emod_unit (by omega : 0 < n) hc htc
    obtain ⟨r', hr', a, b, c⟩ := ih (i + 1) _ _ (by omega) m0 m1 mc
    refine ⟨r', ?_, a, b, ?_⟩
    · rw [representToBases_go_cons,
        (idx_ok_iff ..).mpr ⟨Int.natCast_nonneg i, List.getElem?_eq_getElem hi⟩, GoM.ok_bind, ht]
      exact hr'
    · rw [c, List.drop_eq_getElem_cons hi, repU_cons, mul_assoc]

theorem representToBases_spec (hn : 1 < n) (bases : List Int) (lm : ℕ)
    (hb : ∀ b ∈ bases, IsUnit (b : ZMod n)) (es : List Int) (hlen : es.length ≤ bases.length) :
    ∃ r, representToBases bases es n lm = .ok r ∧ 0 ≤ r ∧ r < n ∧
      (r : ZMod n) = ((repU n lm bases es : (ZMod n)ˣ) : ZMod n) := by
  obtain ⟨r, h, a, b, c⟩ := representToBases_go_spec hn bases lm hb es 0 1 1 (by omega) (by omega)
    (by exact_mod_cast hn) (by simp)
  exact ⟨r, h, a, b, by rw [c, one_mul, List.drop_zero]⟩

theorem representToBases_go_range (hn : 0 < n) (bases : List Int) (lm : ℕ) (es : List Int)
    (i : ℕ) (r r' : Int) (h0 : 0 ≤ r) (h1 : r < n)
    (h : representToBases.go bases n lm i es r = .ok r') : 0 ≤ r' ∧ r' < n := by
  induction es generalizing i r with
  | nil =>
    obtain rfl := Except.ok.inj h
    exact ⟨h0, h1⟩
  | cons e es ih =>
    rw [representToBases_go_cons] at h
    obtain ⟨b, -, h⟩ := GoM.bind_ok_iff.mp h
    split at h
    · exact ih _ _ (emod_range hn _).1 (emod_range hn _).2 h
    · cases h

theorem representToBases_range (hn : 1 < n) {bases es : List Int} {lm : ℕ} {r : Int}
    (h : representToBases bases es n lm = .ok r) : 0 ≤ r ∧ r < n :=
  representToBases_go_range (by omega) bases lm es 0 1 r (by omega) (by exact_mod_cast hn) h

/-! ### `RepresentToPublicKey`: the guard against negative oversized exponents -/

theorem negOversized_iff {lm : ℕ} {m : Int} :
    negOversized lm m = true ↔ (m < 0 ∧ bitLen m > lm) := by
  simp [negOversized]

theorem any_negOversized_eq_false_iff {lm : ℕ} {ms : List Int} :
    ms.any (negOversized lm) = false ↔ ∀ m ∈ ms, ¬ (m < 0 ∧ bitLen m > lm) := by
  simp only [List.any_eq_false, negOversized_iff]

theorem any_negOversized_of_nonneg {lm : ℕ} {ms : List Int} (h : ∀ m ∈ ms, 0 ≤ m) :
    ms.any (negOversized lm) = false :=
  any_negOversized_eq_false_iff.mpr fun m hm hc => absurd (h m hm) (by omega)

/-- the error return of `RepresentToPublicKey`: it comes before any base is indexed, so it is
    returned whatever the number of bases is. -/
theorem representToPublicKey_of_any {pk : PublicKey} {ms : List Int}
    (h : ms.any (negOversized pk.params.Lm) = true) : representToPublicKey pk ms = .ok none := by
  unfold representToPublicKey
  rw [if_pos h]
  rfl

theorem representToPublicKey_ok {pk : PublicKey} {ms : List Int} {r : Int}
    (h : ms.any (negOversized pk.params.Lm) = false)
    (hr : representToBases pk.r ms pk.n pk.params.Lm = .ok r) :
    representToPublicKey pk ms = .ok (some r) := by
  unfold representToPublicKey
  rw [if_neg (by rw [h]; exact Bool.false_ne_true), hr]
  rfl

theorem representToPublicKey_error {pk : PublicKey} {ms : List Int} {err : GoPanic}
    (h : ms.any (negOversized pk.params.Lm) = false)
    (hr : representToBases pk.r ms pk.n pk.params.Lm = .error err) :
    representToPublicKey pk ms = .error err := by
  unfold representToPublicKey
  rw [if_neg (by rw [h]; exact Bool.false_ne_true), hr]
  rfl

theorem representToPublicKey_ok_some {pk : PublicKey} {ms : List Int} {r : Int}
    (h : representToPublicKey pk ms = .ok (some r)) :
    ms.any (negOversized pk.params.Lm) = false ∧
      representToBases pk.r ms pk.n pk.params.Lm = .ok r := by
  cases hany : ms.any (negOversized pk.params.Lm) with
  | true =>
    rw [representToPublicKey_of_any hany] at h
    cases h
  | false =>
    refine ⟨rfl, ?_⟩
    cases hr : representToBases pk.r ms pk.n pk.params.Lm with
    | error err =>
      rw [representToPublicKey_error hany hr] at h
      cases h
    | ok r' =>
      rw [representToPublicKey_ok hany hr] at h
      cases h
      rfl

/-! ### `CLSignature.Verify` -/

/-- the block the verifier multiplies in: `R` or `R · P` (product over ℤ, not reduced). -/
def blockWithKeyshare (r : Int) : Option Int → Int
  | some p => r * p
  | none => r

/-- the keyshare factor `P` of a signature as a unit (`1` when there is none). -/
noncomputable def keyshareU (n : ℕ) : Option Int → (ZMod n)ˣ
  | some p => zunit n p
  | none => 1

theorem blockWithKeyshare_cast {r : Int} {u : (ZMod n)ˣ} {kp : Option Int}
    (hr : (r : ZMod n) = (u : ZMod n)) (hp : ∀ p, kp = some p → IsUnit (p : ZMod n)) :
    ((blockWithKeyshare r kp : Int) : ZMod n) = ((u * keyshareU n kp : (ZMod n)ˣ) : ZMod n) := by
  cases kp with
  | none => rw [blockWithKeyshare, keyshareU, mul_one, hr]
  | some p => exact mul_unit hr (zunit_val (hp p rfl)).symm

theorem eInInterval_pos {p : SysParams} {e : Int} (h : eInInterval p e = true) : 0 < e := by
  unfold eInInterval at h
  simp only [Bool.and_eq_true, decide_eq_true_eq] at h
  have : (0 : Int) < 2 ^ (p.Le - 1) := by positivity
  omega

/-- `CLSignature.Verify` when the guard of `RepresentToPublicKey` fires: `false`, after the checks
    on `e` and the computation of `A^e`, whatever the number of bases is. -/
theorem clVerifyWith_of_negOversized (isPrime : Nat → Bool) (pk : PublicKey) (sig : CLSignature)
    (ms : List Int) {ae : Int}
    (hint : eInInterval pk.params sig.e = true) (hprime : isPrime sig.e.toNat = true)
    (hae : goExp sig.a sig.e pk.n = some ae)
    (hany : ms.any (negOversized pk.params.Lm) = true) :
    clVerifyWith isPrime pk sig ms = .ok false := by
  unfold clVerifyWith
  rw [hint, hprime, hae, representToPublicKey_of_any hany]
  rfl

/-- `CLSignature.Verify` when `A^e` and the block are computed and the guard of
    `RepresentToPublicKey` lets the block pass: `false` when `S^v` does not exist, else the final
    comparison. -/
theorem clVerifyWith_of_block (isPrime : Nat → Bool) (pk : PublicKey) (sig : CLSignature) (ms : List Int)
    {ae r : Int}
    (hint : eInInterval pk.params sig.e = true) (hprime : isPrime sig.e.toNat = true)
    (hae : goExp sig.a sig.e pk.n = some ae)
    (hany : ms.any (negOversized pk.params.Lm) = false)
    (hr : representToBases pk.r ms pk.n pk.params.Lm = .ok r) :
    clVerifyWith isPrime pk sig ms =
      .ok ((goExp pk.s sig.v pk.n).elim false fun sv =>
        decide (pk.z = ae * blockWithKeyshare r sig.keyshareP * sv % pk.n)) := by
  unfold clVerifyWith
  rw [hint, hprime, hae, representToPublicKey_ok hany hr, modPow]
  cases goExp pk.s sig.v pk.n <;> rfl

theorem clVerifyWith_of_parts (isPrime : Nat → Bool) (pk : PublicKey) (sig : CLSignature) (ms : List Int)
    {ae r sv : Int}
    (hint : eInInterval pk.params sig.e = true) (hprime : isPrime sig.e.toNat = true)
    (hae : goExp sig.a sig.e pk.n = some ae)
    (hany : ms.any (negOversized pk.params.Lm) = false)
    (hr : representToBases pk.r ms pk.n pk.params.Lm = .ok r)
    (hsv : goExp pk.s sig.v pk.n = some sv) :
    clVerifyWith isPrime pk sig ms =
      .ok (decide (pk.z = ae * blockWithKeyshare r sig.keyshareP * sv % pk.n)) := by
  rw [clVerifyWith_of_block isPrime pk sig ms hint hprime hae hany hr, hsv]
  rfl

/-- `CLSignature.Verify` does not panic on a key with invertible bases when there are at most as
    many messages as bases. -/
theorem clVerifyWith_total (isPrime : Nat → Bool) (pk : PublicKey) (s : CLSignature)
    (vals : List Int) (hN : pk.n = n) (hn : 1 < n) (hr : ∀ x ∈ pk.r, IsUnit (x : ZMod n))
    (hlen : vals.length ≤ pk.r.length) :
    ∃ ok, clVerifyWith isPrime pk s vals = .ok ok := by
  cases hint : eInInterval pk.params s.e
  · exact ⟨false, by unfold clVerifyWith; rw [hint]; rfl⟩
  cases hp : isPrime s.e.toNat
  · exact ⟨false, by unfold clVerifyWith; rw [hint, hp]; rfl⟩
  -- `e > 0`, so `A^e` exists whatever `A` is
  have hae := goExp_nonneg s.a s.e pk.n (by rw [hN]; exact_mod_cast (by omega : 0 < n))
    (eInInterval_pos hint).le
  cases hany : vals.any (negOversized pk.params.Lm) with
  | true => exact ⟨_, clVerifyWith_of_negOversized isPrime pk s vals hint hp hae hany⟩
  | false =>
    obtain ⟨r, hrr, -⟩ := representToBases_spec hn pk.r pk.params.Lm hr vals hlen
    exact ⟨_, clVerifyWith_of_block isPrime pk s vals hint hp hae hany (hN ▸ hrr)⟩

/-- inversion: what an accepting `CLSignature.Verify` has checked. -/
theorem clVerifyWith_ok_true (isPrime : Nat → Bool) (pk : PublicKey) (sig : CLSignature) (ms : List Int)
    (h : clVerifyWith isPrime pk sig ms = .ok true) :
    eInInterval pk.params sig.e = true ∧ isPrime sig.e.toNat = true ∧
    ∃ ae r sv, goExp sig.a sig.e pk.n = some ae ∧
      representToBases pk.r ms pk.n pk.params.Lm = .ok r ∧
      goExp pk.s sig.v pk.n = some sv ∧
      pk.z = ae * blockWithKeyshare r sig.keyshareP * sv % pk.n := by
  unfold clVerifyWith at h
  split at h
  · cases h
  next hint =>
    split at h
    · cases h
    next hprime =>
      obtain ⟨ae, hae, h⟩ := GoM.bind_ok_iff.mp h
      obtain ⟨ro, hrp, h⟩ := GoM.bind_ok_iff.mp h
      rcases ro with _ | r
      · cases h
      dsimp only at h
      split at h
      · cases h
      next sv hsv =>
        exact ⟨by simpa using hint, by simpa using hprime, ae, r, sv, (deref_ok_iff ..).mp hae,
          (representToPublicKey_ok_some hrp).2, hsv, of_decide_eq_true (Except.ok.inj h)⟩

theorem clVerifyWith_ok_true_guard (isPrime : Nat → Bool) (pk : PublicKey) (sig : CLSignature)
    (ms : List Int) (h : clVerifyWith isPrime pk sig ms = .ok true) :
    ms.any (negOversized pk.params.Lm) = false := by
  obtain ⟨hint, hprime, ae, _, _, hae, -⟩ := clVerifyWith_ok_true isPrime pk sig ms h
  cases hany : ms.any (negOversized pk.params.Lm) with
  | false => rfl
  | true =>
    rw [clVerifyWith_of_negOversized isPrime pk sig ms hint hprime hae hany] at h
    cases h

/-- on a key with invertible bases `CLSignature.Verify` does not panic, and it accepts exactly when
    the block passes the guard and the verification equation holds in `(ZMod n)ˣ`. -/
theorem clVerifyWith_iff (isPrime : Nat → Bool) (pk : PublicKey) (sig : CLSignature) (ms : List Int)
    (hN : pk.n = n) (hn : 1 < n) (hz0 : 0 ≤ pk.z) (hz1 : pk.z < pk.n)
    (hz : IsUnit (pk.z : ZMod n)) (hs : IsUnit (pk.s : ZMod n))
    (hr : ∀ b ∈ pk.r, IsUnit (b : ZMod n)) (ha : IsUnit (sig.a : ZMod n))
    (hp : ∀ p, sig.keyshareP = some p → IsUnit (p : ZMod n))
    (hlen : ms.length ≤ pk.r.length)
    (hint : eInInterval pk.params sig.e = true) (hprime : isPrime sig.e.toNat = true) :
    ∃ b, clVerifyWith isPrime pk sig ms = .ok b ∧
      (b = true ↔ (ms.any (negOversized pk.params.Lm) = false ∧
        zunit n sig.a ^ sig.e * (repU n pk.params.Lm pk.r ms * keyshareU n sig.keyshareP) *
        zunit n pk.s ^ sig.v = zunit n pk.z)) := by
  obtain ⟨ae, hae, -, -, aec⟩ := goExp_unit hn ha sig.e
  obtain ⟨sv, hsv, -, -, svc⟩ := goExp_unit hn hs sig.v
  obtain ⟨r, hrr, -, -, rc⟩ := representToBases_spec hn pk.r pk.params.Lm hr ms hlen
  rw [← hN] at hae hsv hrr
  cases hany : ms.any (negOversized pk.params.Lm) with
  | true =>
    exact ⟨false, clVerifyWith_of_negOversized isPrime pk sig ms hint hprime hae hany, by simp⟩
  | false =>
    refine ⟨_, clVerifyWith_of_parts isPrime pk sig ms hint hprime hae hany hrr hsv, ?_⟩
    have hn0 : 0 < n := by omega
    rw [hN] at hz1 ⊢
    -- both sides of the final comparison lie in `[0, n)`: compare them in `ZMod n`
    rw [decide_eq_true_iff, and_iff_right rfl,
      ← cast_eq_iff hz0 hz1 (emod_range hn0 _).1 (emod_range hn0 _).2, ZMod.intCast_mod,
      mul_unit (mul_unit aec (blockWithKeyshare_cast rc hp)) svc, ← zunit_val hz, Units.val_inj,
      eq_comm]

/-- an accepted signature, seen in the unit group: `A`, the block and `Z` are units and the
    verification equation holds there. Only `Z` and `S` are assumed invertible. -/
theorem clVerifyWith_units (isPrime : Nat → Bool) (pk : PublicKey) (sig : CLSignature) (ms : List Int)
    (hN : pk.n = n) (hn : 1 < n) (hz : IsUnit (pk.z : ZMod n)) (hs : IsUnit (pk.s : ZMod n))
    (h : clVerifyWith isPrime pk sig ms = .ok true) :
    ∃ r, representToBases pk.r ms pk.n pk.params.Lm = .ok r ∧
      IsUnit (sig.a : ZMod n) ∧ IsUnit ((blockWithKeyshare r sig.keyshareP : Int) : ZMod n) ∧
      zunit n sig.a ^ sig.e * zunit n (blockWithKeyshare r sig.keyshareP) * zunit n pk.s ^ sig.v =
        zunit n pk.z := by
  obtain ⟨hint, -, ae, r, sv, hae, hr, hsv, heq⟩ := clVerifyWith_ok_true isPrime pk sig ms h
  refine ⟨r, hr, ?_⟩
  rw [hN] at hae hsv heq
  have hzc : ((ae * blockWithKeyshare r sig.keyshareP * sv : Int) : ZMod n) = pk.z := by
    rw [← ZMod.intCast_mod, ← heq]
  -- `Z` is invertible, hence so are the factors `A^e` and the block, and `A` as `e > 0`
  have hu : IsUnit ((ae : ZMod n) * ((blockWithKeyshare r sig.keyshareP : Int) : ZMod n) * sv) := by
    rw [← hzc] at hz
    exact_mod_cast hz
  have hu1 := isUnit_of_mul_isUnit_left hu
  have hub := isUnit_of_mul_isUnit_right hu1
  have he := eInInterval_pos hint
  have hua : IsUnit (sig.a : ZMod n) := by
    have huae := isUnit_of_mul_isUnit_left hu1
    rw [goExp_cast (by omega) sig.a sig.e he.le hae] at huae
    exact (isUnit_pow_iff (by omega)).mp huae
  obtain ⟨-, -, aec⟩ := goExp_unit_eq hn hua hae
  obtain ⟨-, -, svc⟩ := goExp_unit_eq hn hs hsv
  refine ⟨hua, hub, (zunit_of_cast ?_).symm⟩
  rw [← hzc]
  exact mul_unit (mul_unit aec (zunit_val hub).symm) svc

/-- an accepted signature without keyshare factor on a key with invertible bases: `A` is a unit
    and `A^e · ∏ R_i^{attrExp(m_i)} · S^v = Z` in `(ZMod n)ˣ`. -/
theorem clVerifyWith_repU (isPrime : Nat → Bool) (pk : PublicKey) (sig : CLSignature) (ms : List Int)
    (hN : pk.n = n) (hn : 1 < n) (hz : IsUnit (pk.z : ZMod n)) (hs : IsUnit (pk.s : ZMod n))
    (hr : ∀ b ∈ pk.r, IsUnit (b : ZMod n)) (hlen : ms.length ≤ pk.r.length)
    (hkp : sig.keyshareP = none) (h : clVerifyWith isPrime pk sig ms = .ok true) :
    IsUnit (sig.a : ZMod n) ∧
      zunit n sig.a ^ sig.e * repU n pk.params.Lm pk.r ms * zunit n pk.s ^ sig.v = zunit n pk.z := by
  obtain ⟨r, hrr, hua, _, heq⟩ := clVerifyWith_units isPrime pk sig ms hN hn hz hs h
  obtain ⟨r', hr', _, _, rc⟩ := representToBases_spec hn pk.r pk.params.Lm hr ms hlen
  rw [hN, hr'] at hrr
  obtain rfl := Except.ok.inj hrr
  rw [hkp, blockWithKeyshare, zunit_of_cast rc] at heq
  exact ⟨hua, heq⟩

/-! ### `CLSignature.Randomize` -/

/-- `CLSignature.Randomize`: `A' = A · S^r` (a unit), same `e`, `v' = v − e·r`. -/
theorem clRandomize_unit (pk : PublicKey) (sig : CLSignature) (rr : Int)
    (hN : pk.n = n) (hn : 1 < n) (hs : IsUnit (pk.s : ZMod n)) (hua : IsUnit (sig.a : ZMod n)) :
    IsUnit ((clRandomize pk sig rr).a : ZMod n) ∧
      zunit n (clRandomize pk sig rr).a = zunit n sig.a * zunit n pk.s ^ rr ∧
      0 ≤ (clRandomize pk sig rr).a ∧ (clRandomize pk sig rr).a < n := by
  obtain ⟨sr, hsr, _, _, src⟩ := goExp_unit hn hs rr
  have ha : (clRandomize pk sig rr).a = sig.a * sr % (n : Int) := by
    simp only [clRandomize, hN, hsr, Option.getD_some]
  obtain ⟨a0, a1, ac⟩ := mul_emod_unit (by omega : 0 < n) (zunit_val hua).symm src
  rw [← ha] at a0 a1 ac
  exact ⟨isUnit_of_cast ac, zunit_of_cast ac, a0, a1⟩

/-- randomisation keeps validity on every key whose `S` is invertible modulo `n` (the randomised
    `v - e·r` is usually negative): nothing is assumed on `Z`, `A` or the bases `R_i`. -/
theorem clRandomize_verifies (isPrime : Nat → Bool) (pk : PublicKey) (sig : CLSignature)
    (ms : List Int) (r : Int) (hN : pk.n = n) (hn : 1 < n) (hs : IsUnit (pk.s : ZMod n))
    (h : clVerifyWith isPrime pk sig ms = .ok true) :
    clVerifyWith isPrime pk (clRandomize pk sig r) ms = .ok true := by
  obtain ⟨hint, hprime, ae, blk, sv, hae, hr, hsv, heq⟩ := clVerifyWith_ok_true isPrime pk sig ms h
  have he := eInInterval_pos hint
  have hn0 : 0 < n := by omega
  rw [hN] at hae hsv heq
  have aec := goExp_cast hn0 sig.a sig.e he.le hae
  obtain ⟨-, -, svc⟩ := goExp_unit_eq hn hs hsv
  obtain ⟨sr, hsr, -, -, src⟩ := goExp_unit hn hs r
  have hae' := goExp_nonneg (clRandomize pk sig r).a sig.e n (by exact_mod_cast hn0) he.le
  obtain ⟨sv', hsv', -, -, svc'⟩ := goExp_unit hn hs (sig.v - sig.e * r)
  rw [← hN] at hae' hsv'
  rw [clVerifyWith_of_parts isPrime pk (clRandomize pk sig r) ms hint hprime hae'
    (clVerifyWith_ok_true_guard isPrime pk sig ms h) hr hsv', hN]
  congr 1
  rw [decide_eq_true_iff]
  conv_lhs => rw [heq]
  apply eq_of_cast_eq (emod_range hn0 _).1 (emod_range hn0 _).2 (emod_range hn0 _).1
    (emod_range hn0 _).2
  -- in `ZMod n`: `(A·S^r)^e · R · S^(v - e·r) = A^e · R · S^v`, the powers of `S` taken in `(ZMod n)ˣ`
  obtain ⟨k, hk⟩ := Int.eq_ofNat_of_zero_le he.le
  have hS : (zunit n pk.s ^ r) ^ k * zunit n pk.s ^ (sig.v - sig.e * r) = zunit n pk.s ^ sig.v := by
    rw [← zpow_natCast, ← zpow_mul, ← zpow_add, hk]
    congr 1
    ring
  simp only [clRandomize, hN, hsr, Option.getD_some]
  rw [ZMod.intCast_mod, ZMod.intCast_mod]
  push_cast
  rw [aec, svc, svc', ← congrArg Units.val hS, hk, Int.toNat_natCast]
  push_cast
  rw [src]
  ring

/-! ### the issuer's signature -/

theorem clSignWith_of_negOversized {pk : PublicKey} {order u : Int} {ms : List Int} {v e : Int}
    (h : ms.any (negOversized pk.params.Lm) = true) : clSignWith pk order u ms v e = none := by
  unfold clSignWith
  rw [representToPublicKey_of_any h]
  rfl

theorem clSignWith_some_guard {pk : PublicKey} {order u : Int} {ms : List Int} {v e : Int}
    {sig : CLSignature} (h : clSignWith pk order u ms v e = some sig) :
    ms.any (negOversized pk.params.Lm) = false := by
  cases hany : ms.any (negOversized pk.params.Lm) with
  | false => rfl
  | true =>
    rw [clSignWith_of_negOversized hany] at h
    cases h

theorem clSignWith_keyshareP {pk : PublicKey} {order u : Int} {ms : List Int} {v e : Int}
    {sig : CLSignature} (h : clSignWith pk order u ms v e = some sig) :
    sig.keyshareP = none ∧ sig.e = e ∧ sig.v = v := by
  unfold clSignWith at h
  simp only [Option.bind_eq_bind, Option.bind_eq_some_iff, Option.pure_def, Option.some.injEq] at h
  obtain ⟨r, -, sv, -, inv, -, d, -, a, -, rfl⟩ := h
  exact ⟨rfl, rfl, rfl⟩

/-- the issuer's computation up to the choice of `d`: on invertible bases and a block that passes
    the guard, `Q = Z / (S^v · R · U)` is computed (as `q`) and `A = Q^d` for `d = e⁻¹ mod order`. -/
theorem clSignWith_eq (pk : PublicKey) (order u : Int) (ms : List Int) (v e : Int)
    (hN : pk.n = n) (hn : 1 < n)
    (hz : IsUnit (pk.z : ZMod n)) (hs : IsUnit (pk.s : ZMod n))
    (hr : ∀ b ∈ pk.r, IsUnit (b : ZMod n)) (hu : IsUnit (u : ZMod n))
    (hlen : ms.length ≤ pk.r.length) (hany : ms.any (negOversized pk.params.Lm) = false) :
    ∃ q : Int, (q : ZMod n) =
        ((zunit n pk.z / (zunit n pk.s ^ v * repU n pk.params.Lm pk.r ms * zunit n u) : (ZMod n)ˣ) :
          ZMod n) ∧
      clSignWith pk order u ms v e = (commonModInverse e order).bind fun d =>
        (goExp q d n).bind fun a => some { a := a, e := e, v := v } := by
  obtain ⟨sv, hsv, -, -, svc⟩ := goExp_unit hn hs v
  obtain ⟨r, hrr, -, -, rc⟩ := representToBases_spec hn pk.r pk.params.Lm hr ms hlen
  have hrp := representToPublicKey_ok hany (by rw [hN]; exact hrr)
  have hnum : ((sv * r * u % (n : Int) : Int) : ZMod n) =
      ((zunit n pk.s ^ v * repU n pk.params.Lm pk.r ms * zunit n u : (ZMod n)ˣ) : ZMod n) := by
    rw [ZMod.intCast_mod]
    exact mul_unit (mul_unit svc rc) (zunit_val hu).symm
  obtain ⟨inv, hinv, -, -, ic⟩ := commonModInverse_unit hn (isUnit_of_cast hnum)
  rw [zunit_of_cast hnum] at ic
  refine ⟨pk.z * inv % (n : Int), ?_, ?_⟩
  · rw [ZMod.intCast_mod, div_eq_mul_inv]
    exact mul_unit (zunit_val hz).symm ic
  · unfold clSignWith
    simp only [hN, hrp, hsv, hinv, Except.toOption, Option.join_some, Option.bind_eq_bind,
      Option.bind_some, Option.pure_def]

theorem clSignWith_spec (pk : PublicKey) (order u : Int) (ms : List Int) (v e : Int)
    (hN : pk.n = n) (hn : 1 < n)
    (hz : IsUnit (pk.z : ZMod n)) (hs : IsUnit (pk.s : ZMod n))
    (hr : ∀ b ∈ pk.r, IsUnit (b : ZMod n)) (hu : IsUnit (u : ZMod n))
    (hlen : ms.length ≤ pk.r.length) (ho : 1 < order) {sig : CLSignature}
    (h : clSignWith pk order u ms v e = some sig) :
    sig.e = e ∧ sig.v = v ∧ sig.keyshareP = none ∧ 0 ≤ sig.a ∧ sig.a < n ∧
      ∃ d k : Int, d * e = 1 + k * order ∧
        (sig.a : ZMod n) =
          (((zunit n pk.z / (zunit n pk.s ^ v * repU n pk.params.Lm pk.r ms * zunit n u)) ^ d :
            (ZMod n)ˣ) : ZMod n) := by
  obtain ⟨q, hq, heq⟩ := clSignWith_eq pk order u ms v e hN hn hz hs hr hu hlen
    (clSignWith_some_guard h)
  rw [heq] at h
  simp only [Option.bind_eq_some_iff, Option.some.injEq] at h
  obtain ⟨d, hd, a, ha, rfl⟩ := h
  obtain ⟨a0, a1, ac⟩ := goExp_unit_eq hn (isUnit_of_cast hq) ha
  rw [zunit_of_cast hq] at ac
  obtain ⟨-, -, d3⟩ := commonModInverse_some ho hd
  refine ⟨rfl, rfl, rfl, a0, a1, d, (e * d) / order, ?_, ac⟩
  have := Int.emod_add_mul_ediv (e * d) order
  rw [d3] at this
  linear_combination -this

/-- the issuer's signature on a block `ms` and a commitment `u` of class `U`, when `Z`, `S`, the
    `R_i` and `U` have order dividing `order`: so has `A`, and `A^e · (R · U) · S^v = Z`.
    (`U = 1` is the plain signature of `C05.sign_verifies`.) -/
theorem clSignWith_unit (pk : PublicKey) (order u : Int) (ms : List Int) (v e : Int)
    {U : (ZMod n)ˣ} (hN : pk.n = n) (hn : 1 < n)
    (hz : IsUnit (pk.z : ZMod n)) (oZ : zunit n pk.z ^ order = 1)
    (hs : IsUnit (pk.s : ZMod n)) (oS : zunit n pk.s ^ order = 1)
    (hr : ∀ b ∈ pk.r, IsUnit (b : ZMod n) ∧ zunit n b ^ order = 1)
    (hu : (u : ZMod n) = (U : ZMod n)) (oU : U ^ order = 1)
    (hlen : ms.length ≤ pk.r.length) (ho : 1 < order) {sig : CLSignature}
    (h : clSignWith pk order u ms v e = some sig) :
    sig.e = e ∧ sig.v = v ∧ IsUnit (sig.a : ZMod n) ∧ zunit n sig.a ^ order = 1 ∧
      zunit n sig.a ^ e * (repU n pk.params.Lm pk.r ms * U) * zunit n pk.s ^ v = zunit n pk.z := by
  obtain ⟨he, hv, -, -, -, d, k, hd, hac⟩ := clSignWith_spec pk order u ms v e hN hn hz hs
    (fun b hb => (hr b hb).1) (isUnit_of_cast hu) hlen ho h
  rw [zunit_of_cast hu, mul_assoc] at hac
  have oQ : (zunit n pk.z / (zunit n pk.s ^ v * (repU n pk.params.Lm pk.r ms * U))) ^ order = 1 :=
    Alg.div_zpow_eq_one oZ (Alg.mul_zpow_eq_one (Alg.zpow_zpow_eq_one oS v)
      (Alg.mul_zpow_eq_one (repU_zpow_order _ _ _ _ fun b hb => (hr b hb).2) oU))
  rw [zunit_of_cast hac]
  exact ⟨he, hv, isUnit_of_cast hac, Alg.zpow_zpow_eq_one oQ d,
    Alg.cl_sign_verifies_of_inverse (k := k) rfl oQ hd rfl⟩

/-- the issuer's signing computation succeeds on a key whose bases are invertible, for `e`
    invertible modulo `order`, on a block without a negative message longer than `Lm` (for such a
    message `RepresentToPublicKey` returns its error and nothing is signed:
    `clSignWith_of_negOversized`). -/
theorem clSignWith_isSome (pk : PublicKey) (order u : Int) (ms : List Int) (v e : Int)
    (hN : pk.n = n) (hn : 1 < n)
    (hz : IsUnit (pk.z : ZMod n)) (hs : IsUnit (pk.s : ZMod n))
    (hr : ∀ b ∈ pk.r, IsUnit (b : ZMod n)) (hu : IsUnit (u : ZMod n))
    (hlen : ms.length ≤ pk.r.length) (hany : ms.any (negOversized pk.params.Lm) = false)
    (ho : 0 < order) (he : Int.gcd e order = 1) :
    ∃ sig, clSignWith pk order u ms v e = some sig := by
  obtain ⟨q, hq, heq⟩ := clSignWith_eq pk order u ms v e hN hn hz hs hr hu hlen hany
  cases hd : commonModInverse e order with
  | none => exact absurd he ((commonModInverse_none_iff e order ho).mp hd)
  | some d =>
    obtain ⟨a, ha, -⟩ := goExp_unit hn (isUnit_of_cast hq) d
    exact ⟨_, by rw [heq, hd, Option.bind_some, ha, Option.bind_some]⟩

/-! ### keys whose bases lie in a group of known exponent -/

/-- the hypotheses on an issuer key used by the CL theorems: modulus `> 1`, `Z` reduced, and all
    bases in a subgroup of exponent dividing `order` (for a real key: `QR_n`, `order = p'q'`). -/
structure PublicKey.InGroup (pk : PublicKey) (order : Int) : Prop where
  n_gt : 1 < pk.n
  z_nonneg : 0 ≤ pk.z
  z_lt : pk.z < pk.n
  order_gt : 1 < order
  bases : ∀ b ∈ pk.s :: pk.z :: pk.r, goExp b order pk.n = some 1

/-- what the proofs use of `InGroup`: the modulus as a natural number, and `S`, `Z`, the `R_i` (and
    any other `b` with `b^order ≡ 1`, such as a keyshare contribution) as units of `ZMod n` of order
    dividing `order`. -/
theorem PublicKey.InGroup.units {pk : PublicKey} {order : Int} (hk : pk.InGroup order) :
    ∃ n : ℕ, pk.n = n ∧ 1 < n ∧ 0 < order ∧
      (∀ b, goExp b order pk.n = some 1 → IsUnit (b : ZMod n) ∧ zunit n b ^ order = 1) ∧
      (IsUnit (pk.s : ZMod n) ∧ zunit n pk.s ^ order = 1) ∧
      (IsUnit (pk.z : ZMod n) ∧ zunit n pk.z ^ order = 1) ∧
      ∀ b ∈ pk.r, IsUnit (b : ZMod n) ∧ zunit n b ^ order = 1 := by
  obtain ⟨n, hN, hn⟩ := exists_nat_modulus hk.n_gt
  have ho : 0 < order := by have := hk.order_gt; omega
  have hu : ∀ b, goExp b order pk.n = some 1 → IsUnit (b : ZMod n) ∧ zunit n b ^ order = 1 := by
    intro b h
    rw [hN] at h
    exact ⟨isUnit_of_goExp_one (by omega) ho h, zunit_pow_order hn ho h⟩
  exact ⟨n, hN, hn, ho, hu, hu _ (hk.bases _ List.mem_cons_self),
    hu _ (hk.bases _ (List.mem_cons_of_mem _ List.mem_cons_self)),
    fun b hb => hu b (hk.bases b (List.mem_cons_of_mem _ (List.mem_cons_of_mem _ hb)))⟩

/-! ### a toy key for non-vacuity examples: `n = 7·11`, `QR_77` has exponent `p'q' = 3·5 = 15` -/

/-- toy parameters: `e ∈ [8, 12]`; `256 + LvPrime ≤ LvPrimeCommit`, the parameter hypothesis of the
    issuance theorems of C06, whose examples use this key. -/
def toyParamsCL : SysParams :=
  { LePrime := 3, Lh := 8, Lm := 8, Ln := 7, Lstatzk := 1, Le := 4, LeCommit := 12, LmCommit := 17,
    LRA := 8, LsCommit := 18, Lv := 20, LvCommit := 29, LvPrime := 8, LvPrimeCommit := 300 }

def toyKey : PublicKey :=
  { n := 77, z := 9, s := 4, g := none, h := none, r := [16, 25, 36], counter := 0,
    params := toyParamsCL, hasEcdsa := false, issuer := "toy" }

theorem toyKey_inGroup : toyKey.InGroup 15 := by
  refine ⟨by decide, by decide, by decide, by decide, ?_⟩
  intro b hb
  rw [goExp_nonneg b 15 toyKey.n (by decide) (by decide)]
  simp only [toyKey, List.mem_cons, List.not_mem_nil, or_false] at hb
  rcases hb with rfl | rfl | rfl | rfl | rfl <;> decide

end Gabi
