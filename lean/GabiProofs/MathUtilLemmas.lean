/-
  GabiProofs.MathUtilLemmas — what the helpers of GabiModel.MathUtil compute: `stripTwos`, `crt` (common.Crt),
  `FastMod` (internal/common/fastmod.go), the `SumFourSquares` wrapper around its randomised inner
  routine (mathutil.go), `groupFoldExp` (zkproof/group.go), `randomPrimeInRangeOk`.
-/
import GabiModel.MathUtil
import GabiProofs.NumLemmas
import Mathlib.Tactic.Ring
import Mathlib.Tactic.Linarith
import Mathlib.Tactic.LinearCombination
import Mathlib.Tactic.SplitIfs
import Mathlib.Data.Int.GCD

namespace Gabi

/-! ## stripTwos -/

theorem stripTwos_even (n : Nat) (h : n ≠ 0) (he : n % 2 = 0) :
    stripTwos n = ((stripTwos (n / 2)).1, (stripTwos (n / 2)).2 + 1) := by
  rw [stripTwos, dif_neg h, if_pos he]

theorem stripTwos_odd (n : Nat) (ho : n % 2 = 1) : stripTwos n = (n, 0) := by
  rw [stripTwos, dif_neg (by omega), if_neg (Nat.mod_two_ne_zero.mpr ho)]

theorem stripTwos_spec (n : Nat) (h : n ≠ 0) :
    n = (stripTwos n).1 * 2 ^ (stripTwos n).2 ∧ (stripTwos n).1 % 2 = 1 := by
  induction n using Nat.strongRecOn with
  | _ n ih =>
    by_cases he : n % 2 = 0
    · rw [stripTwos_even n h he]
      obtain ⟨h1, h2⟩ := ih (n / 2) (Nat.div_lt_self (Nat.pos_of_ne_zero h) Nat.one_lt_two)
        (by omega)
      exact ⟨by rw [pow_succ, ← mul_assoc, ← h1, Nat.div_mul_cancel (Nat.dvd_of_mod_eq_zero he)], h2⟩
    · have ho := Nat.mod_two_ne_zero.mp he
      rw [stripTwos_odd n ho]
      exact ⟨(mul_one n).symm, ho⟩

/-- for odd `p > 1`, `p - 1 = Q * 2 ^ (m + 1)` with `Q` odd and the exponent positive, so
    `p / 2 = Q * 2 ^ m`. -/
theorem stripTwos_pred_odd {p : Nat} (hp1 : 1 < p) (hodd : p % 2 = 1) :
    ∃ Q m, stripTwos (p - 1) = (Q, m + 1) ∧ Q % 2 = 1 ∧ p / 2 = Q * 2 ^ m := by
  obtain ⟨Q, M, hs⟩ : ∃ Q M, stripTwos (p - 1) = (Q, M) := ⟨_, _, rfl⟩
  obtain ⟨hQM, hQ⟩ := stripTwos_spec (p - 1) (Nat.sub_ne_zero_of_lt hp1)
  rw [hs] at hQM hQ
  dsimp only at hQM hQ
  cases M with
  | zero =>
    -- `p - 1` is even and `Q` is odd
    rw [pow_zero, mul_one] at hQM
    omega
  | succ m =>
    rw [pow_succ, ← mul_assoc] at hQM
    exact ⟨Q, m, hs, hQ, by omega⟩

/-! ## CRT -/

theorem crt_def (a pa b pb : Int) : crt a pa b pb =
    if (xgcd pa.toNat pb.toNat).1 ≠ 1 then none
    else some ((a * (xgcd pa.toNat pb.toNat).2.2 * pb
      + b * (xgcd pa.toNat pb.toNat).2.1 * pa) % (pa * pb)) := rfl

theorem crt_combination_emod {a b pa pb s1 s2 : Int} (hb : pa * s2 + pb * s1 = 1) :
    (a * s1 * pb + b * s2 * pa) % pa = a % pa := by
  rw [show a * s1 * pb + b * s2 * pa = a + pa * (b * s2 - a * s2) by linear_combination a * hb,
    Int.add_mul_emod_self_left]

theorem crt_some {a pa b pb x : Int} (hpa : 0 < pa) (hpb : 0 < pb)
    (h : crt a pa b pb = some x) :
    0 ≤ x ∧ x < pa * pb ∧ x % pa = a % pa ∧ x % pb = b % pb := by
  rw [crt_def] at h
  split at h
  · exact absurd h nofun
  · next hg =>
    have hb := xgcd_bezout pa.toNat pb.toNat
    rw [not_not.mp hg, Int.toNat_of_nonneg hpa.le, Int.toNat_of_nonneg hpb.le, Nat.cast_one] at hb
    have hpos : 0 < pa * pb := Int.mul_pos hpa hpb
    obtain rfl := Option.some.inj h
    refine ⟨Int.emod_nonneg _ hpos.ne', Int.emod_lt_of_pos _ hpos, ?_, ?_⟩
    · rw [Int.emod_emod_of_dvd _ (dvd_mul_right pa pb), crt_combination_emod hb]
    · rw [Int.emod_emod_of_dvd _ (dvd_mul_left pb pa), add_comm, crt_combination_emod (by rwa [add_comm])]

theorem crt_none_iff (a pa b pb : Int) (hpa : 0 < pa) (hpb : 0 < pb) :
    crt a pa b pb = none ↔ Int.gcd pa pb ≠ 1 := by
  rw [crt_def, xgcd_gcd]
  have h1 : pa.toNat = pa.natAbs := by omega
  have h2 : pb.toNat = pb.natAbs := by omega
  rw [Int.gcd_def, h1, h2, ite_none_some_eq_none_iff]

/-! ## FastMod -/

theorem fastModLoop_succ (fuel b c cur : Nat) : fastModLoop (fuel + 1) b c cur =
    if cur < 2 ^ b then cur else fastModLoop fuel b c (cur % 2 ^ b + cur / 2 ^ b * c) := by
  simp only [fastModLoop, Nat.div_eq_zero_iff_lt (Nat.two_pow_pos b)]

theorem fastModLoop_small (fuel b c cur : Nat) (h : cur < 2 ^ b) :
    fastModLoop fuel b c cur = cur := by
  cases fuel with
  | zero => rfl
  | succ f => rw [fastModLoop_succ, if_pos h]

/-- every loop step preserves the residue modulo `p` (because `2^b = p + c ≡ c`). -/
theorem fastModLoop_mod (fuel b c p cur : Nat) (hpc : p + c = 2 ^ b) :
    fastModLoop fuel b c cur % p = cur % p := by
  induction fuel generalizing cur with
  | zero => rfl
  | succ f ih =>
    rw [fastModLoop_succ]
    split
    · rfl
    · rw [ih, ← Nat.add_mul_mod_self_right _ (cur / 2 ^ b) p, Nat.add_assoc, ← Nat.mul_add,
        Nat.add_comm c p, hpc, Nat.mod_add_div']

/-- one folding step halves the excess over `2^b`; `j + 1` steps bring `cur` below `2^b`. -/
theorem fastModLoop_lt {b c : Nat} (h2c : 2 * c ≤ 2 ^ b) : ∀ (fuel j cur : Nat),
    2 * cur < 2 * 2 ^ b + 2 ^ b * 2 ^ j → j < fuel → fastModLoop fuel b c cur < 2 ^ b := by
  intro fuel
  induction fuel with
  | zero => intro j cur _ hf; exact absurd hf (Nat.not_lt_zero j)
  | succ f ih =>
    intro j cur h hf
    rw [fastModLoop_succ]
    split
    · assumption
    · have hdm := Nat.mod_add_div cur (2 ^ b)
      cases j with
      | zero =>
        have hq : cur / 2 ^ b = 1 := Nat.div_eq_of_lt_le (by omega) (by omega)
        rw [hq] at hdm ⊢
        rw [fastModLoop_small _ _ _ _ (by omega)]
        omega
      | succ j =>
        rw [Nat.pow_succ, ← Nat.mul_assoc] at h
        have hq : cur / 2 ^ b < 1 + 2 ^ j :=
          Nat.div_lt_of_lt_mul (by rw [Nat.mul_add]; omega)
        have hqc : cur / 2 ^ b * (2 * c) ≤ 2 ^ j * 2 ^ b := Nat.mul_le_mul (by omega) h2c
        have hr := Nat.mod_lt cur (Nat.two_pow_pos b)
        apply ih j _ _ (by omega)
        rw [Nat.mul_add, Nat.mul_left_comm, Nat.mul_comm (2 ^ b)]
        omega

/-- the fuel `FastMod.mod` supplies is enough: `x < 2 ^ k = 2 ^ b * 2 ^ (k - b)` for `k = natBitLen x`,
    so `k - b + 1 ≤ k` folding steps suffice. -/
theorem fastModLoop_natBitLen_lt {b c : Nat} (hb : 1 ≤ b) (h2c : 2 * c ≤ 2 ^ b) (x : Nat) :
    fastModLoop (natBitLen x + 1) b c x < 2 ^ b := by
  rcases Nat.lt_or_ge x (2 ^ b) with hs | hs
  · rwa [fastModLoop_small _ _ _ _ hs]
  have hk := lt_two_pow_natBitLen x
  have hbk : b ≤ natBitLen x := (Nat.pow_le_pow_iff_right Nat.one_lt_two).mp (by omega)
  rw [← Nat.sub_add_cancel hbk, Nat.pow_add, Nat.mul_comm] at hk
  exact fastModLoop_lt h2c _ (natBitLen x - b + 1) _
    (by rw [Nat.pow_succ, ← Nat.mul_assoc]; omega) (by omega)

theorem nat_mod_of_lt_two_mul (r p : Nat) (h : r < 2 * p) :
    r % p = if r ≥ p then r - p else r := by
  split
  · next hge => rw [Nat.mod_eq_sub_mod hge, Nat.mod_eq_of_lt (by omega)]
  · next hlt => exact Nat.mod_eq_of_lt (by omega)

/-- `FastMod.mod` is reduction modulo `p` for any record satisfying what `set` establishes. -/
theorem fastMod_mod_of (m : FastMod) (hb : 1 ≤ m.b)
    (hpc : m.p + m.c = 2 ^ m.b) (hcp : m.c ≤ m.p) (x : Int) :
    m.mod x = x % (m.p : Int) := by
  unfold FastMod.mod
  split_ifs with h1 h2 h3
  · rfl
  · rfl
  · exact (Int.emod_eq_of_lt (by omega) h3).symm
  · obtain ⟨xn, rfl⟩ := Int.eq_ofNat_of_zero_le (by omega : 0 ≤ x)
    have hxp : m.p ≤ xn := by omega
    have hr := fastModLoop_natBitLen_lt hb (c := m.c) (by omega) xn
    have hmod := fastModLoop_mod (natBitLen xn + 1) m.b m.c m.p xn hpc
    simp only [Int.toNat_natCast]
    rw [← Int.natCast_mod, ← hmod, nat_mod_of_lt_two_mul _ m.p (by omega)]
    split
    · next h4 =>
      rw [fastModLoop_small _ _ _ _ ((Nat.div_eq_zero_iff_lt (Nat.two_pow_pos _)).mp h4), if_pos hxp]
    · exact (apply_ite Nat.cast _ _ _).symm

theorem fastMod_spec (p : Nat) (hp : 0 < p) (x : Int) :
    (FastMod.set p).mod x = x % (p : Int) := by
  have hlt := lt_two_pow_natBitLen p
  have hle := two_pow_natBitLen_le p (by omega)
  have hb : 1 ≤ natBitLen p := (natBitLen_pos_iff p).mpr (by omega)
  have h2 : 2 ^ natBitLen p = 2 * 2 ^ (natBitLen p - 1) := by
    rw [← Nat.pow_succ']; congr 1; omega
  apply fastMod_mod_of (FastMod.set p) hb
  · show p + (2 ^ natBitLen p - p) = 2 ^ natBitLen p
    omega
  · show 2 ^ natBitLen p - p ≤ p
    omega

/-! ## Four squares wrapper -/

/-- the postcondition of `SumFourSquares(k)`: four non-negative integers whose squares sum
    to `k`. -/
def QuadOk (k : Nat) (q : Quad) : Prop :=
  0 ≤ q.1 ∧ 0 ≤ q.2.1 ∧ 0 ≤ q.2.2.1 ∧ 0 ≤ q.2.2.2 ∧
    q.1 ^ 2 + q.2.1 ^ 2 + q.2.2.1 ^ 2 + q.2.2.2 ^ 2 = (k : Int)

theorem quadOk_mk {k : Nat} {x y z w : Int} : QuadOk k (x, y, z, w) ↔
    0 ≤ x ∧ 0 ≤ y ∧ 0 ≤ z ∧ 0 ≤ w ∧ x ^ 2 + y ^ 2 + z ^ 2 + w ^ 2 = k := Iff.rfl

/-- Go's re-pairing: `y` changes place with `z` or `w` so that it has the parity of `x`. -/
def rePair (x y z w : Int) : Int × Int × Int :=
  if x % 2 ≠ y % 2 then (if x % 2 = z % 2 then (z, y, w) else (w, z, y)) else (y, z, w)

/-- half sum and half difference, the larger of the two first. -/
def halvePair (x y : Int) : Int × Int :=
  let (x, y) := if x < y then (y, x) else (x, y)
  ((x + y) / 2, (x - y) / 2)

/-- the odd case of `SumFourSquares`: from a decomposition of `2 * n` to one of `n`. -/
def oddStep (q : Quad) : Quad :=
  let t := rePair q.1 q.2.1 q.2.2.1 q.2.2.2
  let p := halvePair q.1 t.1
  let r := halvePair t.2.1 t.2.2
  (p.1, p.2, r.1, r.2)

def scaleQuad (q : Quad) (k : Nat) : Quad :=
  (q.1 * 2 ^ k, q.2.1 * 2 ^ k, q.2.2.1 * 2 ^ k, q.2.2.2 * 2 ^ k)

/-- what `SumFourSquares` returns on `n` not divisible by 4, and where it asks the inner routine. -/
def baseQuad (special : Nat → Quad) (n : Nat) : Quad :=
  if n % 4 = 2 then special n else oddStep (special (2 * n))

def baseArg (n : Nat) : Nat := if n % 4 = 2 then n else 2 * n

/-- the `n ≡ 0 (mod 4)` branch writes `n = T * 2 ^ D` with `D` even and `4 ∤ T`. -/
def stripFours (n : Nat) : Nat × Nat :=
  let td := shiftToTwoMod4 (natBitLen n + 1) (n / 2) 1
  if td.2 % 2 = 1 then (td.1 / 2, td.2 + 1) else td

theorem sumFourSquaresWith_eq (special : Nat → Quad) (n : Nat) :
    sumFourSquaresWith special n =
      if n = 0 then (0, 0, 0, 0) else
      if n % 4 = 2 then special n
      else if n % 4 = 0 then
        scaleQuad (if (stripFours n).1 = 0 then (0, 0, 0, 0) else baseQuad special (stripFours n).1)
          ((stripFours n).2 / 2)
      else oddStep (special (2 * n)) := by
  -- `unfold` first: a bare `rfl` has to unfold both sides and is much slower to check
  unfold sumFourSquaresWith
  rfl

theorem sumFourSquaresInnerArg_eq (n : Nat) : sumFourSquaresInnerArg n =
    if n = 0 then 0 else
    if n % 4 = 2 then n
    else if n % 4 = 0 then
      if (stripFours n).1 = 0 then 0 else baseArg (stripFours n).1
    else 2 * n := by
  unfold sumFourSquaresInnerArg stripFours
  simp only [apply_ite Prod.fst]
  rfl

theorem sq_eq_self_add_even (x : Int) : ∃ k, x ^ 2 = x + 2 * k := by
  obtain ⟨r, hr⟩ := Int.even_mul_pred_self x
  exact ⟨r, by linear_combination hr⟩

theorem QuadOk.parity {k : Nat} {x y z w : Int} (h : QuadOk k (x, y, z, w)) :
    (x + y + z + w) % 2 = k % 2 := by
  obtain ⟨a, ha⟩ := sq_eq_self_add_even x
  obtain ⟨b, hb⟩ := sq_eq_self_add_even y
  obtain ⟨c, hc⟩ := sq_eq_self_add_even z
  obtain ⟨d, hd⟩ := sq_eq_self_add_even w
  have := (quadOk_mk.mp h).2.2.2.2
  omega

theorem half_sq (x y : Int) (h : x % 2 = y % 2) :
    2 * (((x + y) / 2) ^ 2 + ((x - y) / 2) ^ 2) = x ^ 2 + y ^ 2 := by
  obtain ⟨b, hb⟩ := Int.dvd_of_emod_eq_zero (Int.emod_eq_emod_iff_emod_sub_eq_zero.mp h)
  obtain rfl := eq_add_of_sub_eq hb
  rw [show 2 * b + y + y = 2 * (b + y) by ring, add_sub_cancel_right,
    Int.mul_ediv_cancel_left _ two_ne_zero, Int.mul_ediv_cancel_left _ two_ne_zero]
  ring

theorem halvePair_ok {x y : Int} (hx : 0 ≤ x) (hy : 0 ≤ y) (h : x % 2 = y % 2) :
    0 ≤ (halvePair x y).1 ∧ 0 ≤ (halvePair x y).2 ∧
      2 * ((halvePair x y).1 ^ 2 + (halvePair x y).2 ^ 2) = x ^ 2 + y ^ 2 := by
  unfold halvePair
  split_ifs with hlt
  · exact ⟨Int.ediv_nonneg (add_nonneg hy hx) zero_le_two,
      Int.ediv_nonneg (sub_nonneg.mpr hlt.le) zero_le_two, by rw [half_sq y x h.symm, add_comm]⟩
  · exact ⟨Int.ediv_nonneg (add_nonneg hx hy) zero_le_two,
      Int.ediv_nonneg (sub_nonneg.mpr (not_lt.mp hlt)) zero_le_two, half_sq x y h⟩

theorem parity_rest {a b c d : Int} (h : (a + b + c + d) % 2 = 0) (hab : a % 2 = b % 2) :
    c % 2 = d % 2 := by omega

/-- an even sum of four squares has an even number of odd terms, so the re-pairing finds a partner
    of `x`'s parity, and the two left over agree in parity as well. -/
theorem rePair_ok {k : Nat} {x y z w : Int} (h : QuadOk k (x, y, z, w)) (hk : k % 2 = 0) :
    QuadOk k (x, rePair x y z w) ∧ x % 2 = (rePair x y z w).1 % 2 ∧
      (rePair x y z w).2.1 % 2 = (rePair x y z w).2.2 % 2 := by
  -- of three residues modulo 2 two agree
  have e0 : x % 2 ≠ y % 2 → x % 2 ≠ z % 2 → z % 2 = y % 2 := by omega
  have hp : (x + y + z + w) % 2 = 0 := h.parity.trans (mod_cast hk)
  obtain ⟨hx, hy, hz, hw, hs⟩ := quadOk_mk.mp h
  unfold rePair
  split_ifs with hxy hxz
  · exact ⟨⟨hx, hz, hy, hw, by rw [← hs, add_right_comm (x ^ 2)]⟩, hxz,
      parity_rest (by rwa [add_right_comm x] at hp) hxz⟩
  · have hzy := e0 hxy hxz
    exact ⟨⟨hx, hw, hz, hy, by rw [← hs]; ring⟩,
      parity_rest (by rwa [add_right_comm x, add_comm x, add_right_comm z] at hp) hzy, hzy⟩
  · exact ⟨h, not_not.mp hxy, parity_rest hp (not_not.mp hxy)⟩

theorem oddStep_ok (m : Nat) (q : Quad) (h : QuadOk (2 * m) q) : QuadOk m (oddStep q) := by
  obtain ⟨x, y, z, w⟩ := q
  obtain ⟨h', hxy, hzw⟩ := rePair_ok h (Nat.mul_mod_right 2 m)
  dsimp only [oddStep]
  generalize rePair x y z w = t at h' hxy hzw ⊢
  obtain ⟨hx, hy, hz, hw, hs⟩ := h'
  obtain ⟨ha, hb, hab⟩ := halvePair_ok (y := t.1) hx hy hxy
  obtain ⟨hc, hd, hcd⟩ := halvePair_ok (x := t.2.1) (y := t.2.2) hz hw hzw
  refine ⟨ha, hb, hc, hd, ?_⟩
  rw [Nat.cast_mul, Nat.cast_ofNat] at hs
  dsimp only at hs ⊢
  linarith

theorem shiftToTwoMod4_succ (fuel temp d : Nat) : shiftToTwoMod4 (fuel + 1) temp d =
    if temp % 4 = 2 then (temp, d) else shiftToTwoMod4 fuel (temp / 2) (d + 1) := rfl

theorem shiftToTwoMod4_spec (fuel : Nat) : ∀ (temp d : Nat), temp ≠ 0 → temp % 2 = 0 →
    temp < 2 ^ fuel →
    (shiftToTwoMod4 fuel temp d).1 % 4 = 2 ∧
    (shiftToTwoMod4 fuel temp d).1 * 2 ^ (shiftToTwoMod4 fuel temp d).2 = temp * 2 ^ d := by
  induction fuel with
  | zero => intro temp d h0 _ hlt; exact absurd (Nat.lt_one_iff.mp hlt) h0
  | succ f ih =>
    intro temp d h0 hev hlt
    rw [shiftToTwoMod4_succ]
    split
    · next h2 => exact ⟨h2, rfl⟩
    · rw [Nat.pow_succ] at hlt
      obtain ⟨i1, i2⟩ := ih (temp / 2) (d + 1) (by omega) (by omega) (by omega)
      refine ⟨i1, ?_⟩
      rw [i2, Nat.pow_succ, Nat.mul_comm _ 2, ← Nat.mul_assoc,
        Nat.div_mul_cancel (Nat.dvd_of_mod_eq_zero hev)]

theorem stripFours_spec {n : Nat} (hn : n ≠ 0) (h4 : n % 4 = 0) :
    (stripFours n).1 % 4 ≠ 0 ∧ (stripFours n).1 * 2 ^ (2 * ((stripFours n).2 / 2)) = n := by
  obtain ⟨s1, s2⟩ := shiftToTwoMod4_spec (natBitLen n + 1) (n / 2) 1 (by omega) (by omega)
    (by have := lt_two_pow_natBitLen n; rw [Nat.pow_succ]; omega)
  rw [Nat.pow_one, Nat.div_mul_cancel (show 2 ∣ n by omega)] at s2
  unfold stripFours
  generalize shiftToTwoMod4 (natBitLen n + 1) (n / 2) 1 = td at s1 s2 ⊢
  obtain ⟨t, d⟩ := td
  dsimp only at s1 s2 ⊢
  split
  · -- `d` odd: one more halving makes `t` odd and the exponent even
    refine ⟨show t / 2 % 4 ≠ 0 by omega, ?_⟩
    dsimp only
    rw [← s2, show 2 * ((d + 1) / 2) = d + 1 by omega, Nat.pow_succ, ← Nat.mul_assoc,
      Nat.mul_right_comm, Nat.div_mul_cancel (show 2 ∣ t by omega)]
  · refine ⟨show t % 4 ≠ 0 by omega, ?_⟩
    dsimp only
    rw [show 2 * (d / 2) = d by omega, s2]

theorem baseQuad_ok (special : Nat → Quad) {n : Nat} (h4 : n % 4 ≠ 0) :
    baseArg n % 4 = 2 ∧
      (QuadOk (baseArg n) (special (baseArg n)) → QuadOk n (baseQuad special n)) := by
  unfold baseArg baseQuad
  split_ifs with h2
  · exact ⟨h2, id⟩
  · exact ⟨by omega, oddStep_ok n _⟩

theorem scaleQuad_ok (T k : Nat) (q : Quad) (h : QuadOk T q) :
    QuadOk (T * 2 ^ (2 * k)) (scaleQuad q k) := by
  obtain ⟨x, y, z, w⟩ := q
  obtain ⟨hx, hy, hz, hw, hsum⟩ := quadOk_mk.mp h
  have hp : (0 : Int) ≤ 2 ^ k := by positivity
  refine ⟨mul_nonneg hx hp, mul_nonneg hy hp, mul_nonneg hz hp, mul_nonneg hw hp, ?_⟩
  simp only [scaleQuad]
  push_cast
  rw [← hsum]
  ring

/-- for `n ≠ 0` the wrapper consults the inner routine at exactly one argument
    `sumFourSquaresInnerArg n`, which is `≡ 2 (mod 4)`, and a correct answer there suffices. -/
theorem sumFourSquares_core (special : Nat → Quad) (n : Nat) (hn : n ≠ 0) :
    sumFourSquaresInnerArg n % 4 = 2 ∧
    (QuadOk (sumFourSquaresInnerArg n) (special (sumFourSquaresInnerArg n)) →
      QuadOk n (sumFourSquaresWith special n)) := by
  rw [sumFourSquaresWith_eq, sumFourSquaresInnerArg_eq, if_neg hn, if_neg hn]
  by_cases h4 : n % 4 = 0
  · obtain ⟨hT, hTD⟩ := stripFours_spec hn h4
    have hT0 : (stripFours n).1 ≠ 0 := fun h => hT (by rw [h])
    have h2 : n % 4 ≠ 2 := by omega
    rw [if_neg h2, if_neg h2, if_pos h4, if_pos h4, if_neg hT0, if_neg hT0]
    obtain ⟨b1, b2⟩ := baseQuad_ok special hT
    refine ⟨b1, fun h => ?_⟩
    have := scaleQuad_ok _ ((stripFours n).2 / 2) _ (b2 h)
    rwa [hTD] at this
  · rw [if_neg h4, if_neg h4]
    exact baseQuad_ok special h4

theorem sumFourSquaresWith_zero (special : Nat → Quad) :
    sumFourSquaresWith special 0 = (0, 0, 0, 0) := rfl

theorem sumFourSquaresInnerArg_zero : sumFourSquaresInnerArg 0 = 0 := rfl

/-- the inner routine is only ever invoked on arguments `≡ 2 (mod 4)`. -/
theorem sumFourSquaresInnerArg_mod (n : Nat) (hn : n ≠ 0) : sumFourSquaresInnerArg n % 4 = 2 :=
  (sumFourSquares_core (fun _ => (0, 0, 0, 0)) n hn).1

/-- wrapper correctness: it suffices that the inner routine is right on the single
    argument the wrapper derives. -/
theorem sumFourSquaresWith_spec_arg (special : Nat → Quad) (n : Nat)
    (hs : n ≠ 0 → QuadOk (sumFourSquaresInnerArg n) (special (sumFourSquaresInnerArg n))) :
    QuadOk n (sumFourSquaresWith special n) := by
  by_cases hn : n = 0
  · subst hn; exact ⟨le_rfl, le_rfl, le_rfl, le_rfl, rfl⟩
  · exact (sumFourSquares_core special n hn).2 (hs hn)

theorem sumFourSquaresWith_spec (special : Nat → Quad) (n : Nat)
    (hs : ∀ k, k % 4 = 2 → QuadOk k (special k)) :
    QuadOk n (sumFourSquaresWith special n) :=
  sumFourSquaresWith_spec_arg special n (fun hn => hs _ (sumFourSquaresInnerArg_mod n hn))

/-! ## groupFoldExp -/

theorem groupFoldExp_def (e order : Int) : groupFoldExp e order =
    if (if e < 0 then e + order else e) ≥ order then none
    else some (if e < 0 then e + order else e) := rfl

theorem groupFoldExp_none_iff (e order : Int) :
    groupFoldExp e order = none ↔ (if e < 0 then e + order else e) ≥ order := by
  rw [groupFoldExp_def, ite_none_some_eq_none_iff]

/-! ## randomPrimeInRangeOk -/

theorem randomPrimeInRangeOk_prime {start length p : Nat}
    (h : randomPrimeInRangeOk start length p = true) : probablyPrime p = true := by
  unfold randomPrimeInRangeOk at h
  simp only [Bool.and_eq_true, decide_eq_true_eq] at h
  exact h.2

end Gabi

#print axioms Gabi.stripTwos_spec
#print axioms Gabi.crt_some
#print axioms Gabi.crt_none_iff
#print axioms Gabi.fastMod_spec
#print axioms Gabi.sumFourSquaresWith_spec
#print axioms Gabi.sumFourSquaresWith_spec_arg
#print axioms Gabi.sumFourSquaresInnerArg_mod
#print axioms Gabi.groupFoldExp_none_iff
