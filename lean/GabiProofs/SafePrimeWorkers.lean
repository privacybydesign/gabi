/-
  GabiProofs.SafePrimeWorkers — facts about the transition system Gabi.Conc.SafePrimeWorkers:
  invariants, the decreasing measure after `close(stop)`, quiescent states, and the explicit
  counter-schedule for the blocking send statement (`.blockingSend`, /repo before commit 63403f6).
-/
import GabiModel.SafePrimeWorkers
namespace Gabi.Conc.SafePrimeWorkers

/-! ### `step` as guard and effect -/

def enabled (pr : Proto) (s : St) : Act → Prop
  | .genDone => 0 < s.gen
  | .checkSend => 0 < s.check ∧ s.stopped = false
  | .checkQuit => 0 < s.check ∧ s.stopped = true
  | .send => 0 < s.sending ∧ s.buf < s.cap
  | .quit => pr = .selectSend ∧ 0 < s.sending ∧ s.stopped = true
  | .recv _ => s.cons = .recv ∧ 0 < s.buf
  | .close => s.cons = .closing
  | .stopper => s.stop = true ∧ s.stopped = false

def effect (s : St) : Act → St
  | .genDone => { s with gen := s.gen - 1, check := s.check + 1 }
  | .checkSend => { s with check := s.check - 1, sending := s.sending + 1 }
  | .checkQuit => { s with check := s.check - 1, done := s.done + 1 }
  | .send => { s with sending := s.sending - 1, gen := s.gen + 1, buf := s.buf + 1 }
  | .quit => { s with sending := s.sending - 1, done := s.done + 1 }
  | .recv last => { s with buf := s.buf - 1, cons := if last then .closing else .recv }
  | .close => { s with stop := true, cons := .finished }
  | .stopper => { s with stopped := true }

theorem step_eq_some {pr : Proto} {s s' : St} {a : Act} :
    step pr s a = some s' ↔ enabled pr s a ∧ effect s a = s' := by
  cases a <;> exact Option.ite_some_none_eq_some

theorem step_eq_none {pr : Proto} {s : St} {a : Act} : step pr s a = none ↔ ¬ enabled pr s a := by
  simp only [Option.eq_none_iff_forall_ne_some, ne_eq, step_eq_some, not_and]
  exact ⟨fun h he => h _ he rfl, fun h _ he => absurd he h⟩

/-! ### executions -/

theorem runActs_cons {pr : Proto} {s s' : St} {a : Act} {as : List Act} :
    runActs pr s (a :: as) = some s' ↔ ∃ s1, step pr s a = some s1 ∧ runActs pr s1 as = some s' := by
  rw [runActs]
  cases step pr s a <;> simp

theorem runActs_append (pr : Proto) (s : St) (as bs : List Act) :
    runActs pr s (as ++ bs) = (runActs pr s as).bind (fun s' => runActs pr s' bs) := by
  induction as generalizing s with
  | nil => rfl
  | cons a as ih =>
    rw [List.cons_append, runActs, runActs]
    cases step pr s a with
    | none => rfl
    | some s1 => exact ih s1

theorem runActs_preserves {pr : Proto} {P : St → Prop}
    (hP : ∀ {s s' : St} {a : Act}, P s → step pr s a = some s' → P s') (acts : List Act) {s s' : St}
    (hs : P s) (h : runActs pr s acts = some s') : P s' := by
  induction acts generalizing s with
  | nil => exact Option.some.inj h ▸ hs
  | cons a as ih =>
    obtain ⟨s1, hst, h⟩ := runActs_cons.mp h
    exact ih (hP hs hst) h

inductive Reach (pr : Proto) (n : Nat) : St → Prop where
  | init : Reach pr n (init n)
  | step {s s' : St} (a : Act) : Reach pr n s → step pr s a = some s' → Reach pr n s'

theorem reach_of_runActs {pr : Proto} {n : Nat} {s s' : St} (acts : List Act)
    (hs : Reach pr n s) (h : runActs pr s acts = some s') : Reach pr n s' :=
  runActs_preserves (Reach.step _) acts hs h

/-! ### the invariant -/

structure Inv (n : Nat) (s : St) : Prop where
  workers : s.gen + s.check + s.sending + s.done = n
  cap_eq : s.cap = n
  buf_le : s.buf ≤ s.cap
  stopped_stop : s.stopped = true → s.stop = true
  stop_iff : s.stop = true ↔ s.cons = .finished

theorem inv_init (n : Nat) : Inv n (init n) :=
  ⟨rfl, rfl, Nat.zero_le n, nofun, nofun, nofun⟩

theorem inv_step {pr : Proto} {n : Nat} {s s' : St} {a : Act} (hi : Inv n s)
    (h : step pr s a = some s') : Inv n s' := by
  obtain ⟨he, rfl⟩ := step_eq_some.mp h
  obtain ⟨hw, hc, hb, hss, hsi⟩ := hi
  cases a with
  | send => exact ⟨by dsimp only [effect, enabled] at he ⊢; omega, hc, he.2, hss, hsi⟩
  | recv last =>
    have hns : ¬ s.stop = true := fun hst => nomatch (hsi.mp hst).symm.trans he.1
    exact ⟨hw, hc, Nat.le_trans (Nat.sub_le _ _) hb, hss, by cases last <;> simp [effect, hns]⟩
  | close => exact ⟨hw, hc, hb, fun _ => rfl, fun _ => rfl, fun _ => rfl⟩
  | stopper => exact ⟨hw, hc, hb, fun _ => he.1, hsi⟩
  | _ =>
    -- the other worker moves shift one worker from a counter the guard says is positive
    exact ⟨by dsimp only [effect, enabled] at he ⊢; omega, hc, hb, hss, hsi⟩

theorem inv_of_reach {pr : Proto} {n : Nat} {s : St} (h : Reach pr n s) : Inv n s := by
  induction h with
  | init => exact inv_init n
  | step a _ hst ih => exact inv_step ih hst

/-! ### after `close(stop)` -/

theorem finished_stable {pr : Proto} {s s' : St} {a : Act} (hf : s.cons = .finished)
    (h : step pr s a = some s') : s'.cons = .finished := by
  obtain ⟨he, rfl⟩ := step_eq_some.mp h
  cases a with
  | recv last => exact absurd (hf.symm.trans he.1) nofun
  | close => rfl
  | _ => exact hf

theorem finished_of_runActs {pr : Proto} {s s' : St} (acts : List Act) (hf : s.cons = .finished)
    (h : runActs pr s acts = some s') : s'.cons = .finished :=
  runActs_preserves finished_stable acts hf h

theorem measure_decreases {pr : Proto} {s s' : St} {a : Act} (hf : s.cons = .finished)
    (h : step pr s a = some s') : measure s' < measure s := by
  obtain ⟨he, rfl⟩ := step_eq_some.mp h
  cases a with
  | recv last => exact absurd (hf.symm.trans he.1) nofun
  | close => exact absurd (hf.symm.trans he) nofun
  | stopper => simp [measure, effect, he.2]
  | _ =>
    -- a worker move: arithmetic on the counters, the guard saying which one is positive
    dsimp only [measure, effect, enabled] at he ⊢
    omega

theorem run_length_le_measure {pr : Proto} {n : Nat} (acts : List Act) {s s' : St}
    (hi : Inv n s) (hf : s.cons = .finished) (h : runActs pr s acts = some s') :
    acts.length + measure s' ≤ measure s := by
  induction acts generalizing s with
  | nil => exact Nat.le_of_eq (by rw [Option.some.inj h, List.length_nil, Nat.zero_add])
  | cons a as ih =>
    obtain ⟨s1, hst, h⟩ := runActs_cons.mp h
    have h1 := measure_decreases hf hst
    have h2 := ih (inv_step hi hst) (finished_stable hf hst) h
    rw [List.length_cons]
    omega

theorem measure_le {n : Nat} {s : St} (hi : Inv n s) : measure s ≤ 6 * n + 1 := by
  have := hi.workers
  have := hi.cap_eq
  have : (if s.stopped then 0 else 1) ≤ 1 := by split <;> decide
  simp only [measure]
  omega

/-! ### quiescent states -/

theorem mem_allActs (a : Act) : a ∈ allActs := by
  cases a with
  | recv last => cases last <;> decide
  | _ => decide

theorem terminal_iff {pr : Proto} {s : St} : terminal pr s = true ↔ ∀ a, step pr s a = none := by
  simp only [terminal, List.all_eq_true, Option.isNone_iff_eq_none]
  exact ⟨fun h a => h a (mem_allActs a), fun h a _ => h a⟩

/-! ### the blocking send (`default: ints <- x`): an explicit schedule that strands every worker -/

def rounds (block : List Act) : Nat → List Act
  | 0 => []
  | k + 1 => block ++ rounds block k

theorem run_rounds (pr : Proto) (block : List Act) (k : Nat) (σ : Nat → St)
    (h : ∀ i, i < k → runActs pr (σ i) block = some (σ (i + 1))) :
    runActs pr (σ 0) (rounds block k) = some (σ k) := by
  induction k generalizing σ with
  | zero => rfl
  | succ k ih =>
    rw [rounds, runActs_append, h 0 (Nat.succ_pos k)]
    exact ih (fun i => σ (i + 1)) fun i hi => h (i + 1) (Nat.succ_lt_succ hi)

/-- a worker completes `Generate`, takes the `default` branch and sends. -/
theorem run_produce (pr : Proto) (s : St) (hg : 0 < s.gen) (hst : s.stopped = false)
    (hb : s.buf < s.cap) :
    runActs pr s [.genDone, .checkSend, .send] = some { s with buf := s.buf + 1 } := by
  obtain ⟨g, c, sd, d, b, cp, st, stp, cn⟩ := s
  obtain ⟨g, rfl⟩ := Nat.exists_eq_add_one.mpr hg
  subst hst
  simp [runActs, step, show b < cp from hb]

/-- a worker completes `Generate` and takes the `default` branch (arriving at the send). -/
theorem run_arrive (pr : Proto) (s : St) (hg : 0 < s.gen) (hst : s.stopped = false) :
    runActs pr s [.genDone, .checkSend] =
      some { s with gen := s.gen - 1, sending := s.sending + 1 } := by
  obtain ⟨g, c, sd, d, b, cp, st, stp, cn⟩ := s
  subst hst
  simp [runActs, step, show 0 < g from hg]

/-- the schedule: one value is produced and received (the consumer has its pair), the workers
    fill the buffer, all arrive at the send, the consumer closes `stop`, the stopper closes
    `stopped`. -/
def leakSchedule (n : Nat) : List Act :=
  [.genDone, .checkSend, .send, .recv true] ++ rounds [.genDone, .checkSend, .send] n ++
    rounds [.genDone, .checkSend] n ++ [.close, .stopper]

/-- the state this schedule ends in: all `n` workers wait at the send, buffer full. -/
def leakState (n : Nat) : St :=
  { gen := 0, check := 0, sending := n, done := 0, buf := n, cap := n, stop := true, stopped := true,
    cons := .finished }

theorem run_leakSchedule (pr : Proto) (n : Nat) (hn : 0 < n) :
    runActs pr (init n) (leakSchedule n) = some (leakState n) := by
  let s1 : St := { init n with cons := .closing }
  have h1 : runActs pr (init n) [.genDone, .checkSend, .send, .recv true] = some s1 := by
    simp [runActs, step, init, hn, s1, Nat.sub_add_cancel hn]
  have h2 : runActs pr s1 (rounds _ n) = some { s1 with buf := n } :=
    run_rounds pr _ n (fun i => { s1 with buf := i }) fun i hi => run_produce pr _ hn rfl hi
  have h3 : runActs pr { s1 with buf := n } (rounds _ n) =
      some { s1 with buf := n, gen := n - n, sending := n } :=
    run_rounds pr _ n (fun i => { s1 with buf := n, gen := n - i, sending := i }) fun i hi =>
      run_arrive pr _ (Nat.sub_pos_of_lt hi) rfl
  rw [leakSchedule, runActs_append, runActs_append, runActs_append, h1, Option.bind_some, h2,
    Option.bind_some, h3, Option.bind_some]
  simp [runActs, step, init, leakState, s1]

/-- every guard fails in `leakState`: no worker is in `Generate` or at the `select`, the buffer is
    full, the blocking send has no `quit`, the consumer and the stopper have finished. -/
theorem leakState_terminal (n : Nat) : ∀ a, step .blockingSend (leakState n) a = none := by
  refine fun a => step_eq_none.mpr fun he => ?_
  cases a with
  | genDone => exact Nat.lt_irrefl 0 he
  | checkSend => exact Nat.lt_irrefl 0 he.1
  | checkQuit => exact Nat.lt_irrefl 0 he.1
  | send => exact Nat.lt_irrefl n he.2
  | quit => exact nomatch he.1
  | recv last => exact nomatch he.1
  | close => exact nomatch he
  | stopper => exact nomatch he.2

/-- with the `select` send the workers of `leakState` can still return. -/
theorem leakState_not_terminal {n : Nat} (hn : 0 < n) : terminal .selectSend (leakState n) = false :=
  Bool.eq_false_iff.mpr fun ht => step_eq_none.mp (terminal_iff.mp ht .quit) ⟨rfl, hn, rfl⟩

end Gabi.Conc.SafePrimeWorkers
