/-
  GabiProofs.RootSoundness — what the Gennaro–Micciancio–Rabin component proofs of package keyproof
  exclude, qualitatively: for a modulus of the wrong shape some unit is a challenge that no response
  answers. A prime dividing both `φ(N)` and the exponent `e` leaves a unit without `e`-th root (square-free
  and disjoint-prime-product proofs); three distinct odd prime factors leave a unit `c` with none of
  `c, −c, 2c, −2c` a square (prime-power-product proof). How often the hash-derived challenges hit such
  units is not treated.
-/
import Mathlib.Data.Nat.Totient
import Mathlib.Data.ZMod.Basic
import Mathlib.GroupTheory.Perm.Cycle.Type
import Mathlib.GroupTheory.OrderOfElement
import Mathlib.Algebra.Group.Hom.Basic
import Mathlib.Data.Fintype.Card
import Mathlib.Data.ZMod.Units
import Mathlib.Data.Nat.ModEq
import Mathlib.FieldTheory.Finite.Basic
import Mathlib.NumberTheory.LegendreSymbol.Basic
import Mathlib.Tactic.Ring
import Mathlib.Tactic.Linarith
import Mathlib.Tactic.NormNum

namespace Gabi.KeyProof

/-! ## a common prime factor of `φ(N)` and the exponent: some unit has no root -/

/-- Cauchy: a unit `g` of prime order `s` has `g^e = 1`, so `x ↦ x^e` is not injective on the finite
    group of units, hence not surjective. -/
theorem exists_unit_not_pow {N e s : ℕ} (hs : s.Prime) (hsφ : s ∣ Nat.totient N) (hse : s ∣ e)
    (hN : 1 < N) : ∃ u : (ZMod N)ˣ, ∀ x : (ZMod N)ˣ, x ^ e ≠ u := by
  have : NeZero N := ⟨by omega⟩
  have : Fact s.Prime := ⟨hs⟩
  have hcard : s ∣ Nat.card (ZMod N)ˣ := by
    rw [Nat.card_eq_fintype_card, ZMod.card_units_eq_totient]; exact hsφ
  obtain ⟨g, hg⟩ := exists_prime_orderOf_dvd_card' s hcard
  have hge : g ^ e = 1 := by
    rw [← orderOf_dvd_iff_pow_eq_one, hg]; exact hse
  have hg1 : g ≠ 1 := by
    intro h
    rw [h, orderOf_one] at hg
    exact hs.one_lt.ne hg
  have hninj : ¬ Function.Injective (fun x : (ZMod N)ˣ => x ^ e) := by
    intro hinj
    apply hg1
    apply hinj
    simp [hge]
  have hnsurj : ¬ Function.Surjective (fun x : (ZMod N)ˣ => x ^ e) := by
    rwa [← Finite.injective_iff_surjective]
  simp only [Function.Surjective, not_forall, not_exists] at hnsurj
  exact hnsurj

/-- `exists_unit_not_pow` on natural numbers, in the form of the verifiers' round check `r^e mod N = c`. -/
theorem exists_not_eth_power_of_common_prime {N e s : ℕ} (hs : s.Prime)
    (hsφ : s ∣ Nat.totient N) (hse : s ∣ e) (hN : 1 < N) :
    ∃ c : ℕ, c < N ∧ Nat.Coprime c N ∧ ¬ ∃ r : ℕ, r ^ e % N = c := by
  have : NeZero N := ⟨by omega⟩
  have : Fact (1 < N) := ⟨hN⟩
  obtain ⟨u, hu⟩ := exists_unit_not_pow hs hsφ hse hN
  refine ⟨(u : ZMod N).val, ZMod.val_lt _, ZMod.val_coe_unit_coprime u, ?_⟩
  rintro ⟨r, hr⟩
  have hcast : ((r : ZMod N)) ^ e = (u : ZMod N) := by
    have := congrArg (fun n : ℕ => (n : ZMod N)) hr
    simp only [ZMod.natCast_mod, ZMod.natCast_zmod_val, Nat.cast_pow] at this
    exact this
  by_cases he : e = 0
  · subst he
    apply hu 1
    apply Units.ext
    simpa using hcast
  · have hunit : IsUnit ((r : ZMod N) ^ e) := by rw [hcast]; exact u.isUnit
    rw [isUnit_pow_iff he] at hunit
    obtain ⟨x, hx⟩ := hunit
    apply hu x
    apply Units.ext
    rw [Units.val_pow_eq_pow_val, hx, hcast]

/-! ## three distinct odd prime factors: no multiplier in `{±1, ±2}` makes every unit a square -/

/-- a natural number with a prescribed Legendre symbol (`t = true` stands for `−1`). -/
theorem exists_nat_legendreSym (ℓ : ℕ) [Fact ℓ.Prime] (hℓ : ℓ ≠ 2) (t : Bool) :
    ∃ z : ℕ, legendreSym ℓ (z : ℤ) = if t then -1 else 1 := by
  cases t with
  | false => exact ⟨1, by simp [legendreSym.at_one ℓ]⟩
  | true =>
    obtain ⟨a, ha⟩ := FiniteField.exists_nonsquare (F := ZMod ℓ) (by rwa [ZMod.ringChar_zmod_n])
    refine ⟨a.val, ?_⟩
    simp only [if_true]
    rw [legendreSym.eq_neg_one_iff]
    simp [ha]

theorem legendreSym_congr_nat (ℓ : ℕ) [Fact ℓ.Prime] {a b : ℕ} (h : a ≡ b [MOD ℓ]) :
    legendreSym ℓ (a : ℤ) = legendreSym ℓ (b : ℤ) := by
  have : ((a : ℤ) : ZMod ℓ) = ((b : ℤ) : ZMod ℓ) := by
    rw [Int.cast_natCast, Int.cast_natCast]
    exact (ZMod.natCast_eq_natCast_iff _ _ _).mpr h
  unfold legendreSym
  rw [this]

theorem coprime_of_legendreSym_ne_zero (ℓ : ℕ) [Fact ℓ.Prime] {a : ℕ}
    (h : legendreSym ℓ (a : ℤ) ≠ 0) : Nat.Coprime a ℓ := by
  rw [Nat.coprime_comm, Nat.Prime.coprime_iff_not_dvd Fact.out]
  intro hd
  apply h
  rw [legendreSym.eq_zero_iff, Int.cast_natCast, ZMod.natCast_eq_zero_iff]
  exact hd

/-- at a prime `ℓ ∣ N` where the sign `χ_ℓ c` (`−1` iff `t`) is not that of the multiplier `m`,
    `χ_ℓ (m·c) = −1`, so `m·c` is no square modulo `ℓ`, let alone modulo `N`. -/
theorem not_sq_mul_of_sign_ne (ℓ : ℕ) [Fact ℓ.Prime] (hℓ : ℓ ≠ 2) {N : ℕ} (hℓN : ℓ ∣ N) {m c : ℤ}
    (hm : m ∈ ([1, -1, 2, -2] : List ℤ)) {t : Bool} (hc : legendreSym ℓ c = if t then -1 else 1)
    (hne : t ≠ decide (legendreSym ℓ m = -1)) : ¬ ∃ x : ℤ, (x * x - m * c) % (N : ℤ) = 0 := by
  -- `0 < |m| ≤ 2 < ℓ`
  have hm0 : (m : ZMod ℓ) ≠ 0 := by
    intro h
    rw [ZMod.intCast_zmod_eq_zero_iff_dvd, Int.natCast_dvd] at h
    have h2 := (Fact.out : ℓ.Prime).two_le
    have hle : m.natAbs ≤ 2 ∧ 0 < m.natAbs := by
      simp only [List.mem_cons, List.not_mem_nil, or_false] at hm
      rcases hm with rfl | rfl | rfl | rfl <;> decide
    have := Nat.le_of_dvd hle.2 h
    omega
  have hneg : legendreSym ℓ (m * c) = -1 := by
    rw [legendreSym.mul, hc]
    rcases legendreSym.eq_one_or_neg_one ℓ hm0 with h | h
    · have ht : t = true := by simpa [h] using hne
      rw [h, ht]; rfl
    · have ht : t = false := by simpa [h] using hne
      rw [h, ht]; rfl
  rintro ⟨x, hx⟩
  rw [legendreSym.eq_neg_one_iff] at hneg
  apply hneg
  have hd : (ℓ : ℤ) ∣ x * x - m * c :=
    dvd_trans (Int.natCast_dvd_natCast.mpr hℓN) (Int.dvd_of_emod_eq_zero hx)
  refine ⟨(x : ZMod ℓ), ?_⟩
  have := (ZMod.intCast_zmod_eq_zero_iff_dvd _ _).mpr hd
  rw [Int.cast_sub, Int.cast_mul x x, sub_eq_zero] at this
  exact this.symm

theorem exists_triple_avoiding (s1 s2 s3 s4 : Bool × Bool × Bool) :
    ∃ t : Bool × Bool × Bool, t ≠ s1 ∧ t ≠ s2 ∧ t ≠ s3 ∧ t ≠ s4 := by
  have hcard : ({s1, s2, s3, s4} : Finset (Bool × Bool × Bool)).card
      < (Finset.univ : Finset (Bool × Bool × Bool)).card := by
    calc _ ≤ 4 := Finset.card_le_four
      _ < 8 := by norm_num
      _ = _ := by simp
  obtain ⟨t, _, ht⟩ := Finset.exists_mem_notMem_of_card_lt_card hcard
  simp only [Finset.mem_insert, Finset.mem_singleton, not_or] at ht
  exact ⟨t, ht⟩

/-- if `N` has three distinct odd prime factors, some `c` coprime to `N` has none of `c, −c, 2c, −2c` a
    square modulo `N`. The four multipliers have four sign patterns `(χ_p m, χ_q m, χ_r m)`; there are
    eight patterns, so `c` can be chosen (Chinese remainder theorem) with a pattern that differs, for each
    `m`, in some coordinate from that of `m`: there `χ(m·c) = −1`. -/
theorem exists_unit_no_multiplier_square {N p q r : Nat} (hp : p.Prime) (hq : q.Prime) (hr : r.Prime)
    (hpq : p ≠ q) (hpr : p ≠ r) (hqr : q ≠ r) (hp2 : p ≠ 2) (hq2 : q ≠ 2) (hr2 : r ≠ 2)
    (hdiv : p * q * r ∣ N) (hN : 0 < N) :
    ∃ c : ℤ, Int.gcd c N = 1 ∧
      ∀ m ∈ ([1, -1, 2, -2] : List ℤ), ¬ ∃ x : ℤ, (x * x - m * c) % (N : ℤ) = 0 := by
  have : Fact p.Prime := ⟨hp⟩
  have : Fact q.Prime := ⟨hq⟩
  have : Fact r.Prime := ⟨hr⟩
  have : NeZero N := ⟨by omega⟩
  let σ : ℤ → Bool × Bool × Bool := fun m =>
    (decide (legendreSym p m = -1), decide (legendreSym q m = -1), decide (legendreSym r m = -1))
  obtain ⟨t, ht1, ht2, ht3, ht4⟩ := exists_triple_avoiding (σ 1) (σ (-1)) (σ 2) (σ (-2))
  obtain ⟨zp, hzp⟩ := exists_nat_legendreSym p hp2 t.1
  obtain ⟨zq, hzq⟩ := exists_nat_legendreSym q hq2 t.2.1
  obtain ⟨zr, hzr⟩ := exists_nat_legendreSym r hr2 t.2.2
  have cpq : Nat.Coprime p q := (Nat.coprime_primes hp hq).mpr hpq
  have cpr : Nat.Coprime p r := (Nat.coprime_primes hp hr).mpr hpr
  have cqr : Nat.Coprime q r := (Nat.coprime_primes hq hr).mpr hqr
  obtain ⟨k1, hk1p, hk1q⟩ := Nat.chineseRemainder cpq zp zq
  obtain ⟨k2, hk2pq, hk2r⟩ :=
    Nat.chineseRemainder (Nat.Coprime.mul_left cpr cqr : Nat.Coprime (p * q) r) k1 zr
  have hk2p : k2 ≡ zp [MOD p] := (hk2pq.of_mul_right q).trans hk1p
  have hk2q : k2 ≡ zq [MOD q] := (hk2pq.of_mul_left p).trans hk1q
  have Lp : legendreSym p k2 = if t.1 then -1 else 1 := (legendreSym_congr_nat p hk2p).trans hzp
  have Lq : legendreSym q k2 = if t.2.1 then -1 else 1 :=
    (legendreSym_congr_nat q hk2q).trans hzq
  have Lr : legendreSym r k2 = if t.2.2 then -1 else 1 :=
    (legendreSym_congr_nat r hk2r).trans hzr
  have ne0 : ∀ b : Bool, (if b then (-1 : ℤ) else 1) ≠ 0 := by intro b; cases b <;> simp
  have copk2 : Nat.Coprime k2 (p * q * r) :=
    Nat.Coprime.mul_right
      (Nat.Coprime.mul_right (coprime_of_legendreSym_ne_zero p (by rw [Lp]; exact ne0 _))
        (coprime_of_legendreSym_ne_zero q (by rw [Lq]; exact ne0 _)))
      (coprime_of_legendreSym_ne_zero r (by rw [Lr]; exact ne0 _))
  obtain ⟨u, hu⟩ := ZMod.unitsMap_surjective hdiv (ZMod.unitOfCoprime k2 copk2)
  have hval : (((u : ZMod N).val : ℕ) : ZMod (p * q * r)) = (k2 : ZMod (p * q * r)) := by
    have := congrArg (fun v : (ZMod (p * q * r))ˣ => (v : ZMod (p * q * r))) hu
    simp only [ZMod.unitsMap_val, ZMod.coe_unitOfCoprime] at this
    rw [ZMod.natCast_val]
    exact this
  have hmod : (u : ZMod N).val ≡ k2 [MOD p * q * r] :=
    (ZMod.natCast_eq_natCast_iff _ _ _).mp hval
  have hpN : p ∣ N := dvd_trans (dvd_mul_of_dvd_left (dvd_mul_right p q) r) hdiv
  have hqN : q ∣ N := dvd_trans (dvd_mul_of_dvd_left (dvd_mul_left q p) r) hdiv
  have hrN : r ∣ N := dvd_trans (dvd_mul_left r (p * q)) hdiv
  refine ⟨((u : ZMod N).val : ℤ), ?_, ?_⟩
  · rw [Int.gcd_natCast_natCast]
    exact ZMod.val_coe_unit_coprime u
  · intro m hm
    have hne : t ≠ σ m := by
      have hm' := hm
      simp only [List.mem_cons, List.not_mem_nil, or_false] at hm'
      rcases hm' with rfl | rfl | rfl | rfl <;> assumption
    have hcoord : t.1 ≠ (σ m).1 ∨ t.2.1 ≠ (σ m).2.1 ∨ t.2.2 ≠ (σ m).2.2 := by
      by_contra hcon
      push Not at hcon
      exact hne (Prod.ext hcon.1 (Prod.ext hcon.2.1 hcon.2.2))
    rcases hcoord with h | h | h
    · exact not_sq_mul_of_sign_ne p hp2 hpN hm
        ((legendreSym_congr_nat p ((hmod.of_mul_right r).of_mul_right q)).trans Lp) h
    · exact not_sq_mul_of_sign_ne q hq2 hqN hm
        ((legendreSym_congr_nat q ((hmod.of_mul_right r).of_mul_left p)).trans Lq) h
    · exact not_sq_mul_of_sign_ne r hr2 hrN hm ((legendreSym_congr_nat r (hmod.of_mul_left (p * q))).trans Lr) h

end Gabi.KeyProof
