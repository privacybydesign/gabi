/-
  GabiProofs.ConcExpWorkers — lemmas about GabiModel.Conc.ExpWorkers (keyproof/exp.go worker
  pool): slot ranges of the closures are prefix sums (`offsets_getD`), disjoint and inside the
  list; the counting invariant `Inv` (each closure index below min(counter, nTodo) is in the log or
  being run, exactly once; exited workers = counter − nTodo) is preserved by every step, hence for
  all schedules (`Inv.log_nodup`, `Inv.working_fresh`, `Inv.complete` and their `exec_…` instances).
-/
import GabiModel.Conc.ExpWorkers
-- not for `ring`: with Mathlib's algebra in scope `List.sum` on `Nat` takes its `Zero Nat` from
-- there, and GabiProps.C20 states its theorems in such a scope
import Mathlib.Tactic.Ring

namespace Gabi.Conc.ExpWorkers

/-! ## slot ranges -/

theorem sum_take_succ (l : List Nat) (k : Nat) :
    (l.take (k + 1)).sum = (l.take k).sum + l.getD k 0 := by
  rw [List.take_add_one, List.sum_append, List.getD_eq_getElem?_getD]
  cases l[k]? <;> rfl

theorem sum_take_le (l : List Nat) (a : Nat) : (l.take a).sum ≤ l.sum := by
  have := congrArg List.sum (List.take_append_drop a l)
  rw [List.sum_append] at this
  omega

theorem sum_take_mono (l : List Nat) {a b : Nat} (h : a ≤ b) :
    (l.take a).sum ≤ (l.take b).sum := by
  have := sum_take_le (l.take b) a
  rwa [List.take_take, Nat.min_eq_left h] at this

/-- closure k starts where the appends before it ended -/
theorem offsets_getD (base : Nat) (sizes : List Nat) (k : Nat) (hk : k < sizes.length) :
    (offsets base sizes).getD k 0 = base + (sizes.take k).sum := by
  induction sizes generalizing base k with
  | nil => cases hk
  | cons n rest ih =>
    cases k with
    | zero => rfl
    | succ k =>
      rw [offsets, List.getD_cons_succ, ih (base + n) k (Nat.lt_of_succ_lt_succ hk),
        List.take_succ_cons, List.sum_cons, Nat.add_assoc]

theorem slotRange_end (base : Nat) (sizes : List Nat) (k : Nat) (hk : k < sizes.length) :
    (slotRange base sizes k).1 + (slotRange base sizes k).2
      = base + (sizes.take (k + 1)).sum := by
  simp only [slotRange, offsets_getD base sizes k hk, sum_take_succ]
  omega

/-- slot ranges of different closures are disjoint (the earlier one ends before the later one
    starts) -/
theorem slots_disjoint (base : Nat) (sizes : List Nat) (k k' : Nat) (h : k < k')
    (hk' : k' < sizes.length) :
    (slotRange base sizes k).1 + (slotRange base sizes k).2 ≤ (slotRange base sizes k').1 := by
  rw [slotRange_end base sizes k (by omega)]
  simp only [slotRange, offsets_getD base sizes k' hk']
  have := sum_take_mono sizes (show k + 1 ≤ k' by omega)
  omega

/-- the slot range of every closure lies inside the list: [base, base + sum sizes) -/
theorem slots_in_list (base : Nat) (sizes : List Nat) (k : Nat) (hk : k < sizes.length) :
    base ≤ (slotRange base sizes k).1 ∧
    (slotRange base sizes k).1 + (slotRange base sizes k).2 ≤ base + sizes.sum := by
  constructor
  · simp only [slotRange, offsets_getD base sizes k hk]
    omega
  · rw [slotRange_end base sizes k hk]
    have := sum_take_le sizes (k + 1)
    omega

/-! ## the worker pool -/

/-- counting in a list after replacing the element at position `w` -/
theorem count_set_of_getElem? {l : List Worker} {w : Nat} {a : Worker} (hw : l[w]? = some a)
    (a' b : Worker) :
    (l.set w a').count b
      = (l.count b - if a = b then 1 else 0) + if a' = b then 1 else 0 := by
  obtain ⟨hlt, hget⟩ := List.getElem?_eq_some_iff.mp hw
  rw [List.count_set hlt, hget]
  simp only [beq_iff_eq]

theorem count_pos_of_getElem? {l : List Worker} {w : Nat} {a : Worker} (hw : l[w]? = some a) :
    0 < l.count a :=
  List.count_pos_iff.mpr (List.mem_iff_getElem?.mpr ⟨w, hw⟩)

section
variable {l : List Worker} {w : Nat} {a : Worker} (hw : l[w]? = some a)
include hw

/-! Counting after `set`; a disequality left out is one between different constructors. -/

theorem count_set_ne {a' b : Worker} (h : a ≠ b := by nofun) (h' : a' ≠ b := by nofun) :
    (l.set w a').count b = l.count b := by
  rw [count_set_of_getElem? hw, if_neg h, if_neg h']; rfl

theorem count_set_to {b : Worker} (h : a ≠ b := by nofun) :
    (l.set w b).count b = l.count b + 1 := by
  rw [count_set_of_getElem? hw, if_neg h, if_pos rfl]; rfl

theorem count_set_from {a' : Worker} (h : a' ≠ a := by nofun) :
    (l.set w a').count a + 1 = l.count a := by
  have := count_pos_of_getElem? hw
  rw [count_set_of_getElem? hw, if_pos rfl, if_neg h]; omega
end

/-- two different positions holding the same value: it is counted at least twice -/
theorem two_le_count_of_getElem? {l : List Worker} {w w' : Nat} {k : Nat} (hne : w' ≠ w)
    (hw : l[w]? = some (.working k)) (hw' : l[w']? = some (.working k)) :
    2 ≤ l.count (.working k) := by
  have h1 := count_set_from hw (a' := .idle)
  have h2 : (l.set w .idle)[w']? = some (.working k) := by
    rw [List.getElem?_set_ne (Ne.symm hne)]; exact hw'
  have h3 := count_pos_of_getElem? h2
  omega

/-- the counting invariant of the pool; `nTodo + nWorkers < 2^32` keeps the uint32 counter from
    wrapping, since it never exceeds `nTodo` by more than the number of workers (`step_inv`) -/
structure Inv (nTodo nWorkers : Nat) (s : St) : Prop where
  nTodo_eq : s.nTodo = nTodo
  len : s.workers.length = nWorkers
  /-- every add above `nTodo` made exactly one worker exit -/
  exited : s.workers.count .exited = s.counter - nTodo
  /-- the indices handed out so far, `k < min counter nTodo`, are each either in the log or being
      run by exactly one worker; nothing else is -/
  cnt : ∀ k, (s.log.map (·.2)).count k + s.workers.count (.working k)
      = if k < min s.counter nTodo then 1 else 0

theorem init_inv (nTodo nWorkers : Nat) : Inv nTodo nWorkers (init nTodo nWorkers) := by
  refine ⟨rfl, by simp [init], ?_, ?_⟩
  · simp [init, List.count_replicate]
  · intro k
    simp [init, List.count_replicate]

theorem step_inv {nTodo nWorkers : Nat} (h : nTodo + nWorkers < W32) {s : St}
    (hs : Inv nTodo nWorkers s) (w : Nat) : Inv nTodo nWorkers (step s w) := by
  obtain ⟨c, nT, ws, lg⟩ := s
  obtain ⟨rfl, rfl, hex, hcnt⟩ := hs
  dsimp only at h hex hcnt
  unfold step
  dsimp only
  split
  · next hw =>
    -- the atomic add does not wrap: one worker more than have exited is still there
    have hc : (c + 1) % W32 = c + 1 := by
      have := List.count_le_length (a := Worker.exited) (l := ws.set w .exited)
      rw [count_set_to hw, List.length_set] at this
      exact Nat.mod_eq_of_lt (by omega)
    rw [hc]
    split
    · next hgt =>
      -- past the end: the worker exits, the indices handed out stay those below nTodo
      have hle : nT ≤ c := Nat.le_of_lt_succ hgt
      rw [Nat.min_eq_right hle] at hcnt
      refine ⟨rfl, List.length_set, ?_, fun k => ?_⟩ <;> dsimp only
      · rw [count_set_to hw, hex, Nat.succ_sub hle]
      · rw [count_set_ne hw, hcnt k, Nat.min_eq_right (Nat.le_succ_of_le hle)]
    · next hle =>
      -- index c is handed out to worker w
      have hle : c + 1 ≤ nT := Nat.le_of_not_gt hle
      rw [Nat.min_eq_left (Nat.le_of_succ_le hle)] at hcnt
      refine ⟨rfl, List.length_set, ?_, fun k => ?_⟩ <;> dsimp only
      · rw [count_set_ne hw, hex, Nat.sub_eq_zero_of_le hle,
          Nat.sub_eq_zero_of_le (Nat.le_of_succ_le hle)]
      · rw [Nat.add_sub_cancel, Nat.min_eq_left hle]
        have := hcnt k
        by_cases hk : k = c
        · subst hk
          rw [count_set_to hw, if_pos (Nat.lt_succ_self _)]
          rw [if_neg (Nat.lt_irrefl _)] at this
          omega
        · rw [count_set_ne hw (h' := by intro e; cases e; exact hk rfl), this]
          exact if_congr (by omega) rfl rfl
  · next k hw =>
    refine ⟨rfl, List.length_set, ?_, fun k' => ?_⟩ <;> dsimp only
    · rw [count_set_ne hw]; exact hex
    · rw [← hcnt k', List.map_cons, List.count_cons]
      by_cases hk : k = k'
      · subst hk
        have := count_set_from hw (a' := .idle)
        simp only [beq_self_eq_true, if_true]; omega
      · rw [count_set_ne hw (h := by intro e; cases e; exact hk rfl)]
        simp [hk]
  · exact ⟨rfl, rfl, hex, hcnt⟩

theorem exec_inv {nTodo nWorkers : Nat} (h : nTodo + nWorkers < W32) (sched : List Nat) {s : St}
    (hs : Inv nTodo nWorkers s) : Inv nTodo nWorkers (exec s sched) :=
  List.foldlRecOn sched step hs fun _ hs w _ => step_inv h hs w

theorem exec_init_inv (nTodo nWorkers : Nat) (sched : List Nat) (h : nTodo + nWorkers < W32) :
    Inv nTodo nWorkers (exec (init nTodo nWorkers) sched) :=
  exec_inv h sched (init_inv nTodo nWorkers)

/-- an index is in the log or being run at most once in all, and only if it is below `nTodo` -/
theorem Inv.cnt_bound {nTodo nWorkers : Nat} {s : St} (hs : Inv nTodo nWorkers s) (k : Nat) :
    (s.log.map (·.2)).count k + s.workers.count (.working k) ≤ 1 ∧
    (0 < (s.log.map (·.2)).count k + s.workers.count (.working k) → k < nTodo) := by
  rw [hs.cnt k]; split <;> omega

/-- no closure index is in the log twice, and every index there is a valid one -/
theorem Inv.log_nodup {nTodo nWorkers : Nat} {s : St} (hs : Inv nTodo nWorkers s) :
    (s.log.map (·.2)).Nodup ∧ ∀ x ∈ s.log, x.2 < nTodo := by
  refine ⟨List.nodup_iff_count.mpr fun k =>
      Nat.le_trans (Nat.le_add_right _ _) (hs.cnt_bound k).1,
    fun x hx => (hs.cnt_bound x.2).2 ?_⟩
  exact Nat.lt_of_lt_of_le (List.count_pos_iff.mpr (List.mem_map_of_mem hx)) (Nat.le_add_right _ _)

/-- a closure being run by a worker is neither in the log nor run by another worker -/
theorem Inv.working_fresh {nTodo nWorkers : Nat} {s : St} (hs : Inv nTodo nWorkers s) {w k : Nat}
    (hw : s.workers[w]? = some (.working k)) :
    k < nTodo ∧ k ∉ s.log.map (·.2) ∧ ∀ w', w' ≠ w → s.workers[w']? ≠ some (.working k) := by
  obtain ⟨hle, hlt⟩ := hs.cnt_bound k
  have hpos := count_pos_of_getElem? hw
  refine ⟨hlt (by omega), List.count_eq_zero.mp (by omega), fun w' hne hw' => ?_⟩
  have := two_le_count_of_getElem? hne hw hw'
  omega

/-- all workers have exited, so the counter is `nTodo + nWorkers`: every index was handed out,
    and none is still being run. -/
theorem Inv.complete {nTodo nWorkers : Nat} {s : St} (hs : Inv nTodo nWorkers s) (hw : 0 < nWorkers)
    (hall : ∀ w ∈ s.workers, w = Worker.exited) : ∀ k, k < nTodo → k ∈ s.log.map (·.2) := by
  intro k hk
  have hex : s.workers.count .exited = nWorkers :=
    (List.count_eq_length.mpr fun b hb => (hall b hb).symm).trans hs.len
  have hnone : s.workers.count (.working k) = 0 :=
    List.count_eq_zero.mpr fun hmem => nomatch hall _ hmem
  have hcounter := hs.exited
  have hcnt := hs.cnt k
  rw [hnone, if_pos (by omega)] at hcnt
  exact List.count_pos_iff.mp (by omega)

/-- for EVERY schedule: no closure index is run twice (by the same or different workers), every
    index run is a valid one -/
theorem exec_log_nodup (nTodo nWorkers : Nat) (sched : List Nat) (h : nTodo + nWorkers < W32) :
    ((exec (init nTodo nWorkers) sched).log.map (·.2)).Nodup ∧
    ∀ x ∈ (exec (init nTodo nWorkers) sched).log, x.2 < nTodo :=
  (exec_init_inv nTodo nWorkers sched h).log_nodup

/-- no closure is being run by a worker while it is already in the log or run by another worker -/
theorem exec_working_fresh (nTodo nWorkers : Nat) (sched : List Nat) (h : nTodo + nWorkers < W32)
    (w k : Nat) (hw : (exec (init nTodo nWorkers) sched).workers[w]? = some (.working k)) :
    k < nTodo ∧ k ∉ (exec (init nTodo nWorkers) sched).log.map (·.2) ∧
    ∀ w', w' ≠ w → (exec (init nTodo nWorkers) sched).workers[w']? ≠ some (.working k) :=
  (exec_init_inv nTodo nWorkers sched h).working_fresh hw

/-- when all workers have exited (and there is at least one), every closure has been run exactly
    once -/
theorem exec_complete (nTodo nWorkers : Nat) (sched : List Nat) (h : nTodo + nWorkers < W32)
    (hw : 0 < nWorkers)
    (hall : ∀ w ∈ (exec (init nTodo nWorkers) sched).workers, w = Worker.exited) :
    ∀ k, k < nTodo → k ∈ (exec (init nTodo nWorkers) sched).log.map (·.2) :=
  (exec_init_inv nTodo nWorkers sched h).complete hw hall

end Gabi.Conc.ExpWorkers
