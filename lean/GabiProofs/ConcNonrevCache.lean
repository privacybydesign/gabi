/-
  GabiProofs.ConcNonrevCache — the linearity invariant of GabiModel.Conc.NonrevCache
  (credential.go nonrevConsumeBuilder / NonrevPrepareCache): `Inv` (channel within capacity, every
  builder id in exactly one place) holds initially and is preserved by every label (`inv_spawn`,
  `inv_adv`, `inv_fail`), hence in every reachable state of every schedule (`builder_linear`);
  corollaries `no_double_consume`, `consumed_exclusive`, `chan_le_one`; `Inv` implies the
  executable test `invOk` of the driver; a finished operation never changes (`finished_stable`).
-/
import GabiModel.Conc.NonrevCache
import GabiProofs.ConcLists
import Mathlib.Logic.Basic
import Mathlib.Tactic.ByContra
import Mathlib.Tactic.SplitIfs

namespace Gabi.Conc.NonrevCache

/-! ### counting the places of a builder -/

theorem add_le_sum_map_of_getElem? (f : Op → Nat) {ops : List Op} {i j : Nat} {o1 o2 : Op}
    (hij : i ≠ j) (hi : ops[i]? = some o1) (hj : ops[j]? = some o2) :
    f o1 + f o2 ≤ (ops.map f).sum := by
  induction ops generalizing i j with
  | nil => cases hi
  | cons a t ih =>
    rw [List.map_cons, List.sum_cons]
    match i, j with
    | 0, 0 => exact absurd rfl hij
    | 0, m + 1 => cases hi; have := le_sum_map f (l := t) hj; omega
    | n + 1, 0 => cases hj; have := le_sum_map f (l := t) hi; omega
    | n + 1, m + 1 => have := ih (i := n) (j := m) (by omega) hi hj; omega

theorem holds_start (b : Nat) : Pc.holds b .start = 0 := rfl
theorem holds_recv (b : Nat) (h : Bool) : Pc.holds b (.recv h) = 0 := rfl
theorem holds_building (b : Nat) : Pc.holds b .building = 0 := rfl
theorem holds_gotCached (b b' : Nat) : Pc.holds b (.gotCached b') = if b' = b then 1 else 0 := rfl
theorem holds_holding (b b' : Nat) : Pc.holds b (.holding b') = if b' = b then 1 else 0 := rfl
theorem holds_finished_some (b b' : Nat) :
    Pc.holds b (.finished (some b')) = if b' = b then 1 else 0 := rfl
theorem holds_finished_none (b : Nat) : Pc.holds b (.finished none) = 0 := rfl

/-- setting the pc of operation i moves exactly the units held by the old / new pc. -/
theorem places_setPc (s : St) (i : Nat) (k : Kind) (pc : Pc) (op : Op) (b : Nat)
    (h : s.ops[i]? = some op) :
    places (setPc s i k pc) b + op.pc.holds b = places s b + pc.holds b := by
  have := sum_map_set (fun o => o.pc.holds b) { kind := k, pc := pc } h
  simp only [places, setPc] at this ⊢
  omega

theorem setPc_ops_ne (s : St) (i j : Nat) (k : Kind) (pc : Pc) (hij : i ≠ j) :
    (setPc s i k pc).ops[j]? = s.ops[j]? := by
  simp [setPc, List.getElem?_set_ne hij]

/-! ### the invariant, kept by every label -/

/-- the linearity invariant: the channel never exceeds its capacity, and every builder id drawn
    so far is in exactly one place, ids not yet drawn in none -/
def Inv (s : St) : Prop :=
  s.chan.length ≤ cap ∧ ∀ b, places s b = if b < s.supply then 1 else 0

theorem inv_init : Inv {} := by
  refine ⟨by simp [cap], fun b => ?_⟩
  simp [places]

/-- every step of an operation is a `setPc` on a state whose channel, supply or discard pile it
    has changed: the invariant is kept if what the operation holds afterwards accounts for the
    difference. -/
theorem inv_setPc {s : St} {i : Nat} {op : Op} (hop : s.ops[i]? = some op) (k : Kind) (pc : Pc)
    (hc : s.chan.length ≤ cap)
    (hp : ∀ b, places s b + pc.holds b = (if b < s.supply then 1 else 0) + op.pc.holds b) :
    Inv (setPc s i k pc) := by
  refine ⟨hc, fun b => ?_⟩
  have h1 := places_setPc s i k pc op b hop
  have h2 := hp b
  show places _ b = if b < s.supply then 1 else 0
  omega

theorem inv_spawn (s : St) (k : Kind) (h : Inv s) : Inv (step s (.spawn k)) := by
  obtain ⟨hc, hp⟩ := h
  refine ⟨hc, fun b => ?_⟩
  show places _ b = if b < s.supply then 1 else 0
  rw [← hp b]
  simp only [step, places, List.map_append, List.sum_append, List.map_cons, List.map_nil,
    List.sum_cons, List.sum_nil, holds_start]
  omega

theorem inv_adv (s : St) (i : Nat) (h : Inv s) : Inv (adv s i) := by
  obtain ⟨hc, hp⟩ := h
  unfold adv
  split
  · exact ⟨hc, hp⟩
  next op hop =>
  obtain ⟨k, pc⟩ := op
  cases pc <;> dsimp only
  case start => cases k <;> exact inv_setPc hop _ _ hc fun b => by rw [← hp b]; rfl
  case recv hv =>
    split
    · next b' rest hch =>
      -- the received builder leaves the channel
      rw [hch] at hc
      refine inv_setPc (s := { s with chan := rest }) hop _ _ (Nat.le_of_succ_le hc) fun b => ?_
      rw [← hp b]
      simp only [places, hch, List.count_cons, beq_iff_eq, holds_gotCached, holds_recv]
      omega
    · exact inv_setPc hop _ _ hc fun b => by rw [← hp b]; rfl
  case gotCached b' => cases k <;> exact inv_setPc hop _ _ hc fun b => by rw [← hp b]; rfl
  case building =>
    -- the fresh builder `s.supply` was nowhere
    have fresh : ∀ b, places s b + (if s.supply = b then 1 else 0) =
        if b < s.supply + 1 then 1 else 0 := by
      intro b
      by_cases h : s.supply = b
      · rw [hp b, if_pos h, ← h, if_neg (Nat.lt_irrefl _), if_pos (Nat.lt_succ_self _)]
      · rw [hp b, if_neg h]; exact if_congr (by omega) rfl rfl
    cases k <;> exact inv_setPc (s := { s with supply := s.supply + 1 }) hop _ _ hc fresh
  case holding b' =>
    split
    · next hlt =>
      refine inv_setPc (s := { s with chan := s.chan ++ [b'] }) hop _ _ ?_ fun b => ?_
      · rw [List.length_append]; exact hlt
      · rw [← hp b]
        simp only [places, List.count_append, List.count_cons, List.count_nil, beq_iff_eq,
          holds_holding, holds_finished_none]
        omega
    · refine inv_setPc (s := { s with discarded := b' :: s.discarded }) hop _ _ hc fun b => ?_
      rw [← hp b]
      simp only [places, List.count_cons, beq_iff_eq, holds_holding, holds_finished_none]
      omega
  case finished => exact ⟨hc, hp⟩

theorem inv_fail (s : St) (i : Nat) (h : Inv s) : Inv (step s (.fail i)) := by
  obtain ⟨hc, hp⟩ := h
  simp only [step]
  split
  · next k b' hop =>
    refine inv_setPc (s := { s with discarded := b' :: s.discarded }) hop _ _ hc fun b => ?_
    rw [← hp b]
    simp only [places, List.count_cons, beq_iff_eq, holds_gotCached, holds_finished_none]
    omega
  · exact ⟨hc, hp⟩

theorem inv_step (s : St) (l : Label) (h : Inv s) : Inv (step s l) := by
  cases l with
  | spawn k => exact inv_spawn s k h
  | adv i => exact inv_adv s i h
  | fail i => exact inv_fail s i h

theorem inv_exec (s : St) (ls : List Label) (h : Inv s) : Inv (exec s ls) :=
  List.foldlRecOn ls step h fun s hs l _ => inv_step s l hs

/-- the invariant holds after every schedule: arbitrary interleavings of arbitrarily many
    operations, failures included. -/
theorem builder_linear (ls : List Label) : Inv (exec {} ls) :=
  inv_exec {} ls inv_init

/-! ### what the invariant gives for consumed builders -/

theorem places_le_one (s : St) (h : Inv s) (b : Nat) : places s b ≤ 1 := by
  rw [h.2 b]; split_ifs <;> omega

theorem inv_no_double_consume (s : St) (h : Inv s) (i j b : Nat)
    (hi : consumedBy s i b) (hj : consumedBy s j b) : i = j := by
  by_contra hij
  have h1 := add_le_sum_map_of_getElem? (fun o => o.pc.holds b) hij hi hj
  have h2 := places_le_one s h b
  simp only [places] at h2
  simp only [holds_finished_some, if_true] at h1
  omega

theorem inv_consumed_exclusive (s : St) (h : Inv s) (i b : Nat) (hi : consumedBy s i b) :
    b ∉ s.chan ∧ b ∉ s.discarded ∧
    ∀ j op, j ≠ i → s.ops[j]? = some op → op.pc.holds b = 0 := by
  have h2 := places_le_one s h b
  simp only [places] at h2
  have h0 := le_sum_map (fun o => o.pc.holds b) hi
  simp only [holds_finished_some, if_true] at h0
  refine ⟨?_, ?_, ?_⟩
  · rw [← List.count_eq_zero (a := b)]; omega
  · rw [← List.count_eq_zero (a := b)]; omega
  · intro j op hji hj
    have h1 := add_le_sum_map_of_getElem? (fun o => o.pc.holds b)
      (fun e => hji e.symm) hi hj
    simp only [holds_finished_some, if_true] at h1
    omega

/-- no builder is consumed by two proofs -/
theorem no_double_consume (ls : List Label) (i j b : Nat)
    (hi : consumedBy (exec {} ls) i b) (hj : consumedBy (exec {} ls) j b) : i = j :=
  inv_no_double_consume _ (builder_linear ls) i j b hi hj

/-- a consumed builder is nowhere else: not in the channel, not discarded, not held by another
    operation -/
theorem consumed_exclusive (ls : List Label) (i b : Nat) (hi : consumedBy (exec {} ls) i b) :
    b ∉ (exec {} ls).chan ∧ b ∉ (exec {} ls).discarded ∧
    ∀ j op, j ≠ i → (exec {} ls).ops[j]? = some op → op.pc.holds b = 0 :=
  inv_consumed_exclusive _ (builder_linear ls) i b hi

theorem chan_le_one (ls : List Label) : (exec {} ls).chan.length ≤ 1 :=
  (builder_linear ls).1

/-- the executable invariant test of the driver (`invOk` inspects the ids below `supply + 2`)
    holds in every state that satisfies `Inv` -/
theorem invOk_of_inv (s : St) (h : Inv s) : invOk s = true := by
  simp [invOk, h.1, h.2]

/-! ### finished operations -/

theorem adv_finished (s : St) (i : Nat) (k : Kind) (r : Option Nat)
    (h : s.ops[i]? = some { kind := k, pc := .finished r }) : adv s i = s := by
  simp only [adv, h]

/-- every branch of `adv s i` is `s` or a `setPc _ i _ _` of a state with the operations of `s`. -/
theorem adv_ops_ne (s : St) (i j : Nat) (hij : i ≠ j) : (adv s i).ops[j]? = s.ops[j]? := by
  unfold adv
  split
  · rfl
  next op _ =>
  obtain ⟨k, pc⟩ := op
  cases pc <;> dsimp only
  -- `finished` is closed by `dsimp`; the others branch on the kind or on the channel
  case start | gotCached | building => cases k <;> exact setPc_ops_ne _ i j _ _ hij
  case recv | holding => split <;> exact setPc_ops_ne _ i j _ _ hij

/-- once an operation is finished it never changes again (results of proofs are stable) -/
theorem finished_stable (s : St) (l : Label) (i : Nat) (k : Kind) (r : Option Nat)
    (h : s.ops[i]? = some { kind := k, pc := .finished r }) :
    (step s l).ops[i]? = some { kind := k, pc := .finished r } := by
  cases l with
  | spawn k' =>
    show (s.ops ++ _)[i]? = _
    exact getElem?_append_of_getElem? h _
  | adv i' =>
    by_cases e : i' = i
    · subst e; show (adv s i').ops[i']? = _; rw [adv_finished s i' k r h]; exact h
    · show (adv s i').ops[i]? = _; rw [adv_ops_ne s i' i e]; exact h
  | fail i' =>
    simp only [step]
    split
    · next k' b' hop =>
      have e : i' ≠ i := by
        rintro rfl
        rw [h] at hop; simp at hop
      rw [setPc_ops_ne _ i' i _ _ e]; exact h
    · exact h

end Gabi.Conc.NonrevCache
