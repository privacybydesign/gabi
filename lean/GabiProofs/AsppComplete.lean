/-
  GabiProofs.AsppComplete — completeness of the "almost safe prime product" proof
  (almostsafeprimeproduct.go): the verifier model accepts what the prover model produces.
  The units modulo `N = (2p'+1)(2q'+1)` have exponent `4p'q'` and `γ = 2^(bitlen N)` is a multiple of 4,
  so `base^(γ·u)` depends on `u` modulo `p'q'` only; the prover's response `r` has `r²` or `2r²` equal to
  `±(log + x)` modulo `p'q'`, which are the verifier's four comparisons.
-/
import GabiModel.KeyProof
import GabiProofs.KeyProofLemmas
import GabiProofs.Bridge
import Mathlib.RingTheory.Coprime.Lemmas
import Mathlib.Data.Nat.Totient
import Mathlib.Tactic.Ring
import Mathlib.Tactic.Linarith
import Mathlib.Tactic.LinearCombination

namespace Gabi.KeyProof
open Gabi

/-! ## in the unit group: `B^(γ·u)` depends on `u` modulo `odd` only -/

/-- if `B^(4·odd) = 1` and `4 ∣ 2^k` then `B^(2^k·u)` only depends on `u` modulo `odd`. -/
theorem zpow_gamma_congr {G : Type*} [_root_.Group G] (B : G) (odd k : ℕ) (hk : 2 ≤ k)
    (hB : B ^ (4 * odd) = 1) {u v : ℤ} (h : u ≡ v [ZMOD odd]) :
    B ^ ((2 ^ k : ℤ) * u) = B ^ ((2 ^ k : ℤ) * v) := by
  obtain ⟨t, ht⟩ := h.symm.dvd
  obtain ⟨j, rfl⟩ : ∃ j, k = j + 2 := ⟨k - 2, by omega⟩
  have e : (2 ^ (j + 2) : ℤ) * u = (2 ^ (j + 2) : ℤ) * v + ((4 * odd : ℕ) : ℤ) * (2 ^ j * t) := by
    push_cast
    rw [pow_add]
    linear_combination (2 ^ j * 2 ^ 2) * ht
  rw [e, zpow_add, zpow_mul B ((4 * odd : ℕ) : ℤ), zpow_natCast, hB, one_zpow, mul_one]

/-- The verifier's four comparisons `t = y^γ`, `t⁻¹ = y^γ`, `t² = y^γ`, `t⁻² = y^γ` in the unit group, from
    the four relations modulo `odd` between the squared response `s` and the exponent `a = log + x`. -/
theorem aspp_group_cases {G : Type*} [_root_.Group G] (B : G) (odd k : ℕ) (hk : 2 ≤ k)
    (hB : B ^ (4 * odd) = 1) (a s : ℤ)
    (h : s ≡ a [ZMOD odd] ∨ s ≡ -a [ZMOD odd] ∨ 2 * s ≡ a [ZMOD odd] ∨ 2 * s ≡ -a [ZMOD odd]) :
    B ^ ((2 ^ k : ℤ) * s) = B ^ ((2 ^ k : ℤ) * a) ∨
    (B ^ ((2 ^ k : ℤ) * s))⁻¹ = B ^ ((2 ^ k : ℤ) * a) ∨
    (B ^ ((2 ^ k : ℤ) * s)) ^ 2 = B ^ ((2 ^ k : ℤ) * a) ∨
    ((B ^ ((2 ^ k : ℤ) * s)) ^ 2)⁻¹ = B ^ ((2 ^ k : ℤ) * a) := by
  have hsq : (B ^ ((2 ^ k : ℤ) * s)) ^ 2 = B ^ ((2 ^ k : ℤ) * (2 * s)) := by
    rw [sq, ← zpow_add]
    congr 1
    ring
  have hneg : B ^ ((2 ^ k : ℤ) * -a) = (B ^ ((2 ^ k : ℤ) * a))⁻¹ := by rw [mul_neg, zpow_neg]
  rcases h with h | h | h | h
  · exact Or.inl (zpow_gamma_congr B odd k hk hB h)
  · exact Or.inr (Or.inl (by rw [zpow_gamma_congr B odd k hk hB h, hneg, inv_inv]))
  · exact Or.inr (Or.inr (Or.inl (by rw [hsq, zpow_gamma_congr B odd k hk hB h])))
  · exact Or.inr (Or.inr (Or.inr (by rw [hsq, zpow_gamma_congr B odd k hk hB h, hneg, inv_inv])))

/-! ## the prover's response -/

theorem asppResponse_spec (odd : ℕ) (log x r : ℤ) (sqrt : ℤ → Option ℤ)
    (hsqrt : ∀ a s, sqrt a = some s → 0 ≤ s ∧ (s * s - a) % (odd : ℤ) = 0)
    (hresp : asppResponse sqrt (4 * (odd : ℤ)) odd log x = some r) :
    0 ≤ r ∧ (r * r ≡ log + x [ZMOD odd] ∨ r * r ≡ -(log + x) [ZMOD odd] ∨
      2 * (r * r) ≡ log + x [ZMOD odd] ∨ 2 * (r * r) ≡ -(log + x) [ZMOD odd]) := by
  unfold asppResponse at hresp
  dsimp only at hresp
  split at hresp
  · exact absurd hresp (by simp)
  · next inv2 hinv =>
    have h1 : (log + x) % (4 * (odd : ℤ)) % odd ≡ log + x [ZMOD odd] := by
      rw [Int.emod_emod_of_dvd _ (Dvd.intro_left 4 rfl)]
      exact Int.mod_modEq _ _
    have hneg : ∀ y : ℤ, (odd : ℤ) - y ≡ -y [ZMOD odd] := fun y =>
      Int.modEq_iff_dvd.mpr ⟨-1, by ring⟩
    -- a root of the third or fourth candidate is a root of `±(log + x)/2`
    have hhalf : 2 * (inv2 * ((log + x) % (4 * (odd : ℤ)) % odd) % odd) ≡ log + x [ZMOD odd] := by
      have hi : 2 * inv2 ≡ 1 [ZMOD odd] := (goModInverse_some hinv).2.2
      have := (((Int.mod_modEq _ _).trans (h1.mul_left inv2)).mul_left 2).trans
        ((mul_assoc 2 inv2 _).symm ▸ hi.mul_right (log + x))
      rwa [one_mul] at this
    have key : ∀ a, sqrt a = some r → 0 ≤ r ∧ r * r ≡ a [ZMOD odd] := fun a h =>
      ⟨(hsqrt a r h).1, Int.emod_eq_emod_iff_emod_sub_eq_zero.mpr (hsqrt a r h).2⟩
    split at hresp
    · next s hs =>
      cases hresp
      exact ⟨(key _ hs).1, Or.inl ((key _ hs).2.trans h1)⟩
    · split at hresp
      · next s hs =>
        cases hresp
        exact ⟨(key _ hs).1, Or.inr (Or.inl (((key _ hs).2.trans (hneg _)).trans h1.neg))⟩
      · split at hresp
        · next s hs =>
          cases hresp
          exact ⟨(key _ hs).1, Or.inr (Or.inr (Or.inl (((key _ hs).2.mul_left 2).trans hhalf)))⟩
        · refine ⟨(key _ hresp).1, Or.inr (Or.inr (Or.inr ?_))⟩
          have := (((key _ hresp).2.trans (hneg _)).mul_left 2).trans (mul_neg (2 : ℤ) _ ▸ hhalf.neg)
          exact this

/-! ## one round -/

/-- Go's `ModInverse` of a representative of a unit exists and represents the inverse unit. -/
theorem goModInverse_of_unit {N : ℕ} (hN : 1 < N) (t : ℤ) (T : (ZMod N)ˣ)
    (hT : (t : ZMod N) = (T : ZMod N)) :
    ∃ t', goModInverse t N = some t' ∧ 0 ≤ t' ∧ t' < N ∧ (t' : ZMod N) = ((T⁻¹ : (ZMod N)ˣ) : ZMod N) := by
  have := goModInverse_unit (by omega : 0 < N) (isUnit_of_cast hT)
  rwa [zunit_of_cast hT] at this

theorem two_pow_toNat (k : ℕ) : ((2 : ℤ) ^ k).toNat = 2 ^ k := by
  rw [show (2 : ℤ) ^ k = ((2 ^ k : ℕ) : ℤ) by push_cast; rfl]
  exact Int.toNat_natCast _

/-- acceptance of a round from the number-theoretic relation between response and exponent. -/
theorem asppRound_accept_of {N : ℕ} (odd : ℕ) (k : ℕ) (base x log r : ℤ)
    (hN : 1 < N) (hk : 2 ≤ k)
    (hbase : 0 ≤ base ∧ base < N) (hcop : Nat.gcd base.natAbs N = 1)
    (heuler : ∀ B : (ZMod N)ˣ, B ^ (4 * odd) = 1)
    (hx : 0 ≤ x) (hlog : 0 ≤ log) (hr : 0 ≤ r)
    (hrel : r * r ≡ log + x [ZMOD odd] ∨ r * r ≡ -(log + x) [ZMOD odd] ∨
      2 * (r * r) ≡ log + x [ZMOD odd] ∨ 2 * (r * r) ≡ -(log + x) [ZMOD odd]) :
    asppRound N (2 ^ k) base x (base ^ log.toNat % N) r = .accept := by
  have hNi : (0 : ℤ) < N := by omega
  have hg0 : (0 : ℤ) ≤ 2 ^ k := by positivity
  obtain ⟨l, rfl⟩ := Int.eq_ofNat_of_zero_le hlog
  obtain ⟨xn, rfl⟩ := Int.eq_ofNat_of_zero_le hx
  obtain ⟨rn, rfl⟩ := Int.eq_ofNat_of_zero_le hr
  let B : (ZMod N)ˣ := ZMod.unitOfCoprime base.natAbs hcop
  have hBval : (B : ZMod N) = (base : ZMod N) := by
    rw [ZMod.coe_unitOfCoprime]
    conv_rhs => rw [← Int.natAbs_of_nonneg hbase.1]
    simp
  have hcases := aspp_group_cases B odd k hk (heuler B) ((l : ℤ) + xn) ((rn : ℤ) * rn) hrel
  have hU : B ^ ((2 ^ k : ℤ) * ((l : ℤ) + xn)) = B ^ (2 ^ k * (l + xn)) := by
    rw [← zpow_natCast]; push_cast; rfl
  have hT : B ^ ((2 ^ k : ℤ) * ((rn : ℤ) * rn)) = B ^ (2 ^ k * (rn * rn)) := by
    rw [← zpow_natCast]; push_cast; rfl
  rw [hU, hT] at hcases
  -- the verifier's integers `y^γ` and `t = base^(γ·r²)` are the representatives of those units
  set yg : ℤ := (base ^ l % (N : ℤ) * (base ^ xn % (N : ℤ)) % (N : ℤ)) ^ (2 ^ k) % (N : ℤ) with hyg
  set t1 : ℤ := ((base ^ (2 ^ k) % (N : ℤ)) ^ rn % (N : ℤ)) ^ rn % (N : ℤ) with ht1
  have hygc : (yg : ZMod N) = ((B ^ (2 ^ k * (l + xn)) : (ZMod N)ˣ) : ZMod N) := by
    rw [hyg, Units.val_pow_eq_pow_val, hBval]
    simp only [ZMod.intCast_mod, Int.cast_pow, Int.cast_mul]
    ring
  have ht1c : (t1 : ZMod N) = ((B ^ (2 ^ k * (rn * rn)) : (ZMod N)ˣ) : ZMod N) := by
    rw [ht1, Units.val_pow_eq_pow_val, hBval]
    simp only [ZMod.intCast_mod, Int.cast_pow]
    ring
  have hyg_r : 0 ≤ yg ∧ yg < N := ⟨Int.emod_nonneg _ (by omega), Int.emod_lt_of_pos _ hNi⟩
  have ht1_r : 0 ≤ t1 ∧ t1 < N := ⟨Int.emod_nonneg _ (by omega), Int.emod_lt_of_pos _ hNi⟩
  obtain ⟨t2, ht2, ht2_0, ht2_N, ht2c⟩ := goModInverse_of_unit hN t1 _ ht1c
  have ht3c : ((t1 ^ 2 % (N : ℤ) : ℤ) : ZMod N)
      = (((B ^ (2 ^ k * (rn * rn))) ^ 2 : (ZMod N)ˣ) : ZMod N) := by
    rw [ZMod.intCast_mod, Int.cast_pow, ht1c, Units.val_pow_eq_pow_val _ 2]
  have ht3_r : 0 ≤ t1 ^ 2 % (N : ℤ) ∧ t1 ^ 2 % (N : ℤ) < N :=
    ⟨Int.emod_nonneg _ (by omega), Int.emod_lt_of_pos _ hNi⟩
  obtain ⟨t4, ht4, ht4_0, ht4_N, ht4c⟩ := goModInverse_of_unit hN _ _ ht3c
  -- every `Exp` and `ModInverse` of the round has a value, so the verdict is the four-way comparison
  unfold asppRound expInPlace
  simp only [goExp_nonneg _ _ _ hNi (Int.natCast_nonneg _), goExp_nonneg _ _ _ hNi hg0,
    goExp_nonneg _ 2 _ hNi (by norm_num), Option.getD_some, Int.toNat_natCast, two_pow_toNat]
  rw [← hyg, ← ht1, show Int.toNat 2 = 2 from rfl]
  simp only [ht2, ht4, ofBool_accept_iff, Bool.or_eq_true, decide_eq_true_eq]
  rcases hcases with h | h | h | h
  · refine Or.inl (Or.inl (Or.inl ?_))
    exact eq_of_cast_eq ht1_r.1 ht1_r.2 hyg_r.1 hyg_r.2 (by rw [ht1c, hygc, h])
  · refine Or.inl (Or.inl (Or.inr ?_))
    exact eq_of_cast_eq ht2_0 ht2_N hyg_r.1 hyg_r.2 (by rw [ht2c, hygc, h])
  · refine Or.inl (Or.inr ?_)
    exact eq_of_cast_eq ht3_r.1 ht3_r.2 hyg_r.1 hyg_r.2 (by rw [ht3c, hygc, h])
  · refine Or.inr ?_
    exact eq_of_cast_eq ht4_0 ht4_N hyg_r.1 hyg_r.2 (by rw [ht4c, hygc, h])

set_option linter.unusedVariables false in
/-- **Completeness of one round.**  `hodd`, `hodd2` are not used: when `2` has no inverse modulo
    `odd` the prover model has no response. -/
theorem asppRound_complete {N : ℕ} (odd : ℕ) (k : ℕ) (base x log r : ℤ)
    (sqrt : ℤ → Option ℤ)
    (hN : 1 < N) (hk : 2 ≤ k) (hodd : 0 < odd) (hodd2 : odd % 2 = 1)
    (hbase : 0 ≤ base ∧ base < N) (hcop : Nat.gcd base.natAbs N = 1)
    (heuler : ∀ b : ℕ, Nat.Coprime b N → b ^ (4 * odd) % N = 1)
    (hx : 0 ≤ x) (hlog : 0 ≤ log)
    (hsqrt : ∀ a s, sqrt a = some s → 0 ≤ s ∧ (s * s - a) % (odd : ℤ) = 0)
    (hresp : asppResponse sqrt (4 * (odd : ℤ)) odd log x = some r) :
    asppRound N (2 ^ k) base x (base ^ log.toNat % N) r = .accept := by
  have : NeZero N := ⟨by omega⟩
  have hunits : ∀ B : (ZMod N)ˣ, B ^ (4 * odd) = 1 := fun B => by
    have h := congrArg (Nat.cast : ℕ → ZMod N) (heuler (B : ZMod N).val (ZMod.val_coe_unit_coprime B))
    rw [ZMod.natCast_mod, Nat.cast_pow, ZMod.natCast_zmod_val, Nat.cast_one] at h
    exact Units.ext (by rw [Units.val_pow_eq_pow_val, h, Units.val_one])
  obtain ⟨hr, hrel⟩ := asppResponse_spec odd log x r sqrt hsqrt hresp
  exact asppRound_accept_of odd k base x log r hN hk hbase hcop hunits hx hlog hr hrel

/-! ## all rounds -/

/-- `almostSafePrimeProductBuild` with an arbitrary square-root routine. -/
def asppBuildWith (sqrt : ℤ → Option ℤ) (pp qp challenge index : ℤ) (logs : List ℤ) :
    Option (List ℤ) :=
  let n := (2 * pp + 1) * (2 * qp + 1)
  let phi := 4 * (pp * qp)
  let odd := pp * qp
  rounds Gen.kp_almostSafePrimeProductIters fun i =>
    match logs[i]? with
    | none => none
    | some lg => asppResponse sqrt phi odd lg (asppX challenge index i n)

/-- **Completeness of the almost-safe-prime-product proof**, for any square-root routine modulo `p'q'`
    whose results are roots. -/
theorem aspp_complete (pp qp N : ℕ) (challenge index nonce : ℤ) (logs coms rs : List ℤ)
    (sqrt : ℤ → Option ℤ)
    (hNdef : N = (2 * pp + 1) * (2 * qp + 1))
    (hP : (2 * pp + 1).Prime) (hQ : (2 * qp + 1).Prime) (hne : pp ≠ qp)
    (hN3 : N % 3 = 1)
    (hsqrt : ∀ a s, sqrt a = some s → 0 ≤ s ∧ (s * s - a) % ((pp * qp : ℕ) : ℤ) = 0)
    (hlogs : ∀ l ∈ logs, (0 : ℤ) ≤ l)
    (hcop : ∀ i, i < Gen.kp_almostSafePrimeProductIters →
      Nat.gcd (asppBase nonce i N).natAbs N = 1)
    (hcoms : ∀ i l, i < Gen.kp_almostSafePrimeProductIters → logs[i]? = some l →
      coms[i]? = some (asppBase nonce i N ^ l.toNat % N))
    (hb : asppBuildWith sqrt pp qp challenge index logs = some rs) :
    almostSafePrimeProductVerifyProof N challenge index nonce coms rs = .accept := by
  have hN : 1 < N := by
    have := Nat.mul_le_mul hP.two_le hQ.two_le
    omega
  have hNi : (0 : ℤ) < N := by omega
  have hcast : (2 * (pp : ℤ) + 1) * (2 * (qp : ℤ) + 1) = (N : ℤ) := by
    rw [hNdef]; push_cast; rfl
  have heuler : ∀ B : (ZMod N)ˣ, B ^ (4 * (pp * qp)) = 1 := fun B => by
    rw [← totient_safe_product hP hQ hne, ← hNdef]
    exact ZMod.pow_totient B
  have hk : 2 ≤ bitLen (N : ℤ) := by
    rw [bitLen_eq_natBitLen, Int.natAbs_natCast]
    by_contra hlt
    have := (natBitLen_le_iff N 1).mp (by omega)
    omega
  -- `dsimp only`, here and below, reduces the `let`s of the model and its `match`es on a `some`
  unfold asppBuildWith at hb
  dsimp only at hb
  rw [rounds_eq_some] at hb
  obtain ⟨hlen, hround⟩ := hb
  unfold almostSafePrimeProductVerifyProof
  rw [if_neg (by omega), if_neg (by omega)]
  dsimp only
  rw [firstFailure_accept_iff]
  intro i hi
  have hi' := List.mem_range.mp hi
  have hr := hround i hi'
  have hlt : i < rs.length := by omega
  rw [List.getElem?_eq_getElem hlt] at hr ⊢
  cases hl : logs[i]? with
  | none => rw [hl] at hr; exact absurd hr (by simp)
  | some lg =>
    rw [hl] at hr
    dsimp only at hr
    rw [hcoms i lg hi' hl]
    dsimp only
    have hlg : 0 ≤ lg := hlogs lg (List.mem_of_getElem? hl)
    have hresp : asppResponse sqrt (4 * ((pp * qp : ℕ) : ℤ)) ((pp * qp : ℕ) : ℤ) lg
        (asppX challenge index i N) = some rs[i] := by
      rw [hcast] at hr
      push_cast
      exact hr
    obtain ⟨hr0, hrel⟩ := asppResponse_spec (pp * qp) lg _ rs[i] sqrt hsqrt hresp
    exact asppRound_accept_of (pp * qp) (bitLen (N : ℤ)) _ _ lg rs[i] hN hk
      ⟨Int.emod_nonneg _ (by omega), Int.emod_lt_of_pos _ hNi⟩ (hcop i hi') heuler (Int.natCast_nonneg _) hlg hr0 hrel

/-- `aspp_complete` for the model's own builder `almostSafePrimeProductBuild`, whose square-root routine is
    `common.ModSqrt(·, [p', q'])`. -/
theorem aspp_complete_build (pp qp N : ℕ) (challenge index nonce : ℤ) (logs coms rs : List ℤ)
    (hNdef : N = (2 * pp + 1) * (2 * qp + 1))
    (hP : (2 * pp + 1).Prime) (hQ : (2 * qp + 1).Prime) (hne : pp ≠ qp)
    (hN3 : N % 3 = 1)
    (hsqrt : ∀ a s, sqrtRoot? (modSqrt a [(pp : ℤ), (qp : ℤ)]) = some s →
      0 ≤ s ∧ (s * s - a) % ((pp * qp : ℕ) : ℤ) = 0)
    (hlogs : ∀ l ∈ logs, (0 : ℤ) ≤ l)
    (hcop : ∀ i, i < Gen.kp_almostSafePrimeProductIters →
      Nat.gcd (asppBase nonce i N).natAbs N = 1)
    (hcoms : ∀ i l, i < Gen.kp_almostSafePrimeProductIters → logs[i]? = some l →
      coms[i]? = some (asppBase nonce i N ^ l.toNat % N))
    (hb : almostSafePrimeProductBuild pp qp challenge index logs = some rs) :
    almostSafePrimeProductVerifyProof N challenge index nonce coms rs = .accept :=
  aspp_complete pp qp N challenge index nonce logs coms rs _ hNdef hP hQ hne hN3 hsqrt hlogs hcop hcoms hb

end Gabi.KeyProof
