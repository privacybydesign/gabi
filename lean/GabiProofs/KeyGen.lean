/-
  GabiProofs.KeyGen — lemmas about GabiModel.KeyGen behind property C16 (issuer key generation):
  the receive loop of generateSafePrimePair, bit lengths of safe primes and their product, the
  safe-prime criterion of safeprime.Generate, quadratic residues modulo n = p·q via CRT, powers
  of S, prepareBytes, and what the evaluated predicate `wellFormed` asks of a key
  (`WellFormedKey`).
-/
import GabiModel.KeyGen
import GabiProofs.NumLemmas
import GabiProofs.Sieve
import GabiProofs.Legendre
import Mathlib.Data.ZMod.Basic
import Mathlib.FieldTheory.Finite.Basic
import Mathlib.GroupTheory.OrderOfElement
import Mathlib.Data.Nat.Totient
import Mathlib.Algebra.Group.Submonoid.Membership
import Mathlib.Tactic.Ring
import Mathlib.Tactic.NormNum
namespace Gabi.KeyGen
open Gabi

/-! ## the receive loop -/

theorem findMatch_some {l : List Nat} {ln p q : Nat} (h : findMatch l ln p = some q) :
    q ∈ l ∧ natBitLen (p * q) = ln ∧ p % 8 ≠ q % 8 := by
  unfold findMatch at h
  have h1 := List.find?_some h
  have h2 := List.mem_of_find?_eq_some h
  simp only [Bool.and_eq_true, beq_iff_eq, bne_iff_ne, ne_eq] at h1
  exact ⟨h2, h1.1, h1.2⟩

theorem pairLoop_sound (ln : Nat) (stream : List Nat) :
    ∀ (stored : List Nat) (p q : Nat),
      (∀ x ∈ stored, (x / 2) % 8 ≠ 1) →
      pairLoop ln stored stream = some (p, q) →
      pairFilter ln p q = true ∧ p ∈ stream ∧ (q ∈ stored ∨ q ∈ stream) := by
  induction stream with
  | nil => intro stored p q _ h; simp [pairLoop] at h
  | cons x rest ih =>
    intro stored p q hst h
    simp only [pairLoop, pairStep] at h
    by_cases hx : (x / 2) % 8 = 1
    · simp only [hx, if_true] at h
      obtain ⟨h1, h2, h3⟩ := ih stored p q hst h
      exact ⟨h1, List.mem_cons_of_mem _ h2, h3.imp id (List.mem_cons_of_mem _)⟩
    · simp only [hx, if_false] at h
      cases hfm : findMatch stored ln x with
      | some y =>
        simp only [hfm, Option.some.injEq, Prod.mk.injEq] at h
        obtain ⟨rfl, rfl⟩ := h
        obtain ⟨hm, hbl, hne⟩ := findMatch_some hfm
        refine ⟨?_, List.mem_cons_self, Or.inl hm⟩
        simp [pairFilter, hx, hst _ hm, hne, hbl]
      | none =>
        simp only [hfm] at h
        obtain ⟨h1, h2, h3⟩ := ih _ p q
          (List.forall_mem_append.mpr ⟨hst, List.forall_mem_singleton.mpr hx⟩) h
        refine ⟨h1, List.mem_cons_of_mem _ h2, ?_⟩
        rwa [List.mem_append, List.mem_singleton, or_assoc, ← List.mem_cons] at h3

/-! ## bit lengths -/

/-- two factors with their two top bits set (`k` bits each) have a product of exactly `2k` bits. -/
theorem product_bitlen (k p q : Nat) (hk : 2 ≤ k)
    (hp : 3 * 2 ^ (k - 2) ≤ p) (hp' : p < 2 ^ k) (hq : 3 * 2 ^ (k - 2) ≤ q) (hq' : q < 2 ^ k) :
    natBitLen (p * q) = 2 * k := by
  rw [natBitLen_eq_iff _ _ (by omega)]
  obtain ⟨j, rfl⟩ : ∃ j, k = j + 2 := ⟨k - 2, by omega⟩
  simp only [Nat.add_sub_cancel] at hp hq
  have e1 : 2 ^ (2 * (j + 2) - 1) = 8 * (2 ^ j * 2 ^ j) := by
    have : 2 * (j + 2) - 1 = j + j + 3 := by omega
    rw [this, pow_add, pow_add]; ring
  have e2 : 2 ^ (2 * (j + 2)) = 2 ^ (j + 2) * 2 ^ (j + 2) := by
    rw [two_mul, pow_add]
  constructor
  · calc 2 ^ (2 * (j + 2) - 1) = 8 * (2 ^ j * 2 ^ j) := e1
      _ ≤ 9 * (2 ^ j * 2 ^ j) := Nat.mul_le_mul_right _ (by norm_num)
      _ = (3 * 2 ^ j) * (3 * 2 ^ j) := by ring
      _ ≤ p * q := Nat.mul_le_mul hp hq
  · rw [e2]
    exact Nat.mul_lt_mul'' hp' hq'

/-- the value returned by `Generate(k)`: `2q+1` where `q` has `k-1` bits with its two top bits set. -/
theorem safeprime_range (k q : Nat) (hk : 3 ≤ k)
    (hq : 3 * 2 ^ (k - 3) ≤ q) (hq' : q < 2 ^ (k - 1)) :
    3 * 2 ^ (k - 2) ≤ 2 * q + 1 ∧ 2 * q + 1 < 2 ^ k ∧ natBitLen (2 * q + 1) = k := by
  obtain ⟨j, rfl⟩ := Nat.exists_eq_add_of_le' hk
  rw [natBitLen_eq_iff _ _ (by omega)]
  -- every power is written as a multiple of `2 ^ j`; what is left is linear
  simp only [Nat.add_sub_cancel, Nat.reduceSubDiff, Nat.pow_succ] at *
  omega

/-! ## safe primes: the criterion used by safeprime.Generate, residues modulo 3 -/

/-- The "if" direction of the theorem stated in the comment at the end of safeprime/safeprime.go;
    the proof is the one given there, by the order of 2 modulo `2q+1`. -/
theorem safe_prime_criterion (q : Nat) (hq : q.Prime) (h : 2 ^ (2 * q) % (2 * q + 1) = 1) :
    (2 * q + 1).Prime := by
  have hq2le := hq.two_le
  generalize hp : 2 * q + 1 = p at h
  have hp1 : 1 < p := by omega
  -- the order of 2 modulo the odd number `p` divides `2q` and `φ(p)`
  have hord : orderOf (2 : ZMod p) ∣ 2 * q := orderOf_dvd_of_pow_eq_one (by
    have := congrArg (Nat.cast : ℕ → ZMod p) h
    rwa [ZMod.natCast_mod, Nat.cast_pow, Nat.cast_ofNat, Nat.cast_one] at this)
  have hφ : orderOf (2 : ZMod p) ∣ Nat.totient p := orderOf_dvd_of_pow_eq_one (by
    have := (ZMod.natCast_eq_natCast_iff _ _ _).mpr
      (Nat.ModEq.pow_totient (Nat.coprime_two_left.mpr ⟨q, hp.symm⟩ : Nat.Coprime 2 p))
    rwa [Nat.cast_pow, Nat.cast_ofNat, Nat.cast_one] at this)
  -- it does not divide 2, as `p ∤ 2² - 1`; so `q` divides it, and with it `φ(p)`
  have hqφ : q ∣ Nat.totient p := by
    refine dvd_trans ((Nat.coprime_or_dvd_of_prime hq _).resolve_left fun hc => ?_) hφ
    have h4 := orderOf_dvd_iff_pow_eq_one.mp (hc.symm.dvd_of_dvd_mul_right hord)
    have : 2 ^ 2 ≡ 1 [MOD p] := (ZMod.natCast_eq_natCast_iff _ _ _).mp
      (by rw [Nat.cast_pow, Nat.cast_ofNat, Nat.cast_one, h4])
    have := Nat.le_of_dvd (by norm_num) ((Nat.modEq_iff_dvd' (by norm_num)).mp this.symm)
    omega
  -- `φ(p)` is even as well; for `q ≠ 2` that makes `2q ∣ φ(p) < p = 2q + 1`, so `φ(p) = p - 1`
  rcases eq_or_ne q 2 with rfl | hq2
  · exact hp ▸ Nat.prime_five
  · have hd : 2 * q ∣ Nat.totient p :=
      ((Nat.coprime_primes Nat.prime_two hq).mpr hq2.symm).mul_dvd_of_dvd_of_dvd
        (Nat.totient_even (by omega)).two_dvd hqφ
    have hle := Nat.le_of_dvd (Nat.totient_pos.mpr (Nat.zero_lt_of_lt hp1)) hd
    have hlt := Nat.totient_lt p hp1
    exact (Nat.totient_eq_iff_prime (Nat.zero_lt_of_lt hp1)).mp (by omega)

theorem mod_three_ne_zero {r : Nat} (hr : r.Prime) (h3 : 3 < r) : r % 3 ≠ 0 := fun h =>
  absurd ((Nat.prime_dvd_prime_iff_eq Nat.prime_three hr).mp (Nat.dvd_of_mod_eq_zero h)) (by omega)

/-- a safe prime `2r+1` with `r > 3`, and its half, are `≡ 2 (mod 3)`. -/
theorem mod_three_of_safe {r : Nat} (hr : r.Prime) (h3 : 3 < r) (hR : (2 * r + 1).Prime) :
    r % 3 = 2 ∧ (2 * r + 1) % 3 = 2 := by
  have h0 := mod_three_ne_zero hr h3
  have h1 := mod_three_ne_zero hR (by omega)
  omega

/-! ## quadratic residues modulo n, powers of S -/

/-- squares modulo two coprime moduli glue to a square modulo the product (CRT). -/
theorem isSquare_zmod_mul {p q : Nat} (hcop : Nat.Coprime p q) (a : Int)
    (hp : IsSquare (a : ZMod p)) (hq : IsSquare (a : ZMod q)) : IsSquare (a : ZMod (p * q)) := by
  obtain ⟨x, hx⟩ := hp
  obtain ⟨y, hy⟩ := hq
  let e := ZMod.chineseRemainder hcop
  refine ⟨e.symm (x, y), e.injective ?_⟩
  rw [map_mul, e.apply_symm_apply, map_intCast, Prod.mk_mul_mk, ← hx, ← hy]
  rfl

theorem legendre_one_isSquare (p : Nat) [Fact p.Prime] (hp2 : p ≠ 2) (s : Nat)
    (h : legendreSymbol (s : Int) (p : Int) = 1) :
    IsSquare ((s : Int) : ZMod p) ∧ Nat.Coprime p s := by
  have nd : ¬ (p : Int) ∣ (s : Int) := fun hd => by
    rw [(legendreSymbol_eq_zero_iff (s : Int) p hp2).mpr hd] at h
    exact absurd h (by decide)
  exact ⟨(legendreSymbol_eq_one_iff' (s : Int) p hp2 nd).mp h,
    (Nat.Prime.coprime_iff_not_dvd Fact.out).mpr (mod_cast nd)⟩

theorem legendre_one_isSquare_mul (p q : Nat) [Fact p.Prime] [Fact q.Prime] (hp2 : p ≠ 2) (hq2 : q ≠ 2)
    (hpq : p ≠ q) (s : Nat)
    (h1 : legendreSymbol (s : Int) (p : Int) = 1) (h2 : legendreSymbol (s : Int) (q : Int) = 1) :
    IsSquare ((s : Int) : ZMod (p * q)) ∧ Nat.Coprime s (p * q) := by
  obtain ⟨sp, cp⟩ := legendre_one_isSquare p hp2 s h1
  obtain ⟨sq, cq⟩ := legendre_one_isSquare q hq2 s h2
  have hcop : Nat.Coprime p q := (Nat.coprime_primes Fact.out Fact.out).mpr hpq
  exact ⟨isSquare_zmod_mul hcop _ sp sq, (Nat.Coprime.mul_left cp cq).symm⟩

theorem deriveBases_powers (n s xZ : Nat) (xR : List Nat) :
    ((deriveBases n s xZ xR).z : ZMod n) ∈ Submonoid.powers (s : ZMod n) ∧
    ∀ b ∈ (deriveBases n s xZ xR).r, (b : ZMod n) ∈ Submonoid.powers (s : ZMod n) := by
  constructor
  · exact ⟨xZ, (cast_powMod s xZ).symm⟩
  · intro b hb
    simp only [deriveBases, List.mem_map] at hb
    obtain ⟨x, _, rfl⟩ := hb
    exact ⟨x, (cast_powMod s x).symm⟩

theorem isSquare_of_mem_powers {M : Type} [CommMonoid M] {s b : M} (hs : IsSquare s)
    (h : b ∈ Submonoid.powers s) : IsSquare b := by
  obtain ⟨k, rfl⟩ := h
  exact hs.pow k

/-! ## prepareBytes -/

theorem orLast_eq_setLastOdd : ∀ l : List UInt8, orLast l = Sieve.setLastOdd l
  | [] => rfl
  | [_] => rfl
  | x :: y :: r => congrArg (x :: ·) (orLast_eq_setLastOdd (y :: r))

/-- a non-empty buffer whose value has the two top bits of `n` set keeps them under `orLast`,
    and becomes odd. -/
theorem orLast_top_bits {l : List UInt8} {n : Nat} (hl : l ≠ []) (hn : 1 ≤ n)
    (hlo : 3 * 2 ^ (n - 2) ≤ ofBytesBE l) (hhi : ofBytesBE l < 2 ^ n) :
    3 * 2 ^ (n - 2) ≤ ofBytesBE (orLast l) ∧ ofBytesBE (orLast l) < 2 ^ n ∧
      ofBytesBE (orLast l) % 2 = 1 ∧ (orLast l).length = l.length := by
  rw [orLast_eq_setLastOdd, Sieve.ofBytesBE_setLastOdd l hl, Sieve.setLastOdd_length]
  have := Nat.two_pow_pred_mul_two hn
  omega

theorem headFix_bounds (x : UInt8) (b : Nat) (h2 : 2 ≤ b) (h8 : b ≤ 8) :
    3 * 2 ^ (b - 2) ≤ (headFix x b).toNat ∧ (headFix x b).toNat < 2 ^ b := by
  obtain ⟨j, rfl⟩ := Nat.exists_eq_add_of_le' h2
  have hj : 3 * 2 ^ j < 256 := by
    have : 2 ^ j ≤ 2 ^ 6 := Nat.pow_le_pow_right (by norm_num) (by omega)
    omega
  rw [headFix, UInt8.toNat_or, Sieve.toUInt8_mod, toUInt8_toNat, Nat.mod_mod, Nat.add_sub_cancel,
    Nat.shiftLeft_eq, Nat.mod_eq_of_lt hj]
  refine ⟨Nat.right_le_or, Nat.or_lt_two_pow (Sieve.masked_lt x _) ?_⟩
  have := Nat.two_pow_pos j
  rw [Nat.pow_add]
  omega

theorem headFix1_one (x : UInt8) : (headFix1 x 1).toNat = 1 := by
  have := Sieve.masked_lt x 1
  rw [headFix1, UInt8.toNat_or, Sieve.toUInt8_mod, show (1 : UInt8).toNat = 1 from rfl, Sieve.or_one]
  omega

/-- the buffer of `(qbits+7)/8` bytes holds `qbits` bits: `topBits qbits` of them in the first byte. -/
theorem topBits_spec {qbits n : Nat} (hn : n + 1 = (qbits + 7) / 8) :
    1 ≤ topBits qbits ∧ topBits qbits ≤ 8 ∧ qbits = topBits qbits + 8 * n :=
  Sieve.maskBits_spec hn

/-- `prepareBytes` on the buffer that `Generate` allocates for a `qbits`-bit candidate: the value
    has exactly `qbits` bits, its two top bits are set, it is odd; the length is unchanged. -/
theorem prepareBytes_top_bits (bytes : List UInt8) (qbits : Nat) (hq : 2 ≤ qbits)
    (hlen : bytes.length = (qbits + 7) / 8) :
    3 * 2 ^ (qbits - 2) ≤ ofBytesBE (prepareBytes bytes (topBits qbits)) ∧
    ofBytesBE (prepareBytes bytes (topBits qbits)) < 2 ^ qbits ∧
    ofBytesBE (prepareBytes bytes (topBits qbits)) % 2 = 1 ∧
    (prepareBytes bytes (topBits qbits)).length = bytes.length := by
  cases bytes with
  | nil => rw [List.length_nil] at hlen; omega
  | cons x rest =>
    obtain ⟨hb1, hb8, hqb⟩ := topBits_spec hlen
    generalize topBits qbits = b at *
    clear hlen
    by_cases hb : 2 ≤ b
    · -- two top bits in the first byte
      obtain ⟨hlo, hlt⟩ := headFix_bounds x b hb hb8
      simp only [prepareBytes, ge_iff_le, hb, if_true]
      refine orLast_top_bits (List.cons_ne_nil _ _) (Nat.le_of_succ_le hq) ?_ ?_
      · have := ofBytesBE_cons_ge hlo rest
        rwa [Nat.mul_assoc, two_pow_mul_256_pow,
          show b - 2 + 8 * rest.length = qbits - 2 by omega] at this
      · rw [hqb, ← two_pow_mul_256_pow]
        exact ofBytesBE_cons_lt hlt rest
    · -- b = 1: top bit in the first byte, second bit in the next one
      obtain rfl : b = 1 := by omega
      cases rest with
      | nil => rw [List.length_nil] at hqb; omega
      | cons y r =>
        have h1 := headFix1_one x
        simp only [prepareBytes, ge_iff_le, hb, if_false]
        refine orLast_top_bits (List.cons_ne_nil _ _) (Nat.le_of_succ_le hq) ?_ ?_
        · have e : 2 ^ 7 * 256 ^ r.length = 2 ^ (qbits - 2) := by
            rw [two_pow_mul_256_pow, hqb, List.length_cons]; congr 1; omega
          have hy : 128 ≤ (y ||| 0x80).toNat := by
            rw [UInt8.toNat_or]; exact Nat.right_le_or
          have := ofBytesBE_cons_ge hy r
          rw [ofBytesBE_cons, h1, List.length_cons, Nat.pow_succ, ← e]
          omega
        · rw [hqb, ← two_pow_mul_256_pow]
          exact ofBytesBE_cons_lt (by rw [h1]; exact Nat.one_lt_two) _

/-! ## the predicate on generated keys -/

theorem isQR_sound (p q x : Nat) [Fact p.Prime] [Fact q.Prime] (hp2 : p ≠ 2) (hq2 : q ≠ 2)
    (hpq : p ≠ q) (h : isQR p q x = true) :
    IsSquare ((x : Int) : ZMod (p * q)) ∧ Nat.Coprime x (p * q) ∧ 0 < x ∧ x < p * q := by
  simp only [isQR, Bool.and_eq_true, beq_iff_eq, decide_eq_true_eq] at h
  obtain ⟨⟨⟨h0, hlt⟩, h1⟩, h2⟩ := h
  obtain ⟨a, b⟩ := legendre_one_isSquare_mul p q hp2 hq2 hpq x (by exact_mod_cast h1) (by exact_mod_cast h2)
  exact ⟨a, b, h0, hlt⟩

/-- `isQR` read off the Jacobi symbols, which `norm_num` evaluates. -/
theorem isQR_of_jacobiSym {p q x : Nat} (hp : p % 2 = 1) (hq : q % 2 = 1) (h0 : 0 < x)
    (hlt : x < p * q) (h1 : jacobiSym (x : Int) p = 1) (h2 : jacobiSym (x : Int) q = 1) :
    isQR p q x = true := by
  simp only [isQR, Bool.and_eq_true, beq_iff_eq, decide_eq_true_eq]
  exact ⟨⟨⟨h0, hlt⟩, (legendreSymbol_eq_jacobiSym _ p hp).trans h1⟩,
    (legendreSymbol_eq_jacobiSym _ q hq).trans h2⟩

theorem two_lt_of_safePrimeOk {x : Nat} (h : safePrimeOk x = true) : 2 < x := by
  simp only [safePrimeOk, Bool.and_eq_true, decide_eq_true_eq] at h
  exact h.1.1

theorem wellFormed_iff (d : KeyPairData) : wellFormed d = true ↔ ∀ c ∈ checks d, c.1 = true := by
  simp only [wellFormed, failures, List.isEmpty_iff, List.map_eq_nil_iff, List.filter_eq_nil_iff,
    Bool.not_eq_true', Bool.not_eq_false]

/-- What `checks` asks of a key, one field per entry, named as the entry is and in the same order. -/
structure WellFormedKey (d : KeyPairData) : Prop where
  distinct : d.p ≠ d.q
  p_safeprime : safePrimeOk d.p = true
  q_safeprime : safePrimeOk d.q = true
  primes_halves : d.pPrime = (d.p - 1) / 2 ∧ d.qPrime = (d.q - 1) / 2
  prime_length : natBitLen d.p = d.ln / 2 ∧ natBitLen d.q = d.ln / 2
  modulus : d.n = d.p * d.q ∧ d.skN = d.n
  modulus_length : natBitLen d.n = d.ln
  order : d.order = d.pPrime * d.qPrime
  p_q_mod8 : d.p % 8 ≠ d.q % 8
  pprime_mod8 : d.pPrime % 8 ≠ 1 ∧ d.qPrime % 8 ≠ 1
  canprove : canProve d.pPrime d.qPrime = true
  S_qr : isQR d.p d.q d.s = true
  Z_qr : isQR d.p d.q d.z = true
  R_qr : ∀ x ∈ d.r, isQR d.p d.q x = true
  G_qr : isQR d.p d.q d.g = true
  H_qr : isQR d.p d.q d.h = true
  Z_subgroup : inSubgroup d.p d.q d.pPrime d.qPrime d.s d.z = true
  R_subgroup : ∀ x ∈ d.r, inSubgroup d.p d.q d.pPrime d.qPrime d.s x = true
  R_count : d.r.length = d.nattr
  params : d.base.Ln = d.ln ∧ d.params = SysParams.ofBase d.base
  revocation_key : P256.keyMatches d.ecD d.ecX d.ecY = true
  workers_left : d.leaked = 0

theorem WellFormedKey.of_wellFormed {d : KeyPairData} (h : wellFormed d = true) :
    WellFormedKey d := by
  rw [wellFormed_iff] at h
  simp only [checks, List.forall_mem_cons, List.not_mem_nil, false_imp_iff, implies_true, and_true,
    Bool.and_eq_true, beq_iff_eq, bne_iff_ne, ne_eq, List.all_eq_true] at h
  obtain ⟨distinct, p_safeprime, q_safeprime, primes_halves, prime_length, modulus, modulus_length,
    order, p_q_mod8, pprime_mod8, canprove, S_qr, Z_qr, R_qr, G_qr, H_qr, Z_subgroup, R_subgroup,
    R_count, params, revocation_key, workers_left⟩ := h
  exact ⟨distinct, p_safeprime, q_safeprime, primes_halves, prime_length, modulus, modulus_length,
    order, p_q_mod8, pprime_mod8, canprove, S_qr, Z_qr, R_qr, G_qr, H_qr, Z_subgroup, R_subgroup,
    R_count, params, revocation_key, workers_left⟩

end Gabi.KeyGen
