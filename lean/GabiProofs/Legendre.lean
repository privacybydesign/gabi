/-
  GabiProofs.Legendre — the model's modular arithmetic read in `ZMod`: `powMod` is the power of
  `ZMod p`, and `Gabi.legendreSymbol` (model of `common.LegendreSymbol`) equals Mathlib's `jacobiSym`
  for odd positive moduli.
-/
import GabiProofs.MathUtilLemmas
import Mathlib.NumberTheory.LegendreSymbol.JacobiSymbol
import Mathlib.NumberTheory.LegendreSymbol.QuadraticReciprocity
import Mathlib.Tactic.Ring

namespace Gabi

open NumberTheorySymbols

/-! ## `powMod` in `ZMod` -/

section Casts
variable {p : Nat}

theorem cast_powMod (b e : Nat) : ((powMod b e p : Nat) : ZMod p) = (b : ZMod p) ^ e := by
  rw [powMod_eq, ZMod.natCast_mod, Nat.cast_pow]

theorem natCast_eq_one_iff_of_lt {a : Nat} (ha : a < p) (hp : 1 < p) : (a : ZMod p) = 1 ↔ a = 1 := by
  rw [← Nat.cast_one, ZMod.natCast_eq_natCast_iff', Nat.mod_eq_of_lt ha, Nat.mod_eq_of_lt hp]

theorem powMod_eq_one_iff (b e : Nat) (hp : 1 < p) : powMod b e p = 1 ↔ (b : ZMod p) ^ e = 1 := by
  rw [← cast_powMod, natCast_eq_one_iff_of_lt (powMod_lt b e (Nat.zero_lt_of_lt hp)) hp]

end Casts

/-! ## `legendreSymbol` -/

/-- `J(2 | m) ^ t` in the form used by the loop. -/
theorem jacobiSym_two_pow (m t : Nat) (hm : m % 2 = 1) :
    jacobiSym 2 m ^ t = if t % 2 = 1 ∧ (m % 8 = 3 ∨ m % 8 = 5) then -1 else 1 := by
  rw [jacobiSym.at_two (Nat.odd_iff.mpr hm), ZMod.χ₈_nat_eq_if_mod_eight,
    if_neg (Nat.mod_two_ne_zero.mpr hm)]
  by_cases h8 : m % 8 = 3 ∨ m % 8 = 5
  · rw [if_neg (by omega)]
    rcases Nat.mod_two_eq_zero_or_one t with ht | ht
    · rw [if_neg fun h => Nat.zero_ne_one (ht.symm.trans h.1), Even.neg_one_pow (Nat.even_iff.mpr ht)]
    · rw [if_pos ⟨ht, h8⟩, Odd.neg_one_pow (Nat.odd_iff.mpr ht)]
  · rw [if_pos (by omega), one_pow, if_neg fun h => h8 h.2]

theorem jacobiSym_zero_left_odd (m : Nat) (hm : m % 2 = 1) :
    jacobiSym 0 m = if m = 1 then 1 else 0 := by
  by_cases h1 : m = 1
  · subst h1; simp [jacobiSym.one_right]
  · rw [if_neg h1]
    exact jacobiSym.zero_left (by omega)

theorem mul_ite_neg (c : Prop) [Decidable c] (x : Int) :
    (if c then -1 else 1) * x = if c then -x else x := by
  rw [ite_mul, neg_one_mul, one_mul]

theorem legendreLoop_eq (n m : Nat) (j : Int) (hm : m % 2 = 1) :
    legendreLoop n m j = j * jacobiSym (n : Int) m := by
  induction n using Nat.strongRecOn generalizing m j with
  | _ n ih =>
    unfold legendreLoop
    split
    · next h0 =>
      subst h0
      rw [Nat.cast_zero, jacobiSym_zero_left_odd m hm, mul_ite, mul_one, mul_zero]
    · next h0 =>
      obtain ⟨hspec, hodd⟩ := stripTwos_spec n h0
      have hle := stripTwos_fst_le n
      have hpos := stripTwos_fst_pos n h0
      dsimp only
      generalize hn' : (stripTwos n).1 = n' at *
      generalize ht : (stripTwos n).2 = t at *
      have hlt : m % n' < n := lt_of_lt_of_le (Nat.mod_lt m hpos) hle
      rw [ih (m % n') hlt n' _ hodd]
      have hJ : jacobiSym (n : Int) m
          = jacobiSym 2 m ^ t * jacobiSym (n' : Int) m := by
        conv_lhs => rw [hspec]
        rw [Nat.cast_mul, Nat.cast_pow, Nat.cast_ofNat, jacobiSym.mul_left, jacobiSym.pow_left,
          mul_comm]
      have hQR := jacobiSym.quadratic_reciprocity_if hodd hm
      have hmod : jacobiSym ((m % n' : Nat) : Int) n' = jacobiSym (m : Int) n' := by
        rw [Int.natCast_mod, ← jacobiSym.mod_left]
      rw [hJ, jacobiSym_two_pow m t hm, ← hQR, hmod]
      have hcond : (m % 4 = 3 ∧ n' % 4 = 3) ↔ (n' % 4 = 3 ∧ m % 4 = 3) := and_comm
      simp only [hcond]
      rw [← mul_ite_neg (n' % 4 = 3 ∧ m % 4 = 3), ← mul_ite_neg _ j,
        ← mul_ite_neg _ (jacobiSym m n')]
      ring

theorem legendreSymbol_eq_jacobiSym (a : Int) (p : Nat) (hp : p % 2 = 1) :
    legendreSymbol a (p : Int) = jacobiSym a p := by
  unfold legendreSymbol
  have hp0 : (p : Int) ≠ 0 := by
    have : p ≠ 0 := by omega
    exact_mod_cast this
  rw [Int.toNat_natCast, legendreLoop_eq _ _ _ hp, one_mul,
    Int.toNat_of_nonneg (Int.emod_nonneg a hp0), ← jacobiSym.mod_left]

theorem legendreSymbol_eq_legendreSym (a : Int) (p : Nat) [Fact p.Prime] (hp : p ≠ 2) :
    legendreSymbol a (p : Int) = legendreSym p a := by
  have hodd : p % 2 = 1 := (Fact.out : p.Prime).eq_two_or_odd.resolve_left hp
  rw [legendreSymbol_eq_jacobiSym a p hodd, jacobiSym.legendreSym.to_jacobiSym]

theorem legendreSymbol_eq_one_iff (a : Int) (p : Nat) [Fact p.Prime] (hp : p ≠ 2)
    (ha : (a : ZMod p) ≠ 0) :
    legendreSymbol a (p : Int) = 1 ↔ IsSquare (a : ZMod p) := by
  rw [legendreSymbol_eq_legendreSym a p hp]
  exact legendreSym.eq_one_iff p ha

/-- `legendreSymbol_eq_one_iff` with the hypothesis phrased as non-divisibility in `ℤ`. -/
theorem legendreSymbol_eq_one_iff' (a : Int) (p : Nat) [Fact p.Prime] (hp : p ≠ 2)
    (ha : ¬ (p : Int) ∣ a) :
    legendreSymbol a (p : Int) = 1 ↔ IsSquare (a : ZMod p) :=
  legendreSymbol_eq_one_iff a p hp (by rwa [Ne, ZMod.intCast_zmod_eq_zero_iff_dvd])

theorem legendreSymbol_eq_zero_iff (a : Int) (p : Nat) [Fact p.Prime] (hp : p ≠ 2) :
    legendreSymbol a (p : Int) = 0 ↔ (p : Int) ∣ a := by
  rw [legendreSymbol_eq_legendreSym a p hp, legendreSym.eq_zero_iff,
    ZMod.intCast_zmod_eq_zero_iff_dvd]

theorem legendreSymbol_range (a : Int) (p : Nat) (hp : p % 2 = 1) :
    legendreSymbol a p = -1 ∨ legendreSymbol a p = 0 ∨ legendreSymbol a p = 1 := by
  rw [legendreSymbol_eq_jacobiSym a p hp]
  rcases jacobiSym.trichotomy a p with h | h | h
  exacts [.inr (.inl h), .inr (.inr h), .inl h]

end Gabi

#print axioms Gabi.legendreLoop_eq
#print axioms Gabi.legendreSymbol_eq_jacobiSym
#print axioms Gabi.legendreSymbol_eq_legendreSym
#print axioms Gabi.legendreSymbol_eq_one_iff
#print axioms Gabi.legendreSymbol_eq_one_iff'
#print axioms Gabi.legendreSymbol_eq_zero_iff
#print axioms Gabi.legendreSymbol_range
