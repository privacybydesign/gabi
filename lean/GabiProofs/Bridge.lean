/-
  GabiProofs.Bridge — the executable integer operations of the model (`goExp`, to which `modPow`
  unfolds, `goModInverse`, `commonModInverse`, `· * · % n`) seen in `ZMod n` and in its unit group.

  Pattern of use: every intermediate value of the model is an integer in `[0,n)`; its cast to
  `ZMod n` is the value of a unit-group expression (`zunit n x ^ y`, products, inverses); the
  abstract theorems of `GabiProofs.GroupAlgebra` are applied in `(ZMod n)ˣ`; the final integer
  comparison of the model is decided by `eq_of_cast_eq`.
-/
import GabiProofs.NumLemmas
import Mathlib.Data.ZMod.Basic
import Mathlib.Data.ZMod.Units

namespace Gabi

variable {n : ℕ}

theorem exists_nat_modulus {m : Int} (h : 1 < m) : ∃ n : ℕ, m = n ∧ 1 < n :=
  ⟨m.toNat, (Int.toNat_of_nonneg (by omega)).symm, by omega⟩

/-! ### casts to `ZMod n` -/

theorem goExp_cast (hn : 0 < n) (x y : Int) (hy : 0 ≤ y) {r : Int}
    (h : goExp x y n = some r) : (r : ZMod n) = (x : ZMod n) ^ y.toNat := by
  rw [goExp_nonneg x y n (by exact_mod_cast hn) hy] at h
  obtain rfl := Option.some.inj h
  rw [ZMod.intCast_mod]
  push_cast
  rfl

theorem eq_of_cast_eq {a b : Int} (ha0 : 0 ≤ a) (ha : a < n) (hb0 : 0 ≤ b) (hb : b < n)
    (h : (a : ZMod n) = (b : ZMod n)) : a = b := by
  rw [ZMod.intCast_eq_intCast_iff'] at h
  rwa [Int.emod_eq_of_lt ha0 ha, Int.emod_eq_of_lt hb0 hb] at h

theorem cast_eq_iff {a b : Int} (ha0 : 0 ≤ a) (ha : a < n) (hb0 : 0 ≤ b) (hb : b < n) :
    (a : ZMod n) = (b : ZMod n) ↔ a = b :=
  ⟨eq_of_cast_eq ha0 ha hb0 hb, fun h => by rw [h]⟩

theorem emod_range (hn : 0 < n) (x : Int) : 0 ≤ x % (n : Int) ∧ x % (n : Int) < n :=
  ⟨Int.emod_nonneg _ (by exact_mod_cast hn.ne'), Int.emod_lt_of_pos _ (by exact_mod_cast hn)⟩

theorem emod_eq_of_cast_eq (hn : 0 < n) {x r : Int} (hr0 : 0 ≤ r) (hr : r < n)
    (h : (x : ZMod n) = (r : ZMod n)) : x % (n : Int) = r :=
  eq_of_cast_eq (emod_range hn x).1 (emod_range hn x).2 hr0 hr (by rw [ZMod.intCast_mod, h])

/-! ### the unit attached to an integer -/

/-- the class of `x` as a unit of `ZMod n` (junk value `1` when `x` is not invertible). -/
noncomputable def zunit (n : ℕ) (x : Int) : (ZMod n)ˣ :=
  open Classical in if h : IsUnit (x : ZMod n) then h.unit else 1

theorem zunit_val {x : Int} (h : IsUnit (x : ZMod n)) : ((zunit n x : (ZMod n)ˣ) : ZMod n) = x := by
  unfold zunit
  rw [dif_pos h]
  exact h.unit_spec

theorem isUnit_iff_gcd (x : Int) : IsUnit (x : ZMod n) ↔ Int.gcd x n = 1 := by
  rw [ZMod.coe_int_isUnit_iff_isCoprime, isCoprime_comm, Int.isCoprime_iff_gcd_eq_one]

theorem zunit_of_cast {x : Int} {u : (ZMod n)ˣ} (h : (x : ZMod n) = (u : ZMod n)) :
    zunit n x = u := by
  apply Units.ext
  rw [zunit_val (h ▸ u.isUnit), h]

theorem isUnit_of_cast {x : Int} {u : (ZMod n)ˣ} (h : (x : ZMod n) = (u : ZMod n)) :
    IsUnit (x : ZMod n) := h ▸ u.isUnit

theorem zunit_one : zunit n 1 = 1 :=
  zunit_of_cast (by simp)

theorem zunit_congr {x y : Int} (h : (x : ZMod n) = (y : ZMod n)) : zunit n x = zunit n y := by
  by_cases hx : IsUnit (x : ZMod n)
  · exact zunit_of_cast (h.trans (zunit_val (h ▸ hx)).symm)
  · have hy : ¬ IsUnit (y : ZMod n) := h ▸ hx
    simp [zunit, hx, hy]

theorem zunit_eq_unitOfCoprime (x : ℕ) (h : Nat.Coprime x n) :
    zunit n (x : Int) = ZMod.unitOfCoprime x h :=
  zunit_of_cast (by rw [ZMod.coe_unitOfCoprime, Int.cast_natCast])

theorem mul_unit {a b : Int} {u w : (ZMod n)ˣ}
    (ha : (a : ZMod n) = (u : ZMod n)) (hb : (b : ZMod n) = (w : ZMod n)) :
    ((a * b : Int) : ZMod n) = ((u * w : (ZMod n)ˣ) : ZMod n) := by
  push_cast; rw [ha, hb]

theorem mul_emod_unit (hn : 0 < n) {a b : Int} {u w : (ZMod n)ˣ}
    (ha : (a : ZMod n) = (u : ZMod n)) (hb : (b : ZMod n) = (w : ZMod n)) :
    0 ≤ a * b % (n : Int) ∧ a * b % (n : Int) < n ∧
      ((a * b % (n : Int) : Int) : ZMod n) = ((u * w : (ZMod n)ˣ) : ZMod n) :=
  ⟨(emod_range hn _).1, (emod_range hn _).2, by rw [ZMod.intCast_mod, mul_unit ha hb]⟩

/-! ### inverses -/

theorem goModInverse_cast {g inv : Int} (h : goModInverse g n = some inv) :
    (g : ZMod n) * (inv : ZMod n) = 1 ∧ 0 ≤ inv ∧ inv < n := by
  obtain ⟨h0, h1, h2⟩ := goModInverse_some h
  rw [Int.natAbs_natCast] at h1 h2
  refine ⟨?_, h0, h1⟩
  have := (ZMod.intCast_eq_intCast_iff' (g * inv) 1 n).mpr h2
  rwa [Int.cast_mul, Int.cast_one] at this

theorem commonModInverse_cast (hn : 1 < n) {a r : Int} (h : commonModInverse a n = some r) :
    (a : ZMod n) * (r : ZMod n) = 1 ∧ 1 ≤ r ∧ r < n := by
  obtain ⟨h0, h1, h2⟩ := commonModInverse_some (by exact_mod_cast hn) h
  refine ⟨?_, h0, h1⟩
  rw [← Int.cast_mul, ← ZMod.intCast_mod, h2, Int.cast_one]

theorem cast_eq_inv_zunit {g inv : Int} (hg : IsUnit (g : ZMod n))
    (h : (g : ZMod n) * (inv : ZMod n) = 1) :
    (inv : ZMod n) = (((zunit n g)⁻¹ : (ZMod n)ˣ) : ZMod n) := by
  rw [← zunit_val hg] at h
  exact Units.eq_inv_of_mul_eq_one_left h

theorem goModInverse_unit (hn : 0 < n) {g : Int} (hg : IsUnit (g : ZMod n)) :
    ∃ inv, goModInverse g n = some inv ∧ 0 ≤ inv ∧ inv < n ∧
      (inv : ZMod n) = (((zunit n g)⁻¹ : (ZMod n)ˣ) : ZMod n) := by
  cases h : goModInverse g n with
  | none =>
    rw [goModInverse_none_iff g n (by exact_mod_cast hn.ne')] at h
    exact absurd ((isUnit_iff_gcd g).mp hg) h
  | some inv =>
    obtain ⟨hm, h0, h1⟩ := goModInverse_cast h
    exact ⟨inv, rfl, h0, h1, cast_eq_inv_zunit hg hm⟩

theorem commonModInverse_unit (hn : 1 < n) {a : Int} (ha : IsUnit (a : ZMod n)) :
    ∃ r, commonModInverse a n = some r ∧ 0 ≤ r ∧ r < n ∧
      (r : ZMod n) = (((zunit n a)⁻¹ : (ZMod n)ˣ) : ZMod n) := by
  cases h : commonModInverse a n with
  | none =>
    rw [commonModInverse_none_iff a n (by exact_mod_cast (by omega : 0 < n))] at h
    exact absurd ((isUnit_iff_gcd a).mp ha) h
  | some r =>
    obtain ⟨hm, h0, h1⟩ := commonModInverse_cast hn h
    exact ⟨r, rfl, by omega, h1, cast_eq_inv_zunit ha hm⟩

/-! ### `goExp` on invertible bases is `zpow` in the unit group -/

theorem goExp_unit (hn : 1 < n) {x : Int} (hx : IsUnit (x : ZMod n)) (y : Int) :
    ∃ r, goExp x y n = some r ∧ 0 ≤ r ∧ r < n ∧
      (r : ZMod n) = ((zunit n x ^ y : (ZMod n)ˣ) : ZMod n) := by
  have hn0 : 0 < n := by omega
  have hnI : (0 : Int) < n := by exact_mod_cast hn0
  by_cases hy : 0 ≤ y
  · have h := goExp_nonneg x y n hnI hy
    refine ⟨_, h, (emod_range hn0 _).1, (emod_range hn0 _).2, ?_⟩
    rw [goExp_cast hn0 x y hy h]
    obtain ⟨k, rfl⟩ := Int.eq_ofNat_of_zero_le hy
    rw [zpow_natCast, Units.val_pow_eq_pow_val, zunit_val hx, Int.toNat_natCast]
  · -- `big.Int.Exp` raises the inverse of the base to `-y`
    obtain ⟨inv, hinv, -, -, hc⟩ := goModInverse_unit hn0 hx
    have h := goExp_neg x y n hnI (by omega)
    rw [hinv, Option.map_some] at h
    refine ⟨_, h, (emod_range hn0 _).1, (emod_range hn0 _).2, ?_⟩
    obtain ⟨k, hk⟩ := Int.eq_ofNat_of_zero_le (by omega : 0 ≤ -y)
    have hyk : y = -(k : Int) := by omega
    rw [ZMod.intCast_mod, Int.cast_pow, hc, hk, Int.toNat_natCast, hyk, zpow_neg, zpow_natCast,
      ← inv_pow, Units.val_pow_eq_pow_val]

theorem goExp_coprime (hn : 1 < n) {x : Int} (hx : Int.gcd x n = 1) (y : Int) :
    ∃ r, goExp x y n = some r ∧ 0 ≤ r ∧ r < n ∧
      (r : ZMod n) = ((zunit n x ^ y : (ZMod n)ˣ) : ZMod n) :=
  goExp_unit hn ((isUnit_iff_gcd x).mpr hx) y

theorem goExp_unitOfCoprime (hn : 1 < n) (x : ℕ) (hx : Nat.Coprime x n) (y : Int) :
    ∃ r, goExp x y n = some r ∧
      (r : ZMod n) = ((ZMod.unitOfCoprime x hx ^ y : (ZMod n)ˣ) : ZMod n) := by
  have hu : IsUnit (((x : Int)) : ZMod n) :=
    isUnit_of_cast (u := ZMod.unitOfCoprime x hx) (by rw [ZMod.coe_unitOfCoprime, Int.cast_natCast])
  obtain ⟨r, h, _, _, hc⟩ := goExp_unit hn hu y
  exact ⟨r, h, by rw [hc, zunit_eq_unitOfCoprime]⟩

theorem goExp_ne_none (hn : 1 < n) {x : Int} (hx : Int.gcd x n = 1) (y : Int) :
    goExp x y n ≠ none := by
  obtain ⟨r, h, _⟩ := goExp_coprime hn hx y
  rw [h]
  exact Option.some_ne_none r

theorem goExp_unit_eq (hn : 1 < n) {x : Int} (hx : IsUnit (x : ZMod n)) {y r : Int}
    (h : goExp x y n = some r) :
    0 ≤ r ∧ r < n ∧ (r : ZMod n) = ((zunit n x ^ y : (ZMod n)ˣ) : ZMod n) := by
  obtain ⟨r', h', a, b, c⟩ := goExp_unit hn hx y
  rw [h] at h'
  obtain rfl := Option.some.inj h'
  exact ⟨a, b, c⟩

theorem isUnit_of_goExp_one (hn : 0 < n) {b order : Int} (ho : 0 < order)
    (h : goExp b order n = some 1) : IsUnit (b : ZMod n) := by
  have := goExp_cast hn b order (by omega) h
  refine IsUnit.of_pow_eq_one (n := order.toNat) ?_ (by omega)
  rw [← this, Int.cast_one]

theorem zunit_pow_order (hn : 1 < n) {b order : Int} (ho : 0 < order)
    (h : goExp b order n = some 1) : zunit n b ^ order = 1 := by
  have hu := isUnit_of_goExp_one (by omega) ho h
  obtain ⟨_, _, hc⟩ := goExp_unit_eq hn hu h
  rw [← zunit_of_cast hc, zunit_one]

theorem goExp_eq_one_of_zunit (hn : 1 < n) {x order : Int} (hx : IsUnit (x : ZMod n))
    (h : zunit n x ^ order = 1) : goExp x order n = some 1 := by
  obtain ⟨r, hr, r0, r1, rc⟩ := goExp_unit hn hx order
  rw [hr, eq_of_cast_eq r0 r1 zero_le_one (by exact_mod_cast hn)
    (by rw [rc, h, Units.val_one, Int.cast_one])]

end Gabi
