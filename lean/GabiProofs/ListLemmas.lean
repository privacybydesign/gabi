/-
  GabiProofs.ListLemmas — lists and association lists (`List (α × β)` with `List.lookup`, the
  model's Go maps): membership along `List.Forall₂`, `lookup` under distinct keys and under
  permutation, `foldlM` over a permutation in any lawful monad, facts about `zip`, `eraseIdx`,
  `flatten` and `filter`, and a list overwritten by a `foldl` of `set`. No model, no `GoM`.
-/
import Mathlib.Data.List.Forall2
import Mathlib.Data.List.Perm.Basic

namespace Gabi

/-! ### along `List.Forall₂` -/

theorem forall₂_mem_zip {α β} {R : α → β → Prop} {l1 : List α} {l2 : List β}
    (h : List.Forall₂ R l1 l2) {a : α} (ha : a ∈ l1) : ∃ b, (b, a) ∈ l2.zip l1 ∧ R a b := by
  induction h with
  | nil => simp at ha
  | @cons a' b' l1 l2 hab _ ih =>
    rcases List.mem_cons.mp ha with rfl | hm
    · exact ⟨b', by simp, hab⟩
    · obtain ⟨b, hb, hR⟩ := ih hm
      exact ⟨b, by simp [hb], hR⟩

theorem forall₂_mem_left {α β} {R : α → β → Prop} {l1 : List α} {l2 : List β}
    (h : List.Forall₂ R l1 l2) {x : α} (hx : x ∈ l1) : ∃ y ∈ l2, R x y :=
  let ⟨y, hy, hr⟩ := forall₂_mem_zip h hx
  ⟨y, (List.of_mem_zip hy).1, hr⟩

theorem forall₂_mem_right {α β} {R : α → β → Prop} {l1 : List α} {l2 : List β}
    (h : List.Forall₂ R l1 l2) {b : β} (hb : b ∈ l2) : ∃ a, a ∈ l1 ∧ R a b :=
  forall₂_mem_left (R := flip R) h.flip hb

theorem forall₂_pairwise {α β} {R : α → β → Prop} {P : α → α → Prop} {Q : β → β → Prop}
    {l : List α} {r : List β} (h : List.Forall₂ R l r) (hp : l.Pairwise P)
    (himp : ∀ a ∈ l, ∀ b ∈ l, ∀ a' b', R a a' → R b b' → P a b → Q a' b') : r.Pairwise Q := by
  induction h with
  | nil => exact List.Pairwise.nil
  | @cons a a' l r haa' hlr ih =>
    rw [List.pairwise_cons] at hp ⊢
    constructor
    · intro b' hb'
      obtain ⟨b, hb, hbb'⟩ := forall₂_mem_right hlr hb'
      exact himp a (List.mem_cons_self ..) b (List.mem_cons_of_mem _ hb) a' b' haa' hbb' (hp.1 b hb)
    · exact ih hp.2 (fun a ha b hb => himp a (List.mem_cons_of_mem _ ha) b (List.mem_cons_of_mem _ hb))

theorem forall₂_append_left {α β : Type} {R : α → β → Prop} : ∀ (l1 l2 : List α) (r : List β),
    List.Forall₂ R (l1 ++ l2) r →
    ∃ r1 r2, r = r1 ++ r2 ∧ List.Forall₂ R l1 r1 ∧ List.Forall₂ R l2 r2 := by
  intro l1
  induction l1 with
  | nil => intro l2 r h; exact ⟨[], r, rfl, List.Forall₂.nil, h⟩
  | cons a l1 ih =>
    intro l2 r h
    rw [List.cons_append] at h
    cases h with
    | cons h1 h2 =>
      obtain ⟨r1, r2, rfl, h3, h4⟩ := ih _ _ h2
      exact ⟨_ :: r1, r2, rfl, List.Forall₂.cons h1 h3, h4⟩

theorem forall₂_zip_right {α α' β} {R : α → α' → Prop} {l : List α} {l' : List α'}
    (h : List.Forall₂ R l l') (m : List β) :
    List.Forall₂ (fun x x' => R x.1 x'.1 ∧ x.2 = x'.2) (l.zip m) (l'.zip m) := by
  induction h generalizing m with
  | nil => simp
  | @cons a a' l l' haa' _ ih =>
    cases m with
    | nil => simp
    | cons b m => exact List.Forall₂.cons ⟨haa', rfl⟩ (ih m)

/-! ### `lookup` in association lists -/

theorem forall₂_lookup {α β γ} [BEq α] [LawfulBEq α] {R : α × β → α × γ → Prop}
    {l1 : List (α × β)} {l2 : List (α × γ)}
    (h : List.Forall₂ (fun a b => b.1 = a.1 ∧ R a b) l1 l2) (k : α) :
    (l1.lookup k = none ∧ l2.lookup k = none) ∨
    ∃ v1 v2, l1.lookup k = some v1 ∧ l2.lookup k = some v2 ∧ R (k, v1) (k, v2) := by
  induction h with
  | nil => left; simp
  | @cons a b l1 l2 hab _ ih =>
    obtain ⟨k1, v1⟩ := a
    obtain ⟨k2, v2⟩ := b
    obtain ⟨hk, hR⟩ := hab
    simp only at hk
    subst hk
    rw [List.lookup_cons, List.lookup_cons]
    by_cases hkk : k == k2
    · simp only [hkk]
      have := eq_of_beq hkk
      subst this
      exact Or.inr ⟨v1, v2, rfl, rfl, hR⟩
    · simp only [hkk]
      exact ih

theorem lookup_mem {α β} [BEq α] [LawfulBEq α] {k : α} {v : β} {l : List (α × β)}
    (h : l.lookup k = some v) : (k, v) ∈ l := by
  obtain ⟨l1, l2, rfl, -⟩ := List.lookup_eq_some_iff.mp h
  simp

theorem lookup_of_mem_nodup {α β} [BEq α] [LawfulBEq α] {l : List (α × β)} (hnd : (l.map (·.1)).Nodup)
    {k : α} {v : β} (h : (k, v) ∈ l) : l.lookup k = some v := by
  obtain ⟨s, t, rfl⟩ := List.append_of_mem h
  rw [List.map_append, List.map_cons, List.nodup_append] at hnd
  refine List.lookup_eq_some_iff.mpr ⟨s, t, rfl, fun p hp => bne_iff_ne.mpr fun hk => ?_⟩
  exact hnd.2.2 _ (List.mem_map_of_mem hp) k List.mem_cons_self hk.symm

theorem lookup_split {α β} [BEq α] [LawfulBEq α] : ∀ (l : List (α × β)) (k : α) (v : β),
    (l.map (·.1)).Nodup → l.lookup k = some v →
    ∃ l1 l2, l = l1 ++ (k, v) :: l2 ∧ ∀ kv ∈ l1 ++ l2, kv.1 ≠ k := by
  intro l k v hnd h
  obtain ⟨l1, l2, rfl, -⟩ := List.lookup_eq_some_iff.mp h
  refine ⟨l1, l2, rfl, fun kv hkv hk => ?_⟩
  -- `k` would occur twice among the keys
  rw [List.map_append, List.map_cons, List.nodup_append, List.nodup_cons] at hnd
  rcases List.mem_append.mp hkv with hm | hm
  · exact hnd.2.2 _ (List.mem_map_of_mem hm) k List.mem_cons_self hk
  · exact hnd.2.1.1 (hk ▸ List.mem_map_of_mem (f := (·.1)) hm)

theorem lookup_perm {α β} [BEq α] [LawfulBEq α] {l l' : List (α × β)} (hp : l.Perm l')
    (hnd : (l.map (·.1)).Nodup) (k : α) : l.lookup k = l'.lookup k := by
  have hnd' : (l'.map (·.1)).Nodup := (hp.map _).nodup_iff.mp hnd
  apply Option.ext
  intro v
  exact ⟨fun h => lookup_of_mem_nodup hnd' (hp.subset (lookup_mem h)),
    fun h => lookup_of_mem_nodup hnd (hp.symm.subset (lookup_mem h))⟩

theorem lookup_map_self {α β} [BEq α] [LawfulBEq α] (g : α → β) (l : List α) (k : α) :
    (l.map fun v => (v, g v)).lookup k = if k ∈ l then some (g k) else none := by
  induction l with
  | nil => simp
  | cons a l ih =>
    rw [List.map_cons, List.lookup_cons]
    by_cases hka : k = a
    · subst hka; simp
    · have : (k == a) = false := by simpa using hka
      rw [this, ih]
      simp [hka]

/-! ### `foldlM` over a permutation -/

/-- a monadic left fold whose steps commute (on the members of the list) does not depend on the
    order of the list. -/
theorem foldlM_perm {m : Type u → Type v} [Monad m] [LawfulMonad m] {α σ} {f : σ → α → m σ}
    {l l' : List α} (hp : l.Perm l')
    (hc : ∀ a ∈ l, ∀ b ∈ l, ∀ s, (f s a >>= (f · b)) = (f s b >>= (f · a))) (init : σ) :
    l.foldlM f init = l'.foldlM f init := by
  induction hp generalizing init with
  | nil => rfl
  | cons x _ ih =>
    rw [List.foldlM_cons, List.foldlM_cons]
    congr 1
    funext s
    exact ih (fun a ha b hb => hc a (List.mem_cons_of_mem _ ha) b (List.mem_cons_of_mem _ hb)) s
  | swap x y l =>
    simp only [List.foldlM_cons]
    rw [← bind_assoc, ← bind_assoc]
    congr 1
    exact hc y (List.mem_cons_self ..) x (List.mem_cons_of_mem _ (List.mem_cons_self ..)) init
  | trans h1 _ ih1 ih2 =>
    rw [ih1 hc init]
    exact ih2 (fun a ha b hb => hc a (h1.symm.subset ha) b (h1.symm.subset hb)) init

/-! ### `getElem?`, a `foldl` maximum, `zip` with `eraseIdx`, lengths of `flatten` -/

theorem getElem?_cons_toNat {α} (a : α) (l : List α) {i : Int} (h : 1 ≤ i) :
    (a :: l)[i.toNat]? = l[i.toNat - 1]? := by
  rw [List.getElem?_cons, if_neg (by omega)]

theorem forall_mem_of_getElem? {P : Int → Prop} {l : List (Option Int)} {n : Nat}
    (hl : l.length = n) (h : ∀ i, i < n → ∃ x, l[i]? = some (some x) ∧ P x) :
    ∀ y ∈ l, ∃ x, y = some x ∧ P x := by
  intro y hy
  obtain ⟨i, hi, rfl⟩ := List.mem_iff_getElem.mp hy
  obtain ⟨x, hx, hP⟩ := h i (hl ▸ hi)
  rw [List.getElem?_eq_getElem hi] at hx
  exact ⟨x, Option.some.inj hx, hP⟩

theorem getD_nonneg {l : List Int} (h : ∀ a ∈ l, 0 ≤ a) (i : Nat) : 0 ≤ l.getD i 0 := by
  rw [List.getD_eq_getElem?_getD]
  cases hi : l[i]? with
  | none => exact Int.le_refl _
  | some a => exact h a (List.mem_of_getElem? hi)

theorem foldl_max_ge {β} (l : List (Int × β)) (init : Int) :
    init ≤ l.foldl (fun m kv => if kv.1 > m then kv.1 else m) init ∧
    ∀ kv ∈ l, kv.1 ≤ l.foldl (fun m kv => if kv.1 > m then kv.1 else m) init := by
  induction l generalizing init with
  | nil => exact ⟨Int.le_refl _, nofun⟩
  | cons kv rest ih =>
    rw [List.foldl_cons]
    obtain ⟨h1, h2⟩ := ih (if kv.1 > init then kv.1 else init)
    have h0 : init ≤ (if kv.1 > init then kv.1 else init) ∧
        kv.1 ≤ (if kv.1 > init then kv.1 else init) := by split <;> omega
    exact ⟨Int.le_trans h0.1 h1, List.forall_mem_cons.2 ⟨Int.le_trans h0.2 h1, h2⟩⟩

theorem zip_eraseIdx {α β : Type} : ∀ (l1 : List α) (l2 : List β) (k : Nat),
    (l1.eraseIdx k).zip (l2.eraseIdx k) = (l1.zip l2).eraseIdx k := by
  intro l1
  induction l1 with
  | nil => intro l2 k; simp
  | cons a l1 ih =>
    intro l2 k
    cases l2 with
    | nil => simp
    | cons b l2 =>
      cases k with
      | zero => simp
      | succ k => simp [ih]

theorem flatten_map_length_le_of_sublist {α β : Type} {f : α → List β} {l' l : List α}
    (hs : l'.Sublist l) : ((l'.map f).flatten).length ≤ ((l.map f).flatten).length := by
  induction hs with
  | slnil => simp
  | cons a _ ih => simp only [List.map_cons, List.flatten_cons, List.length_append]; omega
  | cons_cons a _ ih => simp only [List.map_cons, List.flatten_cons, List.length_append]; omega

theorem flatten_map_length_lt_of_sublist {α β : Type} {f : α → List β} {l' l : List α}
    (hs : l'.Sublist l) (hlt : l'.length < l.length) (hpos : ∀ x ∈ l, 0 < (f x).length) :
    ((l'.map f).flatten).length < ((l.map f).flatten).length := by
  induction hs with
  | slnil => simp at hlt
  | cons a hs _ =>
    have h1 := flatten_map_length_le_of_sublist (f := f) hs
    have h2 := hpos a List.mem_cons_self
    simp only [List.map_cons, List.flatten_cons, List.length_append]
    omega
  | cons_cons a hs ih =>
    have := ih (by simpa using hlt) (fun x hx => hpos x (List.mem_cons_of_mem _ hx))
    simp only [List.map_cons, List.flatten_cons, List.length_append]
    omega

/-! ### `filter` -/

theorem lookup_filter_ne {α β} [DecidableEq α] (l : List (α × β)) (a b : α) (h : b ≠ a) :
    (l.filter (·.1 ≠ a)).lookup b = l.lookup b := by
  induction l with
  | nil => rfl
  | cons x xs ih =>
    obtain ⟨k, v⟩ := x
    rw [List.filter_cons]
    split
    · rw [List.lookup_cons, List.lookup_cons, ih]
    · next hk =>
      obtain rfl : k = a := by simpa using hk
      rw [ih, List.lookup_cons, beq_false_of_ne h]

theorem filter_eq_singleton {α} (q : α → Bool) {κ} (key : α → κ) :
    ∀ (l : List α) (x : α), (l.map key).Nodup → x ∈ l → q x = true →
      (∀ y ∈ l, key y ≠ key x → q y = false) → l.filter q = [x]
  | [], _, _, hx, _, _ => absurd hx (by simp)
  | y :: ys, x, hnd, hx, hq, hoth => by
    rw [List.map_cons, List.nodup_cons] at hnd
    rcases List.mem_cons.mp hx with rfl | hx'
    · have : ys.filter q = [] := by
        rw [List.filter_eq_nil_iff]
        intro z hz
        have hne : key z ≠ key x := fun h => hnd.1 (h ▸ List.mem_map_of_mem hz)
        simp [hoth z (by simp [hz]) hne]
      rw [List.filter_cons, hq, if_pos rfl, this]
    · have hne : key y ≠ key x := fun h => hnd.1 (h ▸ List.mem_map_of_mem hx')
      have hy : q y = false := hoth y (by simp) hne
      rw [List.filter_cons, hy]
      simp only [Bool.false_eq_true, if_false]
      exact filter_eq_singleton q key ys x hnd.2 hx' hq (fun z hz => hoth z (by simp [hz]))

/-! ### a list overwritten at given positions, one after the other -/

theorem length_foldl_set {α β} (f : β → ℕ) (g : β → α) (ps : List β) :
    ∀ l : List α, (ps.foldl (fun l p => l.set (f p) (g p)) l).length = l.length := by
  induction ps with
  | nil => intro l; rfl
  | cons p ps ih => intro l; rw [List.foldl_cons, ih, List.length_set]

theorem getElem?_foldl_set_of_ne {α β} (f : β → ℕ) (g : β → α) (ps : List β) (j : ℕ) :
    ∀ l : List α, (∀ p ∈ ps, f p ≠ j) → (ps.foldl (fun l p => l.set (f p) (g p)) l)[j]? = l[j]? := by
  induction ps with
  | nil => intro l _; rfl
  | cons p ps ih =>
    intro l h
    rw [List.foldl_cons, ih _ fun q hq => h q (List.mem_cons_of_mem _ hq),
      List.getElem?_set_ne (h p (List.mem_cons_self ..))]

theorem getElem?_foldl_set_of_mem {α β} (f : β → ℕ) (g : β → α) (ps : List β)
    (hnd : (ps.map f).Nodup) (p : β) (hp : p ∈ ps) :
    ∀ l : List α, f p < l.length → (ps.foldl (fun l p => l.set (f p) (g p)) l)[f p]? = some (g p) := by
  induction ps with
  | nil => cases hp
  | cons q ps ih =>
    intro l hl
    rw [List.map_cons, List.nodup_cons] at hnd
    rw [List.foldl_cons]
    rcases List.mem_cons.mp hp with rfl | hp'
    · rw [getElem?_foldl_set_of_ne f g ps _ _ fun q hq heq => hnd.1 (List.mem_map.mpr ⟨q, hq, heq⟩),
        List.getElem?_set_self hl]
    · exact ih hnd.2 hp' _ (by rw [List.length_set]; exact hl)

end Gabi
