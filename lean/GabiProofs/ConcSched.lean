/-
  GabiProofs.ConcSched — the scheduler of GabiModel.Conc.HB (`runS`) only produces executions
  that conform to the skeleton and whose synchronisation objects behaved: the invariant `SInv`
  holds initially and is preserved by every step, for every schedule (`runS_inv`). This ties the
  `∀ e, Conforms prog e → WF e → RaceFree e` theorems to "all schedules of the transition system".
-/
import GabiProofs.ConcHB
namespace Gabi.Conc.HB

/-! ### the invariant of the scheduler -/

/-- what the scheduler keeps true: the trace conforms and is well formed (the two facts wanted);
    `below`/`present` tie the program counters to the events of the trace, `rel` the released
    tokens to `rel` events, and the `held…`/`locks` fields the held mutexes to `lock` events
    without a later `unlock` (`HeldInv`). -/
structure SInv (prog : Prog) (st : SSt) : Prop where
  conf : Conforms prog st.trace
  wf : WF st.trace
  below : ∀ (i : Nat) (ev : Event), st.trace[i]? = some ev → ev.pc < st.pcOf ev.tid
  present : ∀ t p, p < st.pcOf t → ∃ (i : Nat) (ev : Event), st.trace[i]? = some ev ∧ ev.tid = t ∧ ev.pc = p
  rel : ∀ o, o ∈ st.released → ∃ (i : Nat) (ev : Event), st.trace[i]? = some ev ∧ ev.act = Act.rel o
  heldUniq : ∀ m t t', (m, t) ∈ st.held → (m, t') ∈ st.held → t = t'
  heldNodup : st.held.Nodup
  locks : ∀ (i : Nat) (ev : Event) (m : Nat), st.trace[i]? = some ev → ev.act = Act.lock m →
    (m, ev.tid) ∈ st.held ∨
    ∃ (u : Nat) (c : Event), i < u ∧ st.trace[u]? = some c ∧ c.tid = ev.tid ∧ c.act = Act.unlock m

theorem sinit_inv (prog : Prog) (n : Nat) : SInv prog (sinit n) := by
  have nil : ∀ {i : Nat} {ev : Event}, (sinit n).trace[i]? ≠ some ev := nofun
  have pc0 : ∀ t, (sinit n).pcOf t = 0 := fun t => by
    simp only [sinit, SSt.pcOf, List.getD_eq_getElem?_getD, List.getElem?_replicate]; split <;> rfl
  refine ⟨⟨fun _ _ h => absurd h nil, fun _ _ h => absurd h nil, fun _ _ _ _ _ h => absurd h nil⟩,
    ⟨fun _ _ _ h => absurd h nil, fun _ _ _ _ _ _ h => absurd h nil⟩, fun _ _ h => absurd h nil,
    fun t p hp => ?_, nofun, nofun, List.nodup_nil, fun _ _ _ h => absurd h nil⟩
  rw [pc0] at hp; cases hp

/-! ### appending one event to an execution -/

/-- an execution stays one of the skeleton when a thread appends the event of its next program
    point. -/
theorem Conforms.snoc {prog : Prog} {e : Exec} (hc : Conforms prog e) {ev : Event}
    (hact : (prog ev.tid)[ev.pc]? = some ev.act)
    (hbelow : ∀ (i : Nat) (x : Event), e[i]? = some x → x.tid = ev.tid → x.pc < ev.pc)
    (hpres : ∀ p, p < ev.pc →
      ∃ (i : Nat) (x : Event), e[i]? = some x ∧ x.tid = ev.tid ∧ x.pc = p) :
    Conforms prog (e ++ [ev]) := by
  refine ⟨fun i x hx => ?_, fun j x hx p hp => ?_, fun i j x y hij hx hy hxy => ?_⟩
  · rcases getElem?_snoc_cases hx with ⟨h1, _⟩ | ⟨_, rfl⟩
    · exact hc.act i x h1
    · exact hact
  · rcases getElem?_snoc_cases hx with ⟨h1, _⟩ | ⟨rfl, rfl⟩
    · obtain ⟨i, y, hij, hy, hyt⟩ := hc.prefixClosed j x h1 p hp
      exact ⟨i, y, hij, getElem?_append_of_getElem? hy [ev], hyt⟩
    · obtain ⟨i, y, hy, hyt⟩ := hpres p hp
      exact ⟨i, y, lt_length_of_getElem? hy, getElem?_append_of_getElem? hy [x], hyt⟩
  · rcases getElem?_snoc_cases hx with ⟨h1, hil⟩ | ⟨rfl, _⟩
    · rcases getElem?_snoc_cases hy with ⟨h2, _⟩ | ⟨_, rfl⟩
      · exact hc.mono i j x y hij h1 h2 hxy
      · exact hbelow i x h1 hxy
    · have := lt_length_of_getElem? hy
      rw [List.length_append, List.length_singleton] at this
      omega

/-- the synchronisation objects still behaved if the appended event acquires only a released
    token and locks only a mutex all of whose earlier holders have unlocked it. -/
theorem WF.snoc {e : Exec} (hw : WF e) {ev : Event}
    (htok : ∀ o, ev.act = Act.acq o → ∃ (i : Nat) (x : Event), e[i]? = some x ∧ x.act = Act.rel o)
    (hmut : ∀ m, ev.act = Act.lock m → ∀ (i : Nat) (x : Event), e[i]? = some x →
      x.act = Act.lock m →
      ∃ (u : Nat) (c : Event), i < u ∧ e[u]? = some c ∧ c.tid = x.tid ∧ c.act = Act.unlock m) :
    WF (e ++ [ev]) := by
  refine ⟨fun j x o hx hxa => ?_, fun i j x y m hij hx hy hxa hya => ?_⟩
  · rcases getElem?_snoc_cases hx with ⟨h1, _⟩ | ⟨rfl, rfl⟩
    · obtain ⟨i, y, hij, hy, hya⟩ := hw.token j x o h1 hxa
      exact ⟨i, y, hij, getElem?_append_of_getElem? hy [ev], hya⟩
    · obtain ⟨i, y, hy, hya⟩ := htok o hxa
      exact ⟨i, y, lt_length_of_getElem? hy, getElem?_append_of_getElem? hy [x], hya⟩
  · rcases getElem?_snoc_cases hx with ⟨h1, hil⟩ | ⟨rfl, _⟩
    · rcases getElem?_snoc_cases hy with ⟨h2, _⟩ | ⟨rfl, rfl⟩
      · obtain ⟨u, c, hiu, huj, hc, hct⟩ := hw.mutex i j x y m hij h1 h2 hxa hya
        exact ⟨u, c, hiu, huj, getElem?_append_of_getElem? hc [ev], hct⟩
      · obtain ⟨u, c, hiu, hc, hct⟩ := hmut m hya i x h1 hxa
        exact ⟨u, c, hiu, lt_length_of_getElem? hc, getElem?_append_of_getElem? hc [y], hct⟩
    · have := lt_length_of_getElem? hy
      rw [List.length_append, List.length_singleton] at this
      omega

/-! ### one step: the trace and the program counters -/

theorem pcOf_set (pcs : List Nat) (t v u : Nat) (ht : t < pcs.length) :
    (pcs.set t v).getD u 0 = if u = t then v else pcs.getD u 0 := by
  simp only [List.getD_eq_getElem?_getD, List.getElem?_set]
  by_cases h : t = u
  · subst h; simp [ht]
  · have : ¬ u = t := fun h' => h h'.symm
    simp [h, this]

section advance
variable {st : SSt} {t : Nat} (ht : t < st.pcs.length) (a : Act)
include ht

/-- thread `t` appends the event of its program point and moves on: every event is still below
    the program counter of its thread (`SInv.below` after the step). -/
theorem below_advance
    (hb : ∀ (i : Nat) (ev : Event), st.trace[i]? = some ev → ev.pc < st.pcOf ev.tid)
    (i : Nat) (x : Event) (hx : (st.trace ++ [⟨t, st.pcOf t, a⟩])[i]? = some x) :
    x.pc < (st.pcs.set t (st.pcOf t + 1)).getD x.tid 0 := by
  rw [pcOf_set _ _ _ _ ht]
  rcases getElem?_snoc_cases hx with ⟨h1, _⟩ | ⟨_, rfl⟩
  · have := hb i x h1
    split
    · next heq => rw [heq] at this; omega
    · exact this
  · rw [if_pos rfl]; exact Nat.lt_succ_self _

/-- thread `t` appends the event of its program point and moves on: every program point below a
    counter still has its event (`SInv.present` after the step). -/
theorem present_advance
    (hp : ∀ u p, p < st.pcOf u →
      ∃ (i : Nat) (ev : Event), st.trace[i]? = some ev ∧ ev.tid = u ∧ ev.pc = p)
    (u p : Nat) (hlt : p < (st.pcs.set t (st.pcOf t + 1)).getD u 0) :
    ∃ (i : Nat) (ev : Event),
      (st.trace ++ [⟨t, st.pcOf t, a⟩])[i]? = some ev ∧ ev.tid = u ∧ ev.pc = p := by
  rw [pcOf_set _ _ _ _ ht] at hlt
  by_cases hnew : u = t ∧ p = st.pcOf t
  · exact ⟨st.trace.length, _, List.getElem?_concat_length, hnew.1.symm, hnew.2.symm⟩
  · have : p < st.pcOf u := by
      split at hlt
      · next hut => subst hut; omega
      · exact hlt
    obtain ⟨i, y, hy, hyt⟩ := hp u p this
    exact ⟨i, y, getElem?_append_of_getElem? hy _, hyt⟩

end advance

/-! ### one step: the mutexes -/

/-- the bookkeeping of the mutexes: `held` lists every locked mutex once, with its holder, and
    the holders are the threads whose `lock` event has no later `unlock` of theirs. -/
structure HeldInv (held : List (Nat × Nat)) (e : Exec) : Prop where
  uniq : ∀ m t t', (m, t) ∈ held → (m, t') ∈ held → t = t'
  nodup : held.Nodup
  locks : ∀ (i : Nat) (ev : Event) (m : Nat), e[i]? = some ev → ev.act = Act.lock m →
    (m, ev.tid) ∈ held ∨
    ∃ (u : Nat) (c : Event), i < u ∧ e[u]? = some c ∧ c.tid = ev.tid ∧ c.act = Act.unlock m

theorem SInv.heldInv {prog : Prog} {st : SSt} (h : SInv prog st) : HeldInv st.held st.trace :=
  ⟨h.heldUniq, h.heldNodup, h.locks⟩

section held
variable {held held' : List (Nat × Nat)} {e : Exec} (h : HeldInv held e)
include h

/-- `locks` after an event is appended: a holder stays one or the new event is its `unlock`; a
    new `lock` event makes its thread a holder. -/
theorem HeldInv.locks_snoc {ev : Event}
    (hold : ∀ m u, (m, u) ∈ held → (m, u) ∈ held' ∨ (ev.tid = u ∧ ev.act = Act.unlock m))
    (hnew : ∀ m, ev.act = Act.lock m → (m, ev.tid) ∈ held')
    (i : Nat) (x : Event) (m : Nat) (hx : (e ++ [ev])[i]? = some x) (hxa : x.act = Act.lock m) :
    (m, x.tid) ∈ held' ∨ ∃ (u : Nat) (c : Event),
      i < u ∧ (e ++ [ev])[u]? = some c ∧ c.tid = x.tid ∧ c.act = Act.unlock m := by
  rcases getElem?_snoc_cases hx with ⟨h1, hil⟩ | ⟨_, rfl⟩
  · rcases h.locks i x m h1 hxa with hheld | ⟨u, c, hiu, hc, hct⟩
    · rcases hold m x.tid hheld with h' | ⟨ht, ha⟩
      · exact .inl h'
      · exact .inr ⟨e.length, ev, hil, List.getElem?_concat_length, ht, ha⟩
    · exact .inr ⟨u, c, hiu, getElem?_append_of_getElem? hc _, hct⟩
  · exact .inl (hnew m hxa)

theorem HeldInv.snoc {ev : Event} (hev : ∀ m, ev.act ≠ Act.lock m) : HeldInv held (e ++ [ev]) :=
  ⟨h.uniq, h.nodup, h.locks_snoc (fun _ _ hm => .inl hm) fun m ha => absurd ha (hev m)⟩

theorem HeldInv.snoc_lock {m : Nat} (hfree : ∀ u, (m, u) ∉ held) (t pc : Nat) :
    HeldInv ((m, t) :: held) (e ++ [⟨t, pc, .lock m⟩]) := by
  refine ⟨fun m' u u' hu hu' => ?_, List.nodup_cons.mpr ⟨hfree t, h.nodup⟩,
    h.locks_snoc (fun _ _ hm => .inl (List.mem_cons_of_mem _ hm)) fun m' ha => ?_⟩
  · rcases List.mem_cons.mp hu with h1 | h1 <;> rcases List.mem_cons.mp hu' with h2 | h2
    · cases h1; cases h2; rfl
    · cases h1; exact absurd h2 (hfree _)
    · cases h2; exact absurd h1 (hfree _)
    · exact h.uniq m' u u' h1 h2
  · cases ha; exact List.mem_cons_self

theorem HeldInv.snoc_unlock (m t pc : Nat) :
    HeldInv (held.erase (m, t)) (e ++ [⟨t, pc, .unlock m⟩]) := by
  refine ⟨fun m' u u' hu hu' => h.uniq m' u u' (List.mem_of_mem_erase hu) (List.mem_of_mem_erase hu'),
    h.nodup.erase _, h.locks_snoc (fun m' u hm => ?_) fun _ ha => by cases ha⟩
  by_cases heq : (m', u) = (m, t)
  · -- the holder unlocks: the appended event is the unlock asked for
    cases heq; exact .inr ⟨rfl, rfl⟩
  · exact .inl ((List.mem_erase_of_ne heq).mpr hm)

end held

/-! ### the invariant is kept by every step, hence by every schedule -/

theorem sstep_inv (prog : Prog) (st : SSt) (t : Nat) (h : SInv prog st) :
    SInv prog (sstep prog st t) := by
  unfold sstep
  split
  case isFalse => exact h
  case isTrue ht =>
  split
  case h_1 => exact h
  case h_2 a hprog =>
  split
  case isFalse => exact h
  case isTrue hen =>
  -- the step is taken: the event ⟨t, st.pcOf t, a⟩ is appended to the trace
  have hfree : ∀ m, a = Act.lock m → ∀ u, (m, u) ∉ st.held := fun m ha u hu => by
    subst ha
    simp only [senabled, Bool.not_eq_true', List.any_eq_false, beq_iff_eq] at hen
    exact hen _ hu rfl
  suffices hh : HeldInv _ (st.trace ++ [⟨t, st.pcOf t, a⟩]) from
    ⟨h.conf.snoc hprog (fun i x hx hxt => by have := h.below i x hx; rwa [hxt] at this)
      (h.present t),
    h.wf.snoc (fun o ha => ?tok) (fun m ha i x hx hxa => ?free),
    below_advance ht a h.below, present_advance ht a h.present, ?rel, hh.uniq, hh.nodup, hh.locks⟩
  case tok =>
    -- an acquire was enabled: the token has been released
    cases (show a = Act.acq o from ha)
    exact h.rel o (by simpa [senabled] using hen)
  case free =>
    -- a lock was enabled: nobody holds the mutex
    exact (h.locks i x m hx hxa).resolve_left (hfree m ha _)
  case rel =>
    intro o ho
    have before : o ∈ st.released → ∃ (i : Nat) (x : Event),
        (st.trace ++ [⟨t, st.pcOf t, a⟩])[i]? = some x ∧ x.act = Act.rel o := fun ho' =>
      let ⟨i, y, hy, hya⟩ := h.rel o ho'
      ⟨i, y, getElem?_append_of_getElem? hy _, hya⟩
    cases a with
    | rel o' =>
      rcases List.mem_cons.mp ho with rfl | ho'
      · exact ⟨st.trace.length, _, List.getElem?_concat_length, rfl⟩
      · exact before ho'
    | _ => exact before ho
  cases a with
  | lock m => exact h.heldInv.snoc_lock (hfree m rfl) t _
  | unlock m => exact h.heldInv.snoc_unlock m t _
  | _ => exact h.heldInv.snoc nofun

/-- every schedule of the scheduler yields an execution of the skeleton whose synchronisation
    objects behaved. -/
theorem runS_inv (prog : Prog) (n : Nat) (sched : List Nat) : SInv prog (runS prog n sched) :=
  List.foldlRecOn sched (sstep prog) (sinit_inv prog n) fun st h t _ => sstep_inv prog st t h

end Gabi.Conc.HB
