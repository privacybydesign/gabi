/-
  GabiProofs.Sieve — `RandomPrimeInRange` (internal/common/randomprime.go): the candidate
  construction stays inside the requested interval, and the small-prime sieve only discards
  composites.
-/
import GabiModel.MathUtil
import GabiModel.Generated
import GabiProofs.NumLemmas
import Mathlib.Tactic.NormNum
import Mathlib.Tactic.NormNum.Prime
import Mathlib.Data.Nat.Prime.Basic
import Mathlib.Algebra.BigOperators.Group.List.Lemmas

namespace Gabi.Sieve
open Gabi

/-! ## The table -/

theorem smallPrimes_prime : ∀ q ∈ Gen.smallPrimes, q.Prime := by
  simp only [Gen.smallPrimes, List.forall_mem_cons, List.not_mem_nil, false_imp_iff, implies_true,
    and_true]
  norm_num

theorem smallPrimes_le : ∀ q ∈ Gen.smallPrimes, 3 ≤ q ∧ q ≤ 53 := by decide

/-- the constant `SmallPrimesProduct` of randomprime.go is the product of the table `SmallPrimes`. -/
theorem smallPrimes_prod : Gen.smallPrimes.prod = Gen.smallPrimesProduct := by decide

theorem mod_product_mod {q : Nat} (hq : q ∈ Gen.smallPrimes) (p : Nat) :
    p % Gen.smallPrimesProduct % q = p % q := by
  rw [← smallPrimes_prod]
  exact Nat.mod_mod_of_dvd p (List.dvd_prod hq)

/-! ## The sieve -/

/-- The filter of `RandomPrimeInRange` (randomprime.go) tests the residue modulo the table product;
    in terms of the candidate itself: it is rejected iff some table prime `q` divides it, except
    that for `start ≤ 6` the residue `q` itself is let through. -/
theorem candidate_rejected_iff (start p : Nat) :
    randomPrimeCandidateOk Gen.smallPrimes Gen.smallPrimesProduct start p = false ↔
      ∃ q ∈ Gen.smallPrimes, q ∣ p ∧ (6 < start ∨ p % Gen.smallPrimesProduct ≠ q) := by
  unfold randomPrimeCandidateOk
  simp only [Bool.not_eq_false', List.any_eq_true, Bool.and_eq_true, Bool.or_eq_true,
    decide_eq_true_eq, ne_eq, gt_iff_lt]
  constructor
  · rintro ⟨q, hq, h1, h2⟩
    refine ⟨q, hq, ?_, h2⟩
    rw [mod_product_mod hq] at h1
    exact Nat.dvd_of_mod_eq_zero h1
  · rintro ⟨q, hq, h1, h2⟩
    refine ⟨q, hq, ?_, h2⟩
    rw [mod_product_mod hq]
    exact Nat.mod_eq_zero_of_dvd h1

/-- a rejected prime is a table prime `q` itself (the only divisor available), so it is rejected
    either because `start > 6` or because its residue modulo the product is not itself. -/
theorem rejected_prime {start p : Nat}
    (h : randomPrimeCandidateOk Gen.smallPrimes Gen.smallPrimesProduct start p = false)
    (hp : p.Prime) : p ∈ Gen.smallPrimes ∧ (6 < start ∨ p % Gen.smallPrimesProduct ≠ p) := by
  obtain ⟨q, hq, hdvd, hcase⟩ := (candidate_rejected_iff start p).mp h
  obtain rfl : q = p := ((Nat.dvd_prime hp).mp hdvd).resolve_left
    (by have := (smallPrimes_le q hq).1; omega)
  exact ⟨hq, hcase⟩

/-- an accepted candidate has no table-prime divisor `q`, unless `start ≤ 6` and its residue modulo
    the table product is `q` itself. -/
theorem accepted_iff (start p : Nat) :
    randomPrimeCandidateOk Gen.smallPrimes Gen.smallPrimesProduct start p = true ↔
      ∀ q ∈ Gen.smallPrimes, q ∣ p → start ≤ 6 ∧ p % Gen.smallPrimesProduct = q := by
  rw [← Bool.not_eq_false, candidate_rejected_iff]
  constructor
  · intro h q hq hd
    by_contra hcon
    exact h ⟨q, hq, hd, by omega⟩
  · rintro h ⟨q, hq, hd, hc⟩
    have := h q hq hd
    omega

/-! ## The candidate construction of `RandomPrimeInRange`

  A transcription, Go statement beside each definition; the correspondence run checks what
  `RandomPrimeInRange` returns (`randprime-member`), not these definitions. -/

/-- `b := length % 8; if b == 0 { b = 8 }` -/
def maskBits (length : Nat) : Nat := if length % 8 = 0 then 8 else length % 8

/-- `bytes[0] &= uint8(int(1<<b) - 1)` -/
def maskFirst (b : Nat) : List UInt8 → List UInt8
  | [] => []
  | x :: xs => (x &&& (2 ^ b - 1).toUInt8) :: xs

/-- `bytes[len(bytes)-1] |= 1` -/
def setLastOdd : List UInt8 → List UInt8
  | [] => []
  | [x] => [x ||| 1]
  | x :: y :: xs => x :: setLastOdd (y :: xs)

/-- the candidate built from `(length+7)/8` random bytes: `p = 2^start + SetBytes(bytes)`. -/
def candidate (start length : Nat) (bytes : List UInt8) : Nat :=
  2 ^ start + ofBytesBE (setLastOdd (maskFirst (maskBits length) bytes))

/-- the buffer of `(length+7)/8` bytes holds `length` bits: `maskBits length` of them in the first
    byte. -/
theorem maskBits_spec {length n : Nat} (hn : n + 1 = (length + 7) / 8) :
    1 ≤ maskBits length ∧ maskBits length ≤ 8 ∧ length = maskBits length + 8 * n := by
  unfold maskBits
  split <;> omega

theorem toUInt8_mod (n : Nat) : (n % 256).toUInt8 = n.toUInt8 :=
  UInt8.toNat_inj.mp (Nat.mod_mod _ _)

theorem masked_lt (x : UInt8) (b : Nat) : (x &&& (2 ^ b - 1).toUInt8).toNat < 2 ^ b := by
  rw [UInt8.toNat_and, toUInt8_toNat]
  calc x.toNat &&& (2 ^ b - 1) % 256 ≤ (2 ^ b - 1) % 256 := Nat.and_le_right
    _ ≤ 2 ^ b - 1 := Nat.mod_le _ _
    _ < 2 ^ b := Nat.sub_one_lt (Nat.two_pow_pos b).ne'

theorem or_one (n : Nat) : n ||| 1 = 2 * (n / 2) + 1 := by
  have h1 : (n ||| 1) % 2 = 1 := Nat.or_mod_two_eq_one.mpr (Or.inr rfl)
  have h2 : (n ||| 1) / 2 = n / 2 := by rw [Nat.or_div_two]; exact Nat.or_zero _
  omega

theorem setLastOdd_length : ∀ l : List UInt8, (setLastOdd l).length = l.length
  | [] => rfl
  | [_] => rfl
  | _ :: y :: xs => congrArg (· + 1) (setLastOdd_length (y :: xs))

/-- setting the low bit of the last byte makes an even value odd and leaves an odd one alone. -/
theorem ofBytesBE_setLastOdd : ∀ l : List UInt8, l ≠ [] →
    ofBytesBE (setLastOdd l) = 2 * (ofBytesBE l / 2) + 1
  | [], h => absurd rfl h
  | [x], _ => by
    simp only [setLastOdd, ofBytesBE_cons, ofBytesBE_nil, List.length_nil, Nat.pow_zero, Nat.mul_one,
      Nat.add_zero, UInt8.toNat_or]
    exact or_one x.toNat
  | x :: y :: xs, _ => by
    have ih := ofBytesBE_setLastOdd (y :: xs) (List.cons_ne_nil _ _)
    rw [setLastOdd, ofBytesBE_cons, ofBytesBE_cons x, setLastOdd_length, ih, List.length_cons,
      Nat.pow_succ, ← Nat.mul_assoc]
    omega

/-- the candidate lies in `(2^start, 2^start + 2^length)` and is odd (for `start = 0` it is even). -/
theorem candidate_in_range {start length : Nat} {bytes : List UInt8} (hl : 1 ≤ length)
    (hlen : bytes.length = (length + 7) / 8) :
    2 ^ start < candidate start length bytes ∧
      candidate start length bytes < 2 ^ start + 2 ^ length ∧
      (1 ≤ start → candidate start length bytes % 2 = 1) := by
  cases bytes with
  | nil => rw [List.length_nil] at hlen; omega
  | cons x xs =>
    obtain ⟨-, -, hb⟩ := maskBits_spec hlen
    -- the masked first byte is below `2^b`, and `b + 8·(len - 1) = length`
    have hlt := ofBytesBE_cons_lt (masked_lt x (maskBits length)) xs
    rw [two_pow_mul_256_pow, ← hb] at hlt
    have heven := Nat.two_pow_pred_mul_two hl
    rw [candidate, maskFirst, ofBytesBE_setLastOdd _ (List.cons_ne_nil _ xs)]
    refine ⟨by omega, by omega, fun hs => ?_⟩
    have := Nat.two_pow_pred_mul_two hs
    omega

end Gabi.Sieve

#print axioms Gabi.Sieve.accepted_iff
