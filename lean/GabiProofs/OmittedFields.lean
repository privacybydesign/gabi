/-
  GabiProofs.OmittedFields — the fields of a disclosure proof that are not serialised
  (Go tags `json:"-"`: `Nu` and `Challenge` of `revocation.Proof`, `MResponse` of
  `rangeproof.Proof`; and the response "alpha", which the prover does not send) do not influence
  verification: `SetExpected` and `ChallengeContribution` overwrite them before anything reads them.
  This is said with the relations of GabiProofs.GoRel. The file also holds the congruences of
  `ProofD.Verify` and `ProofList.Verify` for related proofs that GabiProofs.ProofPerm uses as well.
-/
import GabiProofs.ListLogic
import GabiProofs.GoRel

namespace Gabi

/-! ## the proof with its omitted fields cleared -/

/-- what is left of a non-revocation proof on the wire. -/
def NonRevProof.strip (nr : NonRevProof) : NonRevProof :=
  { nr with nu := none, challenge := none, responses := nr.responses.filter (·.1 ≠ "alpha") }

/-- what is left of a range proof on the wire. -/
def RangeProof.strip (rp : RangeProof) : RangeProof := { rp with mResponse := none }

def stripRPMap (m : RPMap) : RPMap := m.map (fun kv => (kv.1, kv.2.map (Option.map RangeProof.strip)))

def ProofD.stripRange (p : ProofD) : ProofD := { p with rangeProofs := p.rangeProofs.map stripRPMap }

def ProofD.stripNonrev (p : ProofD) : ProofD := { p with nonrev := p.nonrev.map NonRevProof.strip }

/-- what is left of a disclosure proof on the wire. -/
def ProofD.strip (p : ProofD) : ProofD :=
  { p with nonrev := p.nonrev.map NonRevProof.strip, rangeProofs := p.rangeProofs.map stripRPMap }

theorem ProofD.strip_eq (p : ProofD) : p.strip = p.stripNonrev.stripRange := rfl

/-! ## the non-revocation proof: `SetExpected` overwrites `Nu`, `Challenge` and "alpha" -/

theorem NonRevProof.setExpected_strip (o : SigOracle) (kid : String) (pk : PublicKey) (nr : NonRevProof)
    (c resp : Int) : nr.strip.setExpected o kid pk c resp = nr.setExpected o kid pk c resp := by
  unfold NonRevProof.setExpected NonRevProof.strip
  simp only [List.filter_filter, Bool.and_self]

/-! ## range proofs: `MResponse` is overwritten before it is read -/

theorem RangeProof.extractStructure_strip (rp : RangeProof) (index : Int) (pk : PublicKey) :
    rp.strip.extractStructure index pk = rp.extractStructure index pk := rfl

theorem extractStep_strip (pk : PublicKey) (index : Int) (rp : Option RangeProof) :
    extractStep pk index (rp.map RangeProof.strip) = extractStep pk index rp := by
  cases rp <;> rfl

theorem extractAll_strip (pk : PublicKey) (rps : RPMap) :
    extractAll pk (stripRPMap rps) = extractAll pk rps := by
  unfold extractAll stripRPMap
  simp only [List.mapM_map, Function.comp_def, extractStep_strip]

theorem lookup_stripRPMap (rps : RPMap) (index : Int) :
    (stripRPMap rps).lookup index = (rps.lookup index).map (·.map (Option.map RangeProof.strip)) := by
  unfold stripRPMap
  induction rps with
  | nil => rfl
  | cons kv rest ih =>
    rw [List.map_cons, List.lookup_cons, List.lookup_cons, ih]
    cases index == kv.1 <;> rfl

theorem rangeInner_strip (pk : PublicKey) (c mresp : Int) (s : RangeStructure) (rp : Option RangeProof)
    (st : List Int × List (Option RangeProof)) :
    rangeInner pk c mresp (s, rp.map RangeProof.strip) st = rangeInner pk c mresp (s, rp) st := by
  cases rp <;> rfl

theorem rangeInner_forIn_strip (pk : PublicKey) (c mresp : Int) (ss : List RangeStructure)
    (proofs : List (Option RangeProof)) (init : List Int × List (Option RangeProof)) :
    forIn (ss.zip (proofs.map (Option.map RangeProof.strip))) init (rangeInner pk c mresp) =
      forIn (ss.zip proofs) init (rangeInner pk c mresp) := by
  rw [List.zip_map_right, List.forIn_map]
  congr 1
  funext x st
  exact rangeInner_strip pk c mresp x.1 x.2 st

/-- the loop state of `rangeContributions`: same contributions, same range proofs up to `MResponse`. -/
def RangeStRel (s s' : List Int × RPMap) : Prop := s.1 = s'.1 ∧ stripRPMap s.2 = stripRPMap s'.2

theorem RangeProof.strip_strip (rp : RangeProof) : rp.strip.strip = rp.strip := rfl

theorem stripRPMap_idem (m : RPMap) : stripRPMap (stripRPMap m) = stripRPMap m := by
  unfold stripRPMap
  simp only [List.map_map, Option.map_map, Function.comp_def, RangeProof.strip_strip]

theorem stripRPMap_update (m m' : RPMap) (h : stripRPMap m = stripRPMap m') (index : Int)
    (new : List (Option RangeProof)) :
    stripRPMap (m.map (fun kv => if kv.1 = index then (kv.1, new) else kv)) =
      stripRPMap (m'.map (fun kv => if kv.1 = index then (kv.1, new) else kv)) := by
  have key : ∀ m : RPMap, stripRPMap (m.map (fun kv => if kv.1 = index then (kv.1, new) else kv)) =
      (stripRPMap m).map (fun kv => if kv.1 = index then (kv.1, new.map (Option.map RangeProof.strip)) else kv) := by
    intro m
    unfold stripRPMap
    rw [List.map_map, List.map_map]
    apply List.map_congr_left
    intro kv _
    simp only [Function.comp]
    split <;> rfl
  rw [key, key, h]

theorem rangeOuter_strip (pk : PublicKey) (p : ProofD) (c : Int)
    (structs : List (Int × List RangeStructure)) (rps : RPMap) (index : Int) (st st' : List Int × RPMap)
    (hst : RangeStRel st' st) :
    GoE.Rel (StepRel RangeStRel) (rangeOuter pk p.stripRange c structs (stripRPMap rps) index st')
      (rangeOuter pk p c structs rps index st) := by
  unfold rangeOuter
  rw [lookup_stripRPMap]
  cases structs.lookup index with
  | none => exact GoE.Rel.pure hst
  | some ss =>
    cases rps.lookup index with
    | none => exact GoE.Rel.pure hst
    | some proofs =>
      simp only [Option.map_some]
      apply GoE.Rel.bind_same
      intro mresp
      rw [rangeInner_forIn_strip, hst.1]
      apply GoE.Rel.bind_same
      intro st1
      exact GoE.Rel.pure ⟨rfl, stripRPMap_update _ _ hst.2 _ _⟩

theorem ProofD.rangeContributions_stripRange (pk : PublicKey) (p : ProofD) (c : Int) :
    GoE.Rel (fun r r' => r.1 = r'.1 ∧ r.2.map stripRPMap = r'.2.map stripRPMap)
      (p.stripRange.rangeContributions pk c) (p.rangeContributions pk c) := by
  rw [ProofD.rangeContributions_eq, ProofD.rangeContributions_eq]
  cases hrp : p.rangeProofs with
  | none =>
    have : p.stripRange.rangeProofs = none := by simp [ProofD.stripRange, hrp]
    rw [this]
    exact GoE.Rel.pure ⟨rfl, rfl⟩
  | some rps =>
    have : p.stripRange.rangeProofs = some (stripRPMap rps) := by simp [ProofD.stripRange, hrp]
    rw [this]
    simp only []
    rw [extractAll_strip]
    apply GoE.Rel.bind_same
    intro structs
    have hidx : p.stripRange.rangeIndices = p.rangeIndices := rfl
    rw [hidx]
    apply GoE.Rel.bind (Q := RangeStRel)
    · apply forIn_rel GoE.Rel GoE.Rel.pure GoE.Rel.bind (Q := Eq) (List.forall₂_eq_eq_eq ▸ rfl)
      · intro a a' haa' s s' hss'
        subst haa'
        exact rangeOuter_strip pk p c structs rps a s' s hss'
      · exact ⟨rfl, stripRPMap_idem rps⟩
    · intro st st' hst
      exact GoE.Rel.pure ⟨hst.1, by simp [hst.2]⟩

theorem ProofD.wellFormed_stripRange (pk : PublicKey) (p : ProofD) :
    p.stripRange.wellFormed pk = p.wellFormed pk := by
  unfold ProofD.wellFormed ProofD.stripRange
  cases p.rangeProofs with
  | none => rfl
  | some rps =>
    simp only [Option.map_some, Option.getD_some, stripRPMap, List.all_map]
    congr 1
    congr 1
    funext kv
    have : ((fun x : Option RangeProof => x.isSome) ∘ Option.map RangeProof.strip) = fun x => x.isSome := by
      funext x; cases x <;> rfl
    simp [List.all_map, this]

theorem ProofD.wellFormed_strip (pk : PublicKey) (p : ProofD) :
    p.strip.wellFormed pk = p.wellFormed pk := by
  rw [ProofD.strip_eq, ProofD.wellFormed_stripRange]
  rfl

theorem ProofD.verifyWithChallenge_stripRange (o : SigOracle) (kid : String) (pk : PublicKey) (p : ProofD)
    (i c' : Int) :
    p.stripRange.verifyWithChallenge o kid pk i c' = p.verifyWithChallenge o kid pk i c' := by
  unfold ProofD.verifyWithChallenge
  rw [ProofD.wellFormed_stripRange]
  rfl

/-! ## `ProofD.Verify` of the stripped proof -/

/-- `ChallengeContribution` of the stripped proof: same contributions, same proof up to `MResponse`. -/
theorem ProofD.challengeContribution_strip (o : SigOracle) (kid : String) (pk : PublicKey) (p : ProofD)
    (i : Int) :
    GoE.Rel (fun r r' => r.1 = r'.1 ∧ r.2.stripRange = r'.2.stripRange)
      (p.strip.challengeContribution o kid pk i) (p.challengeContribution o kid pk i) := by
  unfold ProofD.challengeContribution
  simp only []
  rw [ProofD.wellFormed_strip]
  by_cases hw : p.wellFormed pk = true
  · simp only [hw, Bool.not_true, Bool.false_eq_true, if_false]
    have hz : ProofD.reconstructZ pk p.strip = ProofD.reconstructZ pk p := rfl
    rw [hz]
    apply GoE.Rel.bind_same; intro z
    apply GoE.Rel.bind_same; intro a
    apply GoE.Rel.bind_same; intro c
    have hnrs : p.strip.nonrev = p.nonrev.map NonRevProof.strip := rfl
    rw [hnrs]
    cases hnr : p.nonrev with
    | none =>
      have hps : p.strip = p.stripRange := by
        unfold ProofD.strip ProofD.stripRange; rw [hnr]; rfl
      simp only [Option.map_none]
      rw [hps]
      apply GoE.Rel.bind (ProofD.rangeContributions_stripRange pk p c)
      intro r r' hr
      apply GoE.Rel.pure
      refine ⟨by rw [hr.1], ?_⟩
      simp only [ProofD.stripRange, hr.2, hnr]
    | some nr =>
      simp only [Option.map_some]
      apply GoE.Rel.bind_same; intro resp
      rw [NonRevProof.setExpected_strip]
      cases nr.setExpected o kid pk c resp with
      | none => exact GoE.Rel.failure_bind _ _
      | some nr' =>
        simp only []
        apply GoE.Rel.bind_same; intro contrib
        apply GoE.Rel.bind (ProofD.rangeContributions_stripRange pk { p with nonrev := some nr' } c)
        intro r r' hr
        apply GoE.Rel.pure
        refine ⟨by rw [hr.1], ?_⟩
        simp only [ProofD.stripRange, hr.2]
        rfl
  · simp only [hw, Bool.not_false, if_true]
    exact GoE.Rel.failure_bind _ _

/-- `ProofD.Verify` gives the same verdict (the same panic, if any) on two proofs whose
    `ChallengeContribution`s agree up to a relation `R` on the proofs handed back, when `R`-related
    proofs pass `VerifyWithChallenge` alike. -/
theorem ProofD.verifyWith_congr (o : SigOracle) (kid : String) (pk : PublicKey) {p q : ProofD}
    {R : ProofD → ProofD → Prop} (i1 i2 : Int)
    (hc : GoE.Rel (fun r r' => r.1 = r'.1 ∧ R r.2 r'.2) (p.challengeContribution o kid pk i1)
      (q.challengeContribution o kid pk i1))
    (hv : ∀ p' q', R p' q' → p'.verifyWithChallenge o kid pk i2 = q'.verifyWithChallenge o kid pk i2)
    (ctx nonce : Int) (issig : Bool) :
    p.verifyWith o kid pk ctx nonce issig i1 i2 = q.verifyWith o kid pk ctx nonce issig i1 i2 := by
  unfold ProofD.verifyWith
  rcases GoE.Rel.iff_cases.mp hc with ⟨e, hp, hq⟩ | ⟨hp, hq⟩ | ⟨⟨l, p'⟩, ⟨l', q'⟩, hp, hq, hl, hR⟩
  · rw [hp, hq]
  · rw [hp, hq]
  · cases hl
    rw [hp, hq]
    show (do let r ← p'.verifyWithChallenge o kid pk i2 _; pure r.1) =
      (do let r ← q'.verifyWithChallenge o kid pk i2 _; pure r.1)
    rw [hv p' q' hR]

/-- whatever the omitted fields hold, the verdict (including a panic, if any) is the one of the
    proof with these fields cleared. -/
theorem ProofD.omitted_fields_restored (o : SigOracle) (kid : String) (pk : PublicKey) (p : ProofD)
    (ctx nonce : Int) (issig : Bool) (i1 i2 : Int) :
    p.strip.verifyWith o kid pk ctx nonce issig i1 i2 = p.verifyWith o kid pk ctx nonce issig i1 i2 := by
  refine ProofD.verifyWith_congr o kid pk (R := fun a b => a.stripRange = b.stripRange) i1 i2
    (ProofD.challengeContribution_strip o kid pk p i1) ?_ ctx nonce issig
  intro p' q' h
  funext c
  rw [← ProofD.verifyWithChallenge_stripRange o kid pk p', h, ProofD.verifyWithChallenge_stripRange]

theorem ProofD.revChoices_strip (p : ProofD) : p.strip.revChoices = p.revChoices := by
  unfold ProofD.revChoices
  have h1 : p.strip.nonrev = p.nonrev.map NonRevProof.strip := rfl
  have h2 : p.strip.revocationCandidates = p.revocationCandidates := rfl
  rw [h1, h2]
  cases p.nonrev <;> rfl

/-! ## `ProofList.Verify` on lists of related proofs -/

def Proof.strip : Proof → Proof
  | .d p => .d p.strip
  | .u p => .u p

/-- two members of proof lists: of the same kind, and related as proofs of that kind. -/
def Proof.Rel (RD : ProofD → ProofD → Prop) (RU : ProofU → ProofU → Prop) : Proof → Proof → Prop
  | .d p, .d q => RD p q
  | .u p, .u q => RU p q
  | _, _ => False

theorem Proof.Rel.cases {RD : ProofD → ProofD → Prop} {RU : ProofU → ProofU → Prop} {x y : Proof}
    (h : Proof.Rel RD RU x y) :
    (∃ p q, x = .d p ∧ y = .d q ∧ RD p q) ∨ ∃ p q, x = .u p ∧ y = .u q ∧ RU p q := by
  cases x with
  | d p => cases y with
    | d q => exact .inl ⟨p, q, rfl, rfl, h⟩
    | u q => exact absurd h id
  | u p => cases y with
    | d q => exact absurd h id
    | u q => exact .inr ⟨p, q, rfl, rfl, h⟩

/-- two loop items of `ProofList.Verify`: related proofs, same key, same picks. -/
def PLItem.Rel (R : Proof → Proof → Prop) (x x' : PLItem) : Prop :=
  (R x.1.1 x'.1.1 ∧ x.1.2 = x'.1.2) ∧ x.2 = x'.2

theorem plItems_rel {R : Proof → Proof → Prop} {pl pl' : List Proof} (h : List.Forall₂ R pl pl')
    (keys : List (String × PublicKey)) (choices : List (Int × Int)) :
    List.Forall₂ (PLItem.Rel R) (plItems pl keys choices) (plItems pl' keys choices) :=
  forall₂_zip_right (forall₂_zip_right h keys) choices

/-- the state of the first loop of `ProofList.Verify`: same verdict and contributions so far,
    related updated proofs. -/
def ContribStRel (R : Proof → Proof → Prop) (s s' : Option Bool × List Int × List Proof) : Prop :=
  s.1 = s'.1 ∧ s.2.1 = s'.2.1 ∧ List.Forall₂ R s.2.2 s'.2.2

theorem contribOne_rel (o : SigOracle) {RD0 RD1 : ProofD → ProofD → Prop} {RU : ProofU → ProofU → Prop}
    (hcD : ∀ kid pk i p q, RD0 p q → GoE.Rel (fun r r' => r.1 = r'.1 ∧ RD1 r.2 r'.2)
      (p.challengeContribution o kid pk i) (q.challengeContribution o kid pk i))
    (hcU : ∀ pk p q, RU p q → p.challengeContribution pk = q.challengeContribution pk)
    {x x' : PLItem} (hx : PLItem.Rel (Proof.Rel RD0 RU) x x') :
    GoM.Rel (OptRel fun r r' => r.1 = r'.1 ∧ Proof.Rel RD1 RU r.2 r'.2) (contribOne o x) (contribOne o x') := by
  obtain ⟨⟨pr, kid, pk⟩, ch⟩ := x
  obtain ⟨⟨pr', kid', pk'⟩, ch'⟩ := x'
  obtain ⟨⟨h1, ⟨⟩⟩, ⟨⟩⟩ := hx
  rcases h1.cases with ⟨p, q, rfl, rfl, hpq⟩ | ⟨p, q, rfl, rfl, hpq⟩
  · rw [contribOne, contribOne]
    apply GoM.Rel.bind (hcD kid pk ch.1 p q hpq).run
    intro r r' hr
    rcases hr.cases with ⟨rfl, rfl⟩ | ⟨⟨c, p1⟩, ⟨c', q1⟩, rfl, rfl, hc, hq⟩
    · exact GoM.Rel.pure trivial
    · exact GoM.Rel.pure ⟨hc, hq⟩
  · rw [contribOne, contribOne, hcU pk p q hpq]
    apply GoM.Rel.bind (GoM.Rel.refl (R := Eq) (fun _ => rfl) _)
    rintro r r' rfl
    cases r with
    | none => exact GoM.Rel.pure trivial
    | some c => exact GoM.Rel.pure ⟨rfl, hpq⟩

theorem body1_rel {o : SigOracle} {R : Proof → Proof → Prop} {x x' : PLItem}
    (hx : GoM.Rel (OptRel fun r r' => r.1 = r'.1 ∧ R r.2 r'.2) (contribOne o x) (contribOne o x'))
    {s s' : Option Bool × List Int × List Proof} (hs : ContribStRel R s s') :
    GoM.Rel (StepRel (ContribStRel R)) (body1 o x s) (body1 o x' s') := by
  unfold body1
  apply GoM.Rel.bind hx
  intro r r' hr
  rcases hr.cases with ⟨rfl, rfl⟩ | ⟨⟨c, q⟩, ⟨c', q'⟩, rfl, rfl, (hc : c = c'), (hq : R q q')⟩
  · exact GoM.Rel.pure ⟨rfl, hs.2.1, hs.2.2⟩
  · exact GoM.Rel.pure ⟨rfl, congrArg₂ (· ++ ·) hs.2.1 hc, List.rel_append hs.2.2 (.cons hq .nil)⟩

theorem verifyOne_rel (o : SigOracle) {RD1 : ProofD → ProofD → Prop} {RU : ProofU → ProofU → Prop}
    (hvD : ∀ kid pk i p q, RD1 p q →
      p.verifyWithChallenge o kid pk i = q.verifyWithChallenge o kid pk i ∧ p.aResponses.get 0 = q.aResponses.get 0)
    (hvU : ∀ pk p q, RU p q → p.verifyWithChallenge pk = q.verifyWithChallenge pk ∧ p.sResponse = q.sResponse)
    (e : Nat) {x x' : PLItem} (hx : PLItem.Rel (Proof.Rel RD1 RU) x x') :
    verifyOne o e x = verifyOne o e x' ∧ x.1.1.secretKeyResponse = x'.1.1.secretKeyResponse := by
  obtain ⟨⟨pr, kid, pk⟩, ch⟩ := x
  obtain ⟨⟨pr', kid', pk'⟩, ch'⟩ := x'
  obtain ⟨⟨h1, ⟨⟩⟩, ⟨⟩⟩ := hx
  rcases h1.cases with ⟨p, q, rfl, rfl, hpq⟩ | ⟨p, q, rfl, rfl, hpq⟩
  · obtain ⟨e1, e2⟩ := hvD kid pk ch.2 p q hpq
    exact ⟨by rw [verifyOne, verifyOne, e1], e2⟩
  · obtain ⟨e1, e2⟩ := hvU pk p q hpq
    exact ⟨by rw [verifyOne, verifyOne, e1], e2⟩

/-- `ProofList.Verify` gives the same verdict on two lists whose members are related kind by
    kind, provided related members contribute alike to the challenge (`RD0` becoming `RD1` on the
    proofs `ChallengeContribution` hands back) and then verify alike. -/
theorem proofListVerifyWith_congr (o : SigOracle) (keys : List (String × PublicKey))
    {RD0 RD1 : ProofD → ProofD → Prop} {RU : ProofU → ProofU → Prop}
    (hcD : ∀ kid pk i p q, RD0 p q → GoE.Rel (fun r r' => r.1 = r'.1 ∧ RD1 r.2 r'.2)
      (p.challengeContribution o kid pk i) (q.challengeContribution o kid pk i))
    (hcU : ∀ pk p q, RU p q → p.challengeContribution pk = q.challengeContribution pk)
    (hvD : ∀ kid pk i p q, RD1 p q →
      p.verifyWithChallenge o kid pk i = q.verifyWithChallenge o kid pk i ∧ p.aResponses.get 0 = q.aResponses.get 0)
    (hvU : ∀ pk p q, RU p q → p.verifyWithChallenge pk = q.verifyWithChallenge pk ∧ p.sResponse = q.sResponse)
    {pl pl' : List Proof} (h : List.Forall₂ (Proof.Rel RD0 RU) pl pl') (ctx nonce : Int) (issig : Bool)
    (kss : List String) (choices : List (Int × Int)) :
    proofListVerifyWith o keys pl ctx nonce issig kss choices =
      proofListVerifyWith o keys pl' ctx nonce issig kss choices := by
  rw [proofListVerifyWith_eq, proofListVerifyWith_eq]
  refine if_congr (listGuard_congr h.length_eq) (GoM.Rel.eq ?_) rfl
  apply GoM.Rel.bind (Q := ContribStRel (Proof.Rel RD1 RU))
    (forIn_rel GoM.Rel GoM.Rel.pure GoM.Rel.bind (plItems_rel h keys choices)
      (fun x x' hx s s' hs => body1_rel (contribOne_rel o hcD hcU hx) hs) ⟨rfl, rfl, .nil⟩)
  rintro ⟨r1, l1, u1⟩ ⟨r1', l1', u1'⟩ ⟨h1, h2, h3⟩
  simp only [] at h1 h2 h3
  subst h1 h2
  cases r1 with
  | some r => exact GoM.Rel.pure rfl
  | none =>
    -- the second loop runs over related proofs with bodies that are equal on them
    have hloop : ∀ e, forIn (plItems u1 keys choices) (none, [], 0) (body2 o kss e) =
        forIn (plItems u1' keys choices) (none, [], 0) (body2 o kss e) := by
      intro e
      apply GoM.Rel.eq
      apply forIn_rel GoM.Rel GoM.Rel.pure GoM.Rel.bind (R := Eq) (plItems_rel h3 keys choices) ?_ rfl
      rintro x x' hx s s' rfl
      obtain ⟨hv, hr⟩ := verifyOne_rel o hvD hvU e hx
      rw [body2_congr hv hr]
      exact GoM.Rel.refl (StepRel.refl fun _ => rfl) _
    simp only []
    rw [hloop]
    exact GoM.Rel.refl (fun _ => rfl) _

theorem proofList_verify_strip (o : SigOracle) (keys : List (String × PublicKey)) (pl : List Proof)
    (ctx nonce : Int) (issig : Bool) (kss : List String) (choices : List (Int × Int)) :
    proofListVerifyWith o keys (pl.map Proof.strip) ctx nonce issig kss choices =
      proofListVerifyWith o keys pl ctx nonce issig kss choices := by
  refine proofListVerifyWith_congr o keys (RD0 := fun p q => p = q.strip)
    (RD1 := fun p q => p.stripRange = q.stripRange) (RU := Eq) ?_ ?_ ?_ ?_
    (List.forall₂_map_left_iff.mpr (List.forall₂_same.mpr fun pr _ => by cases pr <;> exact rfl))
    ctx nonce issig kss choices
  · rintro kid pk i p q rfl
    exact ProofD.challengeContribution_strip o kid pk q i
  · rintro pk p q rfl
    rfl
  · intro kid pk i p q h
    refine ⟨funext fun c => ?_, congrArg (·.aResponses.get 0) h⟩
    rw [← ProofD.verifyWithChallenge_stripRange o kid pk p, h, ProofD.verifyWithChallenge_stripRange]
  · rintro pk p q rfl
    exact ⟨rfl, rfl⟩

end Gabi
