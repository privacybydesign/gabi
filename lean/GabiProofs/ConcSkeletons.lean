/-
  GabiProofs.ConcSkeletons — the discipline side conditions of `forkJoin_race_free` for the
  fork–join skeletons of GabiModel.Conc.HB, race freedom of the two-thread hand-over skeleton
  `builderHandoff`, and three concrete racy executions. GabiProps.C20 shows that these conform to
  the skeletons of code before a repair (`cacheFieldOld`, `randomizerOld`), of a mutant
  (`cprngPlain`) and of an object shared too early (`saccFresh`).
-/
import GabiProofs.ConcHB
namespace Gabi.Conc.HB

theorem cacheFieldFixedBody_tokfree (v : Nat) : ∀ a ∈ cacheFieldFixedBody v, a.isTok = false :=
  match v with
  | 0 | 1 => by decide
  | _ + 2 => show ∀ a ∈ [Act.lock 0, .rd 0, .wr 0, .rd 0, .unlock 0], _ from by decide

/-- every access of `cacheFieldFixedBody` to the field is inside the critical section of
    `nonrevCacheLock` (credential.go nonrevCacheChan, /repo since commit 2f7b61e). -/
theorem cacheFieldFixedBody_prot (v p : Nat) (a b : Act)
    (h : (cacheFieldFixedBody v)[p]? = some a) (hc : conflict a b = true) :
    Prot (cacheFieldFixedBody v) 0 p :=
  match v with
  | 0 | 1 => prot_section (cs := [.rd 0, .rd 0]) (by decide) h hc
  | _ + 2 => prot_section (cs := [.rd 0, .wr 0, .rd 0]) (by decide) h hc

theorem mem_of_getElem?' {l : List Act} {p : Nat} {a : Act} (h : l[p]? = some a) : a ∈ l :=
  List.mem_of_getElem? h

/-- the actions of a generator user: atomic adds on the counter and reads of the cipher. -/
theorem cprngBody_mem (k : Nat) : ∀ a ∈ cprngBody k, a = Act.rmw 0 ∨ a = Act.rd 1 := by
  intro a ha
  obtain ⟨l, hl, hal⟩ := List.mem_flatten.mp ha
  cases (List.mem_replicate.mp hl).2
  simpa using hal

theorem cprngBody_tokfree (k : Nat) : ∀ a ∈ cprngBody k, a.isTok = false := by
  intro a ha
  rcases cprngBody_mem k a ha with rfl | rfl <;> rfl

theorem cprngBody_no_conflict (k k' : Nat) :
    ∀ a ∈ cprngBody k, ∀ b ∈ cprngBody k', conflict a b = false := by
  intro a ha b hb
  rcases cprngBody_mem k a ha with rfl | rfl <;> rcases cprngBody_mem k' b hb with rfl | rfl <;> rfl

/-- the actions of an exp-proof worker: atomic adds on todoOffset, reads of the todo slice,
    writes of the slots of its own closures. -/
theorem expWorkerBody_mem (ks : List Nat) :
    ∀ a ∈ expWorkerBody ks, a = Act.rmw 0 ∨ a = Act.rd 1 ∨ ∃ k ∈ ks, a = Act.wr (2 + k) := by
  intro a ha
  rcases List.mem_append.mp ha with ha | ha
  · obtain ⟨l, hl, hal⟩ := List.mem_flatten.mp ha
    obtain ⟨k, hk, rfl⟩ := List.mem_map.mp hl
    simp only [List.mem_cons, List.not_mem_nil, or_false] at hal
    exact hal.imp_right (Or.imp_right fun h => ⟨k, hk, h⟩)
  · exact .inl (List.mem_singleton.mp ha)

theorem expWorkerBody_tokfree (ks : List Nat) : ∀ a ∈ expWorkerBody ks, a.isTok = false := by
  intro a ha
  rcases expWorkerBody_mem ks a ha with rfl | rfl | ⟨k, _, rfl⟩ <;> rfl

theorem expMainPre_tokfree (nTodo : Nat) : ∀ a ∈ expMainPre nTodo, a.isTok = false :=
  List.forall_mem_append.mpr ⟨by decide, List.forall_mem_map.mpr fun _ _ => rfl⟩

theorem expMainPost_tokfree (nTodo : Nat) : ∀ a ∈ expMainPost nTodo, a.isTok = false :=
  List.forall_mem_map.mpr fun _ _ => rfl

/-- workers owning disjoint closure sets have no conflicting accesses at all: they only share
    the atomic counter and the read-only todo slice. -/
theorem expWorkerBody_no_conflict (ks ks' : List Nat) (hd : ∀ k ∈ ks, k ∉ ks') :
    ∀ a ∈ expWorkerBody ks, ∀ b ∈ expWorkerBody ks', conflict a b = false := by
  intro a ha b hb
  -- a slot 2 + k is neither location 0 nor 1, and two slots belong to different closures
  rcases expWorkerBody_mem ks a ha with rfl | rfl | ⟨k, hk, rfl⟩
  · rcases expWorkerBody_mem ks' b hb with rfl | rfl | ⟨k', _, rfl⟩
    · rfl
    · rfl
    · exact beq_false_of_ne (by omega)
  · rcases expWorkerBody_mem ks' b hb with rfl | rfl | ⟨k', _, rfl⟩
    · rfl
    · rfl
    · exact beq_false_of_ne (by omega)
  · rcases expWorkerBody_mem ks' b hb with rfl | rfl | ⟨k', hk', rfl⟩
    · exact beq_false_of_ne (by omega)
    · exact beq_false_of_ne (by omega)
    · exact beq_false_of_ne fun h => hd k hk (by rwa [show k = k' by omega])

/-! ### hand-over of a builder through the channel -/

theorem builderHandoff_access {t p : Nat} {a : Act} (h : (builderHandoff t)[p]? = some a)
    (ht : a.isTok = false) : (t = 1 ∧ p = 1) ∨ (t = 2 ∧ 2 ≤ p) :=
  match t, p with
  | 0, 0 | 0, 1 | 1, 0 | 1, 2 | 2, 0 | 2, 1 => by cases Option.some.inj h; cases ht
  | 1, 1 => .inl ⟨rfl, rfl⟩
  | 2, _ + 2 => .inr ⟨rfl, by omega⟩
  | 0, _ + 2 | 1, _ + 3 | _ + 3, _ => by cases h

theorem builderHandoff_rel {t p : Nat} (h : (builderHandoff t)[p]? = some (Act.rel 1000)) :
    t = 1 ∧ p = 2 :=
  match t, p with
  | 1, 2 => ⟨rfl, rfl⟩
  | 0, 0 | 0, 1 => by simp [builderHandoff, spawnTok] at h
  | 1, 0 | 1, 1 | 2, 0 | 2, 1 | 2, 2 | 2, 3 => by cases Option.some.inj h
  | 0, _ + 2 | 1, _ + 3 | 2, _ + 4 | _ + 3, _ => by cases h

/-- the preparer's write to the builder happens before everything the receiver does with it:
    they are ordered through the message token. -/
theorem builderHandoff_race_free (e : Exec) (hc : Conforms builderHandoff e) (hw : WF e) :
    RaceFree e := by
  have ord : ∀ q, 2 ≤ q → TokOrd builderHandoff 1 1 2 q := fun q hq =>
    ⟨1000, 2, 1, fun _ _ => builderHandoff_rel, by omega, rfl, by omega⟩
  refine raceFree_of_discipline (fun t u p q a b htu ha hb hcf => .inr ?_) hc hw
  obtain ⟨hat, hbt⟩ := conflict_not_tok hcf
  rcases builderHandoff_access ha hat with ⟨rfl, rfl⟩ | ⟨rfl, hp⟩ <;>
    rcases builderHandoff_access hb hbt with ⟨rfl, rfl⟩ | ⟨rfl, hq⟩
  · exact absurd rfl htu
  · exact .inl (ord q hq)
  · exact .inr (ord p hp)
  · exact absurd rfl htu

/-! ### racy executions -/

/-- main creates the object and starts two users; user 1 checks and writes, user 2 reads.
    One execution serves three skeletons: `cacheFieldOld` with two first-time preparers or with a
    preparer and a consumer, and `saccFresh`; it is a proper prefix of their complete runs. -/
def racyExec : Exec :=
  [⟨0, 0, .wr 0⟩, ⟨0, 1, .rel (spawnTok 1)⟩, ⟨0, 2, .rel (spawnTok 2)⟩,
   ⟨1, 0, .acq (spawnTok 1)⟩, ⟨1, 1, .rd 0⟩, ⟨1, 2, .wr 0⟩,
   ⟨2, 0, .acq (spawnTok 2)⟩, ⟨2, 1, .rd 0⟩]

theorem racyExec_wf : WF racyExec := wf_of_wfB (by decide)

/-- the write at position 5 and the read at position 7 are not ordered. -/
theorem racyExec_not_raceFree : ¬ RaceFree racyExec :=
  not_raceFree_of_isolated (i := 5) (j := 7) (by omega) rfl rfl rfl (by decide)

/-- both users write first (gabi#63: `witn.randomizer = randomizer` on the shared witness). -/
def racyExecWW : Exec :=
  [⟨0, 0, .wr 0⟩, ⟨0, 1, .rel (spawnTok 1)⟩, ⟨0, 2, .rel (spawnTok 2)⟩,
   ⟨1, 0, .acq (spawnTok 1)⟩, ⟨1, 1, .wr 0⟩,
   ⟨2, 0, .acq (spawnTok 2)⟩, ⟨2, 1, .wr 0⟩]

theorem racyExecWW_wf : WF racyExecWW := wf_of_wfB (by decide)

theorem racyExecWW_not_raceFree : ¬ RaceFree racyExecWW :=
  not_raceFree_of_isolated (i := 4) (j := 6) (by omega) rfl rfl rfl (by decide)

/-- mutant generator: plain `counter += n` by two users. -/
def racyExecCprng : Exec :=
  [⟨0, 0, .wr 0⟩, ⟨0, 1, .wr 1⟩, ⟨0, 2, .rel (spawnTok 1)⟩, ⟨0, 3, .rel (spawnTok 2)⟩,
   ⟨1, 0, .acq (spawnTok 1)⟩, ⟨1, 1, .rd 0⟩, ⟨1, 2, .wr 0⟩,
   ⟨2, 0, .acq (spawnTok 2)⟩, ⟨2, 1, .rd 0⟩]

theorem racyExecCprng_wf : WF racyExecCprng := wf_of_wfB (by decide)

theorem racyExecCprng_not_raceFree : ¬ RaceFree racyExecCprng :=
  not_raceFree_of_isolated (i := 6) (j := 8) (by omega) rfl rfl rfl (by decide)

end Gabi.Conc.HB
