/-
  GabiProofs.ConcCprng — lemmas about GabiModel.Conc.Cprng (CPRNG.Read):
  * arithmetic of `nBlocks`, `atomicAdd` without uint64 wrap, the encrypt loop (`loop_blocks`,
    `loop_bytes`);
  * coarse model: `run` = closed form `runSpec` (contiguous, pairwise disjoint reservations);
  * fine model: every counter block has at most one owner, a log entry or the running call that
    reserved it (`Inv`); each step of each caller keeps this (`Inv_update`, `Inv_step`), giving
    `exec_log_nodup` / `exec_log_owner` / `exec_log_range` for all schedules.
-/
import GabiModel.Conc.Cprng
import GabiProofs.ConcLists
-- not for `ring`: with Mathlib's algebra in scope `List.sum` on `Nat` takes its `Zero Nat` from
-- there, and GabiProps.C20 states its theorems in such a scope
import Mathlib.Tactic.Ring
import Mathlib.Data.List.Nodup

namespace Gabi.Conc.Cprng

/-! ### arithmetic of `nBlocks`, `atomicAdd` -/

theorem W_pos : 0 < W := Nat.two_pow_pos 64

/-- blocks requested cover the requested bytes, with less than one block of slack -/
theorem nBlocks_covers (len : Nat) (h : 0 < len) :
    16 * (nBlocks len - 1) < len ∧ len ≤ 16 * nBlocks len := by
  unfold nBlocks; omega

theorem nBlocks_pos (len : Nat) : 0 < nBlocks len := by unfold nBlocks; omega

theorem nBlocks_step (len : Nat) (h : 16 < len) : nBlocks len = nBlocks (len - 16) + 1 := by
  unfold nBlocks; omega

theorem nBlocks_le16 (len : Nat) (h : len ≤ 16) : nBlocks len = 1 := by
  unfold nBlocks; omega

theorem atomicAdd_noWrap (c n : Nat) (h : c + n < W) : atomicAdd c n = (c + n, c) := by
  have hn : n < W := by omega
  have hc : c < W := by omega
  unfold atomicAdd
  simp only [Nat.mod_eq_of_lt h, Nat.mod_eq_of_lt hn]
  have e : c + n + W - n = c + W := by omega
  rw [e, Nat.add_mod_right, Nat.mod_eq_of_lt hc]

/-! ### the encrypt loop -/

/-- the encrypt loop of a read uses exactly the blocks iv, iv+1, …, iv+nBlocks-1 -/
theorem loop_blocks (iv len : Nat) (hl : 0 < len) (h : iv + nBlocks len ≤ W) :
    (loop iv len).map (·.1) = List.range' iv (nBlocks len) := by
  induction len using Nat.strongRecOn generalizing iv with
  | _ len ih =>
    rw [loop]
    split
    · next hge =>
      rcases Nat.eq_or_lt_of_le hge with heq | hlt
      · subst heq
        rw [loop]
        simp [nBlocks_le16]
      · have hs := nBlocks_step len hlt
        have hiv : (iv + 1) % W = iv + 1 :=
          Nat.mod_eq_of_lt (by have := nBlocks_pos (len - 16); omega)
        rw [hiv, List.map_cons, ih (len - 16) (by omega) (iv + 1) (by omega) (by omega), hs]
        simp [List.range'_succ]
    · next hlt =>
      have hne : len ≠ 0 := by omega
      simp [hne, nBlocks_le16 len (by omega)]

/-- the encrypt loop fills exactly len bytes, at most 16 from each block -/
theorem loop_bytes (iv len : Nat) :
    ((loop iv len).map (·.2)).sum = len ∧ ∀ x ∈ loop iv len, 0 < x.2 ∧ x.2 ≤ 16 := by
  induction len using Nat.strongRecOn generalizing iv with
  | _ len ih =>
    rw [loop]
    split
    · next hge =>
      obtain ⟨h1, h2⟩ := ih (len - 16) (by omega) ((iv + 1) % W)
      refine ⟨?_, ?_⟩
      · simp only [List.map_cons, List.sum_cons, h1]; omega
      · intro x hx
        rcases List.mem_cons.1 hx with rfl | hx
        · simp
        · exact h2 x hx
    · next hlt =>
      split
      · next h0 => subst h0; simp
      · next hne =>
        refine ⟨by simp, ?_⟩
        intro x hx
        rcases List.mem_singleton.1 hx with rfl
        simp only; omega

/-! ### coarse model -/

/-- blocks requested by one read (empty reads request none) -/
def blk (l : Nat) : Nat := if l = 0 then 0 else nBlocks l

/-- total number of blocks requested by a list of reads: the sum of their `blk` (`total_cons`) -/
def total (lens : List Nat) : Nat := (lens.map (fun l => if l = 0 then 0 else nBlocks l)).sum

theorem total_nil : total [] = 0 := rfl

theorem total_cons (l : Nat) (rest : List Nat) : total (l :: rest) = blk l + total rest := by
  simp [total, blk]

/-- closed form of `run` without wrap-around -/
def runSpec (c : Nat) : List Nat → List (Nat × Nat)
  | [] => []
  | l :: rest => (c, blk l) :: runSpec (c + blk l) rest

theorem run_eq (c : Nat) (lens : List Nat) (h : c + total lens < W) :
    run c lens = (runSpec c lens, c + total lens) := by
  induction lens generalizing c with
  | nil => simp [run, runSpec, total]
  | cons l rest ih =>
    rw [total_cons] at h
    rw [run]
    split
    · next h0 =>
      subst h0
      have hb : blk 0 = 0 := by simp [blk]
      rw [hb] at h
      rw [ih c (by omega)]
      simp [runSpec, total_cons, hb]
    · next hne =>
      have hb : blk l = nBlocks l := by simp [blk, hne]
      rw [hb] at h
      rw [atomicAdd_noWrap _ _ (by omega)]
      simp only
      rw [ih (c + nBlocks l) (by omega)]
      simp [runSpec, total_cons, hb, Nat.add_assoc]

theorem runSpec_bounds (c : Nat) (lens : List Nat) :
    ∀ x ∈ runSpec c lens, c ≤ x.1 ∧ x.1 + x.2 ≤ c + total lens := by
  induction lens generalizing c with
  | nil => simp [runSpec]
  | cons l rest ih =>
    intro x hx
    rw [runSpec] at hx
    rw [total_cons]
    rcases List.mem_cons.1 hx with rfl | hx
    · simp only; omega
    · have := ih _ x hx; omega

theorem runSpec_pairwise (c : Nat) (lens : List Nat) :
    List.Pairwise (fun a b : Nat × Nat => a.1 + a.2 ≤ b.1) (runSpec c lens) := by
  induction lens generalizing c with
  | nil => simp [runSpec]
  | cons l rest ih =>
    rw [runSpec]
    exact List.Pairwise.cons (fun x hx => (runSpec_bounds _ _ x hx).1) (ih _)

theorem runSpec_ivs (c : Nat) (lens : List Nat) :
    runSpec c lens = (List.range lens.length).map
      (fun k => (c + total (lens.take k), blk (lens.getD k 0))) := by
  induction lens generalizing c with
  | nil => simp [runSpec]
  | cons l rest ih =>
    rw [runSpec, List.length_cons, List.range_succ_eq_map, List.map_cons, List.map_map, ih]
    congr 1
    apply List.map_congr_left
    intro k _
    simp [total_cons, Nat.add_assoc]

/-- coarse model: for every list of reads in any order of their atomic adds, without uint64 wrap,
    the ranges handed out are pairwise disjoint, contiguous (each starts where the previous ended),
    start at c and end at the final counter c + total. -/
theorem run_contiguous (c : Nat) (lens : List Nat) (h : c + total lens < W) :
    (run c lens).2 = c + total lens ∧
    List.Pairwise (fun a b => a.1 + a.2 ≤ b.1) (run c lens).1 ∧
    (∀ x ∈ (run c lens).1, c ≤ x.1 ∧ x.1 + x.2 ≤ c + total lens) := by
  rw [run_eq c lens h]
  exact ⟨rfl, runSpec_pairwise c lens, runSpec_bounds c lens⟩

/-- coarse model, without uint64 wrap: the k-th read (in add order) gets
    iv = c + total (lens.take k), the blocks reserved by the reads before it -/
theorem run_ivs (c : Nat) (lens : List Nat) (h : c + total lens < W) :
    (run c lens).1 = (List.range lens.length).map
      (fun k => (c + total (lens.take k),
        if lens.getD k 0 = 0 then 0 else nBlocks (lens.getD k 0))) := by
  rw [run_eq c lens h]
  exact runSpec_ivs c lens

/-! ### fine-grained model -/

/-- blocks a call will still request from the shared counter -/
def weight : Call → Nat
  | .idle len => blk len
  | _ => 0

def pending (calls : List Call) : Nat := (calls.map weight).sum

/-- 1 if the call has reserved counter block `b` and not encrypted it yet -/
def Call.owns (b : Nat) : Call → Nat
  | .running iv len => if iv ≤ b ∧ b < iv + nBlocks len then 1 else 0
  | _ => 0

/-- the owners of counter block `b`: the log entries that encrypted it and the running calls that
    have it reserved -/
def owners (s : St) (b : Nat) : Nat := (s.log.map (·.2)).count b + (s.calls.map (Call.owns b)).sum

/-- a running call has reserved the block it encrypts next and what its continuation will have -/
theorem owns_running (iv len b : Nat) : (Call.running iv len).owns b =
    (if iv = b then 1 else 0) + if iv + 1 ≤ b ∧ b < iv + 1 + (nBlocks len - 1) then 1 else 0 := by
  have := nBlocks_pos len
  simp only [Call.owns]
  by_cases h : iv = b
  · subst h; rw [if_pos ⟨Nat.le_refl _, by omega⟩, if_pos rfl, if_neg (by omega)]
  · rw [if_neg h, Nat.zero_add]; exact if_congr (by omega) rfl rfl

theorem pending_init (lens : List Nat) : pending (lens.map Call.idle) = total lens := by
  simp [pending, total, List.map_map, Function.comp_def, weight, blk]

/-- the invariant of the fine-grained model (relative to start counter `c0` and bound `B`): no
    counter block has two owners, and only blocks of [c0, counter) have one -/
structure Inv (c0 B : Nat) (s : St) : Prop where
  lo : c0 ≤ s.counter
  hi : s.counter + pending s.calls ≤ B
  own : ∀ b, owners s b ≤ 1 ∧ (0 < owners s b → c0 ≤ b ∧ b < s.counter)

theorem Inv_init (c0 : Nat) (lens : List Nat) : Inv c0 (c0 + total lens) (init c0 lens) := by
  refine ⟨Nat.le_refl _, by simp [init, pending_init], fun b => ?_⟩
  have : owners (init c0 lens) b = 0 := by
    simp [owners, init, List.map_map, Function.comp_def, Call.owns]
  rw [this]; exact ⟨Nat.zero_le _, nofun⟩

/-- call `i` moves from `c` to `c'`, the counter to `cnt`, the log gains `new`: the invariant is
    kept if no block gains an owner, except that blocks of the newly reserved [counter, cnt)
    may gain one. -/
theorem Inv_update {c0 B : Nat} {s : St} (inv : Inv c0 B s) {i : Nat} {c : Call}
    (hi : s.calls[i]? = some c) (c' : Call) (cnt : Nat) (new : List (Nat × Nat))
    (hcnt : s.counter ≤ cnt) (hw : cnt + weight c' ≤ s.counter + weight c)
    (hown : ∀ b, (new.map (·.2)).count b + c'.owns b ≤ c.owns b ∨
      (s.counter ≤ b ∧ b < cnt ∧ (new.map (·.2)).count b + c'.owns b ≤ 1)) :
    Inv c0 B { counter := cnt, calls := s.calls.set i c', log := new ++ s.log } := by
  refine ⟨Nat.le_trans inv.lo hcnt, ?_, fun b => ?_⟩
  · have := sum_map_set weight c' hi
    have := inv.hi
    simp only [pending] at *
    omega
  · have h1 := sum_map_set (Call.owns b) c' hi
    obtain ⟨h2, h3⟩ := inv.own b
    simp only [owners, List.map_append, List.count_append] at h2 h3 ⊢
    rcases hown b with h | ⟨hb, hb', h⟩
    · exact ⟨by omega, fun hpos => by have := h3 (by omega); omega⟩
    · have h0 : ¬ 0 < (s.log.map (·.2)).count b + (s.calls.map (Call.owns b)).sum :=
        fun hpos => by have := h3 hpos; omega
      have := inv.lo
      exact ⟨by omega, fun _ => by omega⟩

/-- a step without atomic add: the call hands blocks it had reserved to the log, or stops. -/
theorem Inv_local {c0 B : Nat} {s : St} (inv : Inv c0 B s) {i : Nat} {c : Call}
    (hi : s.calls[i]? = some c) (c' : Call) (new : List (Nat × Nat)) (hw : weight c' ≤ weight c)
    (hown : ∀ b, (new.map (·.2)).count b + c'.owns b ≤ c.owns b) :
    Inv c0 B { s with calls := s.calls.set i c', log := new ++ s.log } :=
  Inv_update inv hi c' s.counter new (Nat.le_refl _) (Nat.add_le_add_left hw _) fun b =>
    .inl (hown b)

theorem Inv_step {c0 B : Nat} (hB : B < W) {s : St} (inv : Inv c0 B s) (i : Nat) :
    Inv c0 B (step s i) := by
  have hpend := inv.hi
  unfold step
  split
  · next len hi =>
    split
    · exact Inv_local inv hi .done [] (Nat.zero_le _) fun b => Nat.zero_le _
    · next hne =>
      -- the atomic add reserves the fresh blocks [counter, counter + nBlocks len)
      have hw : weight (Call.idle len) = nBlocks len := by simp [weight, blk, hne]
      have hle : nBlocks len ≤ pending s.calls := hw ▸ le_sum_map weight hi
      rw [atomicAdd_noWrap _ _ (by omega)]
      refine Inv_update inv hi (.running s.counter len) _ [] (Nat.le_add_right _ _)
        (by rw [hw]; exact Nat.le_refl _) fun b => ?_
      by_cases hb : s.counter ≤ b ∧ b < s.counter + nBlocks len
      · exact .inr ⟨hb.1, hb.2, by simp [Call.owns, hb]⟩
      · exact .inl (by simp [Call.owns, hb])
  · next iv len hi =>
    -- the call encrypts the first block `iv` of its reservation and keeps the rest, or stops
    have logged : ∀ b, ([(i, iv)].map (·.2)).count b = if iv = b then 1 else 0 := fun b => by
      simp [List.count_cons]
    split
    · next hge =>
      refine Inv_local inv hi _ [(i, iv)] (by split <;> exact Nat.zero_le _) fun b => ?_
      rw [logged, owns_running iv len]
      by_cases h16 : len - 16 = 0
      · rw [if_pos h16]; exact Nat.add_le_add_left (Nat.zero_le _) _
      · -- `iv + 1` does not wrap: `iv` is owned, hence below the counter
        have hiv : iv < s.counter := by
          refine ((inv.own iv).2 (Nat.lt_of_lt_of_le ?_ (Nat.le_trans
            (le_sum_map (Call.owns iv) hi) (Nat.le_add_left _ _)))).2
          have := nBlocks_pos len
          simp only [Call.owns]
          rw [if_pos (by omega)]; exact Nat.one_pos
        rw [if_neg h16, Nat.mod_eq_of_lt (by omega), nBlocks_step len (by omega),
          Nat.add_sub_cancel]
        exact Nat.le_refl _
    · split
      · exact Inv_local inv hi .done [] (Nat.zero_le _) fun b => Nat.zero_le _
      · refine Inv_local inv hi .done [(i, iv)] (Nat.zero_le _) fun b => ?_
        rw [logged, owns_running iv len]; exact Nat.add_le_add_left (Nat.zero_le _) _
  · exact inv

theorem Inv_exec {c0 B : Nat} (hB : B < W) (sched : List Nat) {s : St} (inv : Inv c0 B s) :
    Inv c0 B (exec s sched) :=
  List.foldlRecOn sched step inv fun _ hs i _ => Inv_step hB hs i

/-- fine model: for EVERY schedule (any interleaving of atomic adds and block encryptions of any
    number of callers), no counter block is encrypted twice -/
theorem exec_log_nodup (c0 : Nat) (lens : List Nat) (sched : List Nat)
    (h : c0 + total lens < W) :
    ((exec (init c0 lens) sched).log.map (·.2)).Nodup :=
  List.nodup_iff_count.mpr fun b =>
    Nat.le_trans (Nat.le_add_right _ _) ((Inv_exec h sched (Inv_init c0 lens)).own b).1

/-- fine model, every schedule: no counter block is encrypted by two callers -/
theorem exec_log_owner (c0 : Nat) (lens : List Nat) (sched : List Nat)
    (h : c0 + total lens < W) (i j b : Nat)
    (hi : (i, b) ∈ (exec (init c0 lens) sched).log)
    (hj : (j, b) ∈ (exec (init c0 lens) sched).log) : i = j :=
  congrArg Prod.fst (List.inj_on_of_nodup_map (exec_log_nodup c0 lens sched h) hi hj rfl)

/-- fine model, every schedule: all blocks encrypted lie in [c0, counter) and the counter never
    exceeds c0 + total -/
theorem exec_log_range (c0 : Nat) (lens : List Nat) (sched : List Nat)
    (h : c0 + total lens < W) :
    (exec (init c0 lens) sched).counter ≤ c0 + total lens ∧
    ∀ x ∈ (exec (init c0 lens) sched).log,
      c0 ≤ x.2 ∧ x.2 < (exec (init c0 lens) sched).counter := by
  have inv := Inv_exec h sched (Inv_init c0 lens)
  refine ⟨by have := inv.hi; omega, fun x hx => (inv.own x.2).2 ?_⟩
  exact Nat.lt_of_lt_of_le (List.count_pos_iff.mpr (List.mem_map_of_mem hx)) (Nat.le_add_right _ _)

end Gabi.Conc.Cprng
