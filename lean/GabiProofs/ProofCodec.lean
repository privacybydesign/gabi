/-
  GabiProofs.ProofCodec — a canonical encoder (`toTree`) of disclosure proofs, issuance commitment
  proofs and proof lists into the message trees that `GabiModel.Decode` reads, and the proof that
  the decoder inverts it up to what the wire does not carry (`reread`): the omitted fields of
  GabiProofs.OmittedFields and the order in which a map lists its entries.
-/
import GabiModel.Decode
import GabiProofs.OmittedFields
import Std.Data.String.ToInt
import Std.Data.TreeMap.Raw.Lemmas
import Std.Data.TreeMap.Raw.WF

namespace Gabi
open Lean Gabi.Wire

/-! ## the hexadecimal text of a leaf parses back -/

theorem hexDigit_digitChar : ∀ d, d < 16 → hexDigit? (Nat.digitChar d) = some d := by decide
theorem digitChar_ne_minus : ∀ d, d < 16 → Nat.digitChar d ≠ '-' := by decide

def hexStep (acc : Option Nat) (c : Char) : Option Nat :=
  match acc, hexDigit? c with
  | some a, some d => some (a * 16 + d)
  | _, _ => none

theorem foldl_hexStep_toDigits (n : Nat) : (Nat.toDigits 16 n).foldl hexStep (some 0) = some n := by
  induction n using Nat.strongRecOn with
  | _ n ih =>
    rw [Nat.toDigits_eq_if (by decide)]
    split
    · next h => simp [hexStep, hexDigit_digitChar n h]
    · next h =>
      rw [List.foldl_append, ih (n / 16) (by omega)]
      simp only [List.foldl_cons, List.foldl_nil, hexStep, hexDigit_digitChar (n % 16) (Nat.mod_lt _ (by decide))]
      congr 1; omega

theorem toDigits_ne_minus (n : Nat) : ∀ c ∈ Nat.toDigits 16 n, c ≠ '-' := by
  induction n using Nat.strongRecOn with
  | _ n ih =>
    rw [Nat.toDigits_eq_if (by decide)]
    split
    · next h => intro c hc; simp at hc; subst hc; exact digitChar_ne_minus n h
    · next h =>
      intro c hc
      rw [List.mem_append] at hc
      rcases hc with hc | hc
      · exact ih (n / 16) (by omega) c hc
      · simp at hc; subst hc; exact digitChar_ne_minus _ (Nat.mod_lt _ (by decide))

theorem hexOfNat_eq (n : Nat) : hexOfNat n = String.ofList (Nat.toDigits 16 n) := by
  unfold hexOfNat
  split
  · next h => subst h; rfl
  · rfl

theorem parseHexNat_ofList (l : List Char) (h : l ≠ []) :
    parseHexNat? (String.ofList l) = l.foldl hexStep (some 0) := by
  unfold parseHexNat?
  rw [if_neg (by simpa using h), String.foldl_eq_foldl_toList]
  simp only [String.toList_ofList]
  rfl

theorem parseHexNat_hexOfNat (n : Nat) : parseHexNat? (hexOfNat n) = some n := by
  rw [hexOfNat_eq, parseHexNat_ofList _ Nat.toDigits_ne_nil, foldl_hexStep_toDigits]

theorem parseHexInt_hexOfInt (z : Int) : parseHexInt? (hexOfInt z) = some z := by
  unfold parseHexInt? hexOfInt
  split
  · next h =>
    rw [if_pos (by simp)]
    have : (("-" ++ hexOfNat z.natAbs).drop 1).toString = hexOfNat z.natAbs := by
      apply String.toList_injective
      simp [String.toList_copy_drop]
    rw [this, parseHexNat_hexOfNat]
    show some (-(z.natAbs : Int)) = some z
    congr 1; omega
  · next h =>
    have hs : (hexOfNat z.toNat).startsWith "-" = false := by
      rw [String.startsWith_string_eq_false_iff, hexOfNat_eq]
      simp only [String.toList_ofList]
      intro hp
      have : '-' ∈ Nat.toDigits 16 z.toNat := by
        obtain ⟨t, ht⟩ := hp
        rw [← ht]; simp
      exact toDigits_ne_minus _ _ this rfl
    rw [if_neg (by simp [hs]), parseHexNat_hexOfNat]
    show some ((z.toNat : Nat) : Int) = some z
    congr 1; omega

theorem parseHexBytes_go_flatMap (bs : List UInt8) :
    parseHexBytes?.go (bs.flatMap (fun b => [Nat.digitChar (b.toNat / 16), Nat.digitChar (b.toNat % 16)])) =
      some bs := by
  induction bs with
  | nil => rfl
  | cons b bs ih =>
    rw [List.flatMap_cons]
    show parseHexBytes?.go (_ :: _ :: _) = _
    unfold parseHexBytes?.go
    have hb := b.toNat_lt
    rw [hexDigit_digitChar _ (by omega), hexDigit_digitChar _ (Nat.mod_lt _ (by decide)),
      show ∀ l : List Char, ([] : List Char).append l = l from fun _ => rfl, ih]
    simp only [bind, Option.bind, pure]
    congr 2
    have : b.toNat / 16 * 16 + b.toNat % 16 = b.toNat := by omega
    rw [this]
    exact UInt8.ofNat_toNat

theorem parseHexBytes_hexOfBytes (bs : List UInt8) : parseHexBytes? (hexOfBytes bs) = some bs := by
  unfold parseHexBytes? hexOfBytes
  simp only [String.toList_ofList]
  exact parseHexBytes_go_flatMap bs

/-! ## the entries of an object: the association list it was built from, in key order -/

def KeysDistinct {β} (l : List (String × β)) : Prop := l.Pairwise (fun a b => a.1 ≠ b.1)

/-- entries in the order a `Json.obj` (a tree map ordered by `compare` on strings) yields them. -/
def KeysSorted {β} (l : List (String × β)) : Prop := l.Pairwise (fun a b => compare a.1 b.1 = .lt)

def KeyedDistinct {κ β} (key : κ → String) (m : List (κ × β)) : Prop :=
  m.Pairwise (fun a b => key a.1 ≠ key b.1)

def KeyedSorted {κ β} (key : κ → String) (m : List (κ × β)) : Prop :=
  m.Pairwise (fun a b => compare (key a.1) (key b.1) = .lt)

theorem KeyedSorted.distinct {κ β} {key : κ → String} {m : List (κ × β)} (h : KeyedSorted key m) :
    KeyedDistinct key m := by
  refine List.Pairwise.imp ?_ h
  intro a b hab heq
  rw [heq] at hab
  simp at hab

theorem KeysSorted.distinct {β} {l : List (String × β)} (h : KeysSorted l) : KeysDistinct l :=
  KeyedSorted.distinct (key := id) h

theorem KeyedSorted.nodup {κ β} {key : κ → String} {m : List (κ × β)} (h : KeyedSorted key m) :
    (m.map (·.1)).Nodup := by
  rw [List.Nodup, List.pairwise_map]
  exact h.distinct.imp fun hab heq => hab (by rw [heq])

theorem KeysDistinct.nodup {β} {l : List (String × β)} (h : KeysDistinct l) : l.Nodup := by
  refine List.Pairwise.imp ?_ h
  intro a b hab heq
  exact hab (by rw [heq])

/-- the entries of the object built from `l`, in the order the object yields them. -/
def sortedEntries {β} (l : List (String × β)) : List (String × β) :=
  (Std.TreeMap.Raw.ofList l compare).toList

theorem ofList_get?_eq_some_iff {β} {l : List (String × β)} (hd : KeysDistinct l) {k : String} {v : β} :
    (Std.TreeMap.Raw.ofList l compare).get? k = some v ↔ (k, v) ∈ l := by
  have hmem : ∀ {k v}, (k, v) ∈ l → (Std.TreeMap.Raw.ofList l compare).get? k = some v := by
    intro k v hm
    rw [Std.TreeMap.Raw.get?_eq_getElem?]
    exact Std.TreeMap.Raw.getElem?_ofList_of_mem (Std.LawfulEqCmp.compare_eq_iff_eq.mpr rfl)
      (hd.imp fun hab heq => hab (Std.LawfulEqCmp.compare_eq_iff_eq.mp heq)) hm
  refine ⟨fun h => ?_, hmem⟩
  by_cases hk : k ∈ l.map Prod.fst
  · obtain ⟨⟨k', v'⟩, hm, rfl⟩ := List.mem_map.mp hk
    rw [hmem hm] at h
    cases h
    exact hm
  · rw [Std.TreeMap.Raw.get?_eq_getElem?, Std.TreeMap.Raw.getElem?_ofList_of_contains_eq_false
      (by rw [List.contains_eq_mem]; exact decide_eq_false hk)] at h
    cases h

theorem sortedEntries_sorted {β} (l : List (String × β)) : KeysSorted (sortedEntries l) :=
  Std.TreeMap.Raw.ordered_keys_toList Std.TreeMap.Raw.WF.ofList

theorem mem_sortedEntries {β} {l : List (String × β)} (hd : KeysDistinct l) (kv : String × β) :
    kv ∈ sortedEntries l ↔ kv ∈ l := by
  obtain ⟨k, v⟩ := kv
  unfold sortedEntries
  rw [Std.TreeMap.Raw.mem_toList_iff_getElem?_eq_some Std.TreeMap.Raw.WF.ofList,
    ← Std.TreeMap.Raw.get?_eq_getElem?, ofList_get?_eq_some_iff hd]

theorem sortedEntries_perm {β} {l : List (String × β)} (hd : KeysDistinct l) : (sortedEntries l).Perm l :=
  (List.perm_ext_iff_of_nodup (sortedEntries_sorted l).distinct.nodup hd.nodup).mpr (mem_sortedEntries hd)

theorem KeysSorted.eq_of_perm {β} {l l' : List (String × β)} (h : KeysSorted l) (h' : KeysSorted l')
    (hp : l.Perm l') : l = l' := by
  unfold KeysSorted at h h'
  refine List.Perm.eq_of_pairwise (le := fun a b => compare a.1 b.1 = .lt) ?_ h h' hp
  intro a b _ _ hab hba
  rw [Std.OrientedCmp.gt_of_lt hab] at hba
  exact absurd hba (by simp)

theorem sortedEntries_of_sorted {β} {l : List (String × β)} (h : KeysSorted l) : sortedEntries l = l :=
  (sortedEntries_sorted l).eq_of_perm h (sortedEntries_perm h.distinct)

/-- association lists with arbitrary keys, ordered by the text of the key. -/
def sortByKey {κ β} (key : κ → String) (m : List (κ × β)) : List (κ × β) :=
  (sortedEntries (m.map fun kv => (key kv.1, kv))).map (·.2)

theorem KeyedDistinct.map {κ β γ} {key : κ → String} {m : List (κ × β)} (h : KeyedDistinct key m)
    (f : κ × β → γ) : KeysDistinct (m.map fun kv => (key kv.1, f kv)) :=
  List.pairwise_map.mpr h

theorem map_snd_keyed {κ β} (key : κ → String) (m : List (κ × β)) :
    (m.map fun kv => (key kv.1, kv)).map (·.2) = m := by
  induction m with
  | nil => rfl
  | cons a m ih => simp only [List.map_cons, ih]

theorem sortByKey_perm {κ β} {key : κ → String} {m : List (κ × β)} (h : KeyedDistinct key m) :
    (sortByKey key m).Perm m := by
  unfold sortByKey
  have hd : KeysDistinct (m.map fun kv => (key kv.1, kv)) := h.map (fun kv => kv)
  have := (sortedEntries_perm hd).map (·.2)
  rwa [map_snd_keyed] at this

theorem sortByKey_of_sorted {κ β} {key : κ → String} {m : List (κ × β)} (h : KeyedSorted key m) :
    sortByKey key m = m := by
  unfold sortByKey
  have hs : KeysSorted (m.map fun kv => (key kv.1, kv)) := by
    unfold KeysSorted; rw [List.pairwise_map]; exact h
  rw [sortedEntries_of_sorted hs, map_snd_keyed]

theorem sortByKey_sorted {κ β} (key : κ → String) {m : List (κ × β)} (h : KeyedDistinct key m) :
    KeyedSorted key (sortByKey key m) := by
  unfold sortByKey KeyedSorted
  rw [List.pairwise_map]
  refine List.Pairwise.imp_of_mem ?_ (sortedEntries_sorted _)
  intro a b ha hb hab
  have hd : KeysDistinct (m.map fun kv => (key kv.1, kv)) := h.map (fun kv => kv)
  rw [mem_sortedEntries hd] at ha hb
  obtain ⟨x, _, rfl⟩ := List.mem_map.mp ha
  obtain ⟨y, _, rfl⟩ := List.mem_map.mp hb
  exact hab

/-- the object built from the images of `m` lists them in key order. -/
theorem sortedEntries_map {κ β γ} {key : κ → String} {m : List (κ × β)} (h : KeyedDistinct key m)
    (f : κ × β → γ) :
    sortedEntries (m.map fun kv => (key kv.1, f kv)) = (sortByKey key m).map fun kv => (key kv.1, f kv) := by
  apply (sortedEntries_sorted _).eq_of_perm
  · exact List.pairwise_map.mpr (sortByKey_sorted key h)
  · exact (sortedEntries_perm (h.map f)).trans ((sortByKey_perm h).map _).symm

/-! ## reading the object built from an association list

  A struct decoder reads members by name (`optField`), a map decoder reads all entries
  (`objEntries`); both first make sure the object is not a leaf `{"$i": …}` / `{"$b": …}`. -/

theorem getObjVal_mkObj_ok_iff {l : List (String × Json)} (hd : KeysDistinct l) {k : String} {v : Json} :
    (Json.mkObj l).getObjVal? k = .ok v ↔ (k, v) ∈ l := by
  rw [← ofList_get?_eq_some_iff hd]
  unfold Json.mkObj Json.getObjVal?
  simp only []
  cases (Std.TreeMap.Raw.ofList l compare).get? k with
  | none => simp [throw, throwThe, MonadExceptOf.throw]
  | some w => simp [pure, Except.pure]

/-- what a struct decoder reads as member `k` of the object built from `l` (`null` if absent). -/
def member (l : List (String × Json)) (k : String) : Json := (l.lookup k).getD .null

theorem optField_mkObj {l : List (String × Json)} (hd : KeysDistinct l) (k : String) :
    Decode.optField (Json.mkObj l) k = member l k := by
  unfold Decode.optField member
  cases h : l.lookup k with
  | some v =>
    rw [(getObjVal_mkObj_ok_iff hd).mpr (lookup_mem h)]
    rfl
  | none =>
    cases hg : (Json.mkObj l).getObjVal? k with
    | error _ => rfl
    | ok v => simpa using List.lookup_eq_none_iff.mp h _ ((getObjVal_mkObj_ok_iff hd).mp hg)

/-- a `"$i"`/`"$b"` member that is not a string does not make the object a leaf. -/
def NotLeaf (l : List (String × Json)) : Prop :=
  ∀ kv ∈ l, (kv.1 = "$i" ∨ kv.1 = "$b") → ∀ s, kv.2 ≠ .str s

theorem leaf_mkObj_none {l : List (String × Json)} (hd : KeysDistinct l) (hn : NotLeaf l) :
    Decode.leafI? (Json.mkObj l) = none ∧ Decode.leafB? (Json.mkObj l) = none := by
  have h : ∀ k, k = "$i" ∨ k = "$b" → ∀ s, (Json.mkObj l).getObjVal? k ≠ .ok (.str s) :=
    fun k hk s heq => hn _ ((getObjVal_mkObj_ok_iff hd).mp heq) hk s rfl
  constructor
  · show (match (Json.mkObj l).getObjVal? "$i" with | .ok (.str s) => parseHexInt? s | _ => none) = none
    split
    · next s heq => exact absurd heq (h _ (Or.inl rfl) s)
    · rfl
  · show (match (Json.mkObj l).getObjVal? "$b" with | .ok (.str s) => parseHexBytes? s | _ => none) = none
    split
    · next s heq => exact absurd heq (h _ (Or.inr rfl) s)
    · rfl

/-- the member names of a struct: distinct, and none of them marks a leaf. -/
def FieldNames (l : List (String × Json)) : Prop :=
  (l.map (·.1)).Nodup ∧ "$i" ∉ l.map (·.1) ∧ "$b" ∉ l.map (·.1)

theorem FieldNames.distinct {l : List (String × Json)} (h : FieldNames l) : KeysDistinct l :=
  List.pairwise_map.mp h.1

theorem FieldNames.notLeaf {l : List (String × Json)} (h : FieldNames l) : NotLeaf l := by
  rintro kv hkv (hk | hk)
  · exact absurd (hk ▸ List.mem_map_of_mem hkv) h.2.1
  · exact absurd (hk ▸ List.mem_map_of_mem hkv) h.2.2

theorem structObj_mkObj {l : List (String × Json)} (h : FieldNames l) :
    Decode.structObj (Json.mkObj l) = .ok (some (Json.mkObj l)) := by
  obtain ⟨h1, h2⟩ := leaf_mkObj_none h.distinct h.notLeaf
  unfold Decode.structObj
  unfold Json.mkObj at h1 h2 ⊢
  simp only [h1, h2]
  rfl

theorem objEntries_obj (t : Std.TreeMap.Raw String Json compare) :
    Decode.objEntries (.obj t) = .ok t.toList := by
  unfold Decode.objEntries
  simp only []
  have : (fun x : String × Json => match x with | (k, v) => (k, v)) = id := by
    funext ⟨_, _⟩; rfl
  rw [this, List.map_id]
  rfl

theorem objEntries_mkObj (l : List (String × Json)) :
    Decode.objEntries (Json.mkObj l) = .ok (sortedEntries l) :=
  objEntries_obj _

/-- a map decoder that succeeds on every entry of the object built from the images of `m` returns
    the results in key order. -/
theorem mapM_sortedEntries_keyed {κ β γ} {key : κ → String} {m : List (κ × β)} (hk : KeyedDistinct key m)
    (enc : κ × β → Json) (f : String × Json → Decode.D γ) (g : κ × β → γ)
    (hf : ∀ kv ∈ m, f (key kv.1, enc kv) = .ok (g kv)) :
    (sortedEntries (m.map fun kv => (key kv.1, enc kv))).mapM f = .ok ((sortByKey key m).map g) := by
  rw [sortedEntries_map hk enc]
  exact Except.mapM_map_ok _ f g _ fun kv hkv => hf kv ((sortByKey_perm hk).subset hkv)

theorem dedupKeys_foldl {α} (l acc : List (Int × α)) (h : ((acc ++ l).map (·.1)).Nodup) :
    l.foldl (fun acc kv => acc.filter (·.1 ≠ kv.1) ++ [kv]) acc = acc ++ l := by
  induction l generalizing acc with
  | nil => simp
  | cons kv l ih =>
    rw [List.foldl_cons]
    have hf : acc.filter (·.1 ≠ kv.1) = acc := by
      rw [List.filter_eq_self]
      intro a ha
      simp only [ne_eq, decide_not, Bool.not_eq_eq_eq_not, Bool.not_true, decide_eq_false_iff_not]
      intro heq
      rw [List.map_append, List.map_cons, List.nodup_append] at h
      exact h.2.2 a.1 (List.mem_map_of_mem ha) kv.1 (List.mem_cons_self ..) heq
    rw [hf, ih (acc ++ [kv]) (by simpa using h)]
    simp

theorem dedupKeys_of_nodup {α} (l : List (Int × α)) (h : (l.map (·.1)).Nodup) : Decode.dedupKeys l = l := by
  unfold Decode.dedupKeys
  rw [dedupKeys_foldl l [] (by simpa using h)]
  rfl

/-! ## the canonical encoder -/

namespace Enc

def leafI (z : Int) : Json := Json.mkObj [("$i", .str (hexOfInt z))]
def leafB (bs : List UInt8) : Json := Json.mkObj [("$b", .str (hexOfBytes bs))]

/-- `*big.Int`: `null` or `{"$i": hex}`. -/
def big : Option Int → Json
  | none => .null
  | some z => leafI z

/-- `[]byte`: `null` or `{"$b": hex}`. -/
def bytes : Option (List UInt8) → Json
  | none => .null
  | some bs => leafB bs

def bigList (l : List (Option Int)) : Json := .arr (l.map big).toArray
def nat (n : Nat) : Json := .num (JsonNumber.fromNat n)
def int (z : Int) : Json := .num (JsonNumber.fromInt z)

/-- `map[int]*big.Int`: an object keyed by the decimal text of the key. -/
def intMap (m : IntMap) : Json := Json.mkObj (m.map fun kv => (toString kv.1, big kv.2))

/-- `map[string]*big.Int`. -/
def strMap (m : List (String × Option Int)) : Json := Json.mkObj (m.map fun kv => (kv.1, big kv.2))

def sacc : Option SignedAccumulator → Json
  | none => .null
  | some s => Json.mkObj [("data", bytes s.data), ("pk", nat s.pkCounter)]

/-- `nu`, `challenge` and the response "alpha" are not written. -/
def nonrev : Option NonRevProof → Json
  | none => .null
  | some nr => Json.mkObj [("C_r", big nr.cr), ("C_u", big nr.cu),
      ("responses", strMap (nr.responses.filter (·.1 ≠ "alpha"))), ("sacc", sacc nr.sacc)]

/-- `mResponse` is not written. -/
def rangeProof : Option RangeProof → Json
  | none => .null
  | some rp => Json.mkObj [("Cs", bigList rp.cs), ("ds", bigList rp.ds), ("vs", bigList rp.vs),
      ("v5", big rp.v5), ("l_d", nat rp.ld), ("sign", int rp.sign), ("a", nat rp.a), ("k", big rp.k)]

def rangeProofs : Option RPMap → Json
  | none => .null
  | some m => Json.mkObj (m.map fun kv => (toString kv.1, .arr (kv.2.map rangeProof).toArray))

end Enc

/-- the canonical message tree of a disclosure proof: member names are the `json` tags of `ProofD`,
    `revocation.Proof`, `revocation.SignedAccumulator` and `rangeproof.Proof`. -/
def ProofD.toTree (p : ProofD) : Json :=
  Json.mkObj [("c", Enc.big p.c), ("A", Enc.big p.a), ("e_response", Enc.big p.eResponse),
    ("v_response", Enc.big p.vResponse), ("a_responses", Enc.intMap p.aResponses),
    ("a_disclosed", Enc.intMap p.aDisclosed), ("nonrev_proof", Enc.nonrev p.nonrev),
    ("rangeproofs", Enc.rangeProofs p.rangeProofs)]

/-- the canonical message tree of an issuance commitment proof. -/
def ProofU.toTree (p : ProofU) : Json :=
  Json.mkObj [("U", Enc.big p.u), ("c", Enc.big p.c), ("v_prime_response", Enc.big p.vPrimeResponse),
    ("s_response", Enc.big p.sResponse), ("m_user_responses", Enc.intMap p.mUserResponses)]

/-! ## decoding what the encoder wrote

  For each type: the condition under which a value can be carried (`…Ok`, `WireOk`), what comes
  back (`reread`), and the equation between the two. -/

/-- a big integer position. `direct` is the flag of `GabiModel.Decode`: the tree stands for an
    in-memory object that never was JSON text; only then can a negative number arrive
    (`big.Int.UnmarshalJSON` refuses them). -/
def BigOk (direct : Bool) (x : Option Int) : Prop := ∀ z, x = some z → direct = true ∨ 0 ≤ z

theorem bigOk_some (d : Bool) (z : Int) (h : 0 ≤ z) : BigOk d (some z) := by
  intro z' hz; cases hz; exact Or.inr h

theorem bigOk_none (d : Bool) : BigOk d none := by
  intro z' hz; cases hz

def Int64 (k : Int) : Prop := -(2 ^ 63) ≤ k ∧ k < 2 ^ 63

/-- `BigOk` and `Int64` are decidable, so that `WireOk` of a concrete proof is checked by evaluation. -/
instance (direct : Bool) : (x : Option Int) → Decidable (BigOk direct x)
  | none => isTrue (bigOk_none direct)
  | some z => decidable_of_iff (direct = true ∨ 0 ≤ z) ⟨fun h _ hz => Option.some.inj hz ▸ h, fun h => h z rfl⟩

instance (k : Int) : Decidable (Int64 k) := inferInstanceAs (Decidable (_ ∧ _))

structure IntMapOk (direct : Bool) (m : IntMap) : Prop where
  nodup : (m.map (·.1)).Nodup
  keys : ∀ kv ∈ m, Int64 kv.1
  vals : ∀ kv ∈ m, BigOk direct kv.2

theorem keysDistinct_singleton {β} (a : String × β) : KeysDistinct [a] := List.pairwise_singleton _ _

theorem leafI_leafI (z : Int) : Decode.leafI? (Enc.leafI z) = some z := by
  unfold Enc.leafI
  have h := (getObjVal_mkObj_ok_iff (keysDistinct_singleton ("$i", Json.str (hexOfInt z)))).mpr
    (List.mem_singleton.mpr rfl)
  unfold Decode.leafI?
  unfold Json.mkObj at h ⊢
  simp only [h, parseHexInt_hexOfInt]

theorem leafB_leafB (bs : List UInt8) : Decode.leafB? (Enc.leafB bs) = some bs := by
  unfold Enc.leafB
  have h := (getObjVal_mkObj_ok_iff (keysDistinct_singleton ("$b", Json.str (hexOfBytes bs)))).mpr
    (List.mem_singleton.mpr rfl)
  unfold Decode.leafB?
  unfold Json.mkObj at h ⊢
  simp only [h, parseHexBytes_hexOfBytes]

theorem decode_big (direct : Bool) (x : Option Int) (h : BigOk direct x) :
    Decode.big (Enc.big x) direct = .ok x := by
  cases x with
  | none => rfl
  | some z =>
    have hl := leafI_leafI z
    unfold Enc.big Decode.big
    unfold Enc.leafI Json.mkObj at hl ⊢
    simp only [hl]
    rw [if_neg]
    · rfl
    · rcases h z rfl with h | h
      · simp [h]
      · intro ⟨h1, _⟩; omega

theorem decode_bytes (x : Option (List UInt8)) : Decode.bytes (Enc.bytes x) = .ok x := by
  cases x with
  | none => rfl
  | some bs =>
    have hl := leafB_leafB bs
    unfold Enc.bytes Decode.bytes
    unfold Enc.leafB Json.mkObj at hl ⊢
    simp only [hl]
    rfl

theorem decode_uint (n : Nat) (h : n < 2 ^ 64) : Decode.uint (Enc.nat n) = .ok n := by
  unfold Decode.uint Enc.nat JsonNumber.fromNat
  simp only []
  rw [if_pos ⟨trivial, by omega, by exact_mod_cast h⟩]
  rfl

theorem decode_int (z : Int) (h : Int64 z) : Decode.int (Enc.int z) = .ok z := by
  unfold Decode.int Enc.int JsonNumber.fromInt
  simp only []
  rw [if_pos ⟨trivial, h.1, h.2⟩]
  rfl

theorem decode_bigList (direct : Bool) (l : List (Option Int)) (h : ∀ x ∈ l, BigOk direct x) :
    Decode.bigList (Enc.bigList l) direct = .ok l := by
  unfold Decode.bigList Enc.bigList
  simp only []
  have := Except.mapM_map_ok Enc.big (Decode.big · direct) id l (fun x hx => decode_big direct x (h x hx))
  rwa [List.map_id] at this

theorem toString_int_toInt? (k : Int) : (toString k).toInt? = some k := Int.toInt?_repr k

theorem dollar_not_mem_toString (k : Int) : '$' ∉ (toString k).toList := by
  have hd : ∀ n : Nat, '$' ∉ Nat.toDigits 10 n := fun n h =>
    absurd (Nat.isDigit_of_mem_toDigits (by decide) (by decide) h) (by decide)
  show '$' ∉ (Int.repr k).toList
  rw [Int.repr_eq_if]
  split
  · rw [Nat.toList_repr]
    exact hd _
  · rw [String.toList_append, Nat.toList_repr, List.mem_append]
    rintro (h | h)
    · exact absurd h (by decide)
    · exact hd _ h

theorem parseIntKey_toString (k : Int) (h : Int64 k) : Decode.parseIntKey (toString k) = .ok k := by
  unfold Decode.parseIntKey
  rw [toString_int_toInt?]
  simp only []
  rw [if_pos ⟨h.1, h.2⟩]
  rfl

theorem KeyedDistinct.of_injective {κ β} {key : κ → String} (hkey : Function.Injective key)
    {m : List (κ × β)} (h : (m.map (·.1)).Nodup) : KeyedDistinct key m :=
  (List.pairwise_map.mp h).imp fun hab heq => hab (hkey heq)

theorem keyedDistinct_toString {β} {m : List (Int × β)} (h : (m.map (·.1)).Nodup) :
    KeyedDistinct toString m := .of_injective (fun _ _ => Int.repr_injective) h

theorem keyedDistinct_id {β} {m : List (String × β)} (h : (m.map (·.1)).Nodup) :
    KeyedDistinct id m := .of_injective Function.injective_id h

/-- the decimal text of an integer is neither `"$i"` nor `"$b"`. -/
theorem notLeaf_intKeys {β} (m : List (Int × β)) (enc : Int × β → Json) :
    NotLeaf (m.map fun kv => (toString kv.1, enc kv)) := by
  intro kv hkv hk
  obtain ⟨x, _, rfl⟩ := List.mem_map.mp hkv
  have h := dollar_not_mem_toString x.1
  rcases hk with hk | hk
  · rw [show toString x.1 = "$i" from hk] at h
    exact absurd (by decide) h
  · rw [show toString x.1 = "$b" from hk] at h
    exact absurd (by decide) h

theorem big_ne_str (x : Option Int) (s : String) : Enc.big x ≠ .str s := by
  cases x <;> simp [Enc.big, Enc.leafI, Json.mkObj]

theorem intMap_mkObj (direct : Bool) {l : List (String × Json)} (hd : KeysDistinct l) (hn : NotLeaf l) :
    Decode.intMap (Json.mkObj l) direct =
      (do let r ← (sortedEntries l).mapM fun (k, v) => do pure (← Decode.parseIntKey k, ← Decode.big v direct)
          pure (Decode.dedupKeys r)) := by
  obtain ⟨h1, h2⟩ := leaf_mkObj_none hd hn
  have he := objEntries_mkObj l
  unfold Decode.intMap
  unfold Json.mkObj at h1 h2 he ⊢
  simp only [h1, h2, he]
  rfl

theorem strMap_mkObj (direct : Bool) {l : List (String × Json)} (hd : KeysDistinct l) (hn : NotLeaf l) :
    Decode.strMap (Json.mkObj l) direct =
      ((sortedEntries l).mapM fun (k, v) => do pure (k, ← Decode.big v direct)) := by
  obtain ⟨h1, h2⟩ := leaf_mkObj_none hd hn
  have he := objEntries_mkObj l
  unfold Decode.strMap
  unfold Json.mkObj at h1 h2 he ⊢
  simp only [h1, h2, he]
  rfl

theorem decode_intMap (direct : Bool) (m : IntMap) (h : IntMapOk direct m) :
    Decode.intMap (Enc.intMap m) direct = .ok (sortByKey toString m) := by
  have hk := keyedDistinct_toString h.nodup
  unfold Enc.intMap
  rw [intMap_mkObj direct (hk.map _) (notLeaf_intKeys m _), mapM_sortedEntries_keyed hk _ _ id]
  · rw [List.map_id]
    show Except.ok (Decode.dedupKeys _) = _
    rw [dedupKeys_of_nodup _ (((sortByKey_perm hk).map _).nodup_iff.mpr h.nodup)]
  · intro kv hm
    simp only [parseIntKey_toString kv.1 (h.keys kv hm), decode_big direct kv.2 (h.vals kv hm)]
    rfl

structure StrMapOk (direct : Bool) (m : List (String × Option Int)) : Prop where
  nodup : (m.map (·.1)).Nodup
  vals : ∀ kv ∈ m, BigOk direct kv.2

theorem decode_strMap (direct : Bool) (m : List (String × Option Int)) (h : StrMapOk direct m) :
    Decode.strMap (Enc.strMap m) direct = .ok (sortByKey id m) := by
  have hk := keyedDistinct_id h.nodup
  have hn : NotLeaf (m.map fun kv => (id kv.1, Enc.big kv.2)) := by
    intro kv hkv _ s
    obtain ⟨x, _, rfl⟩ := List.mem_map.mp hkv
    exact big_ne_str _ s
  show Decode.strMap (Json.mkObj (m.map fun kv => (id kv.1, Enc.big kv.2))) direct = _
  rw [strMap_mkObj direct (hk.map _) hn, mapM_sortedEntries_keyed hk _ _ id, List.map_id]
  intro kv hm
  simp only [decode_big direct kv.2 (h.vals kv hm)]
  rfl

theorem sacc_mkObj {l : List (String × Json)} (hf : FieldNames l) {data : Option (List UInt8)} {pk : Nat}
    (h1 : Decode.bytes (member l "data") = .ok data) (h2 : Decode.uint (member l "pk") = .ok pk) :
    Decode.sacc (Json.mkObj l) = .ok (some { data := data, pkCounter := pk }) := by
  unfold Decode.sacc
  simp only [structObj_mkObj hf, optField_mkObj hf.distinct, bind, Except.bind, h1, h2]
  rfl

theorem decode_sacc (x : Option SignedAccumulator) (h : ∀ s, x = some s → s.pkCounter < 2 ^ 64) :
    Decode.sacc (Enc.sacc x) = .ok x := by
  cases x with
  | none => rfl
  | some s => exact sacc_mkObj (by simp [FieldNames]) (decode_bytes _) (decode_uint _ (h s rfl))

structure NonRevProof.WireOk (direct : Bool) (nr : NonRevProof) : Prop where
  cr : BigOk direct nr.cr
  cu : BigOk direct nr.cu
  responses : StrMapOk direct (nr.responses.filter (·.1 ≠ "alpha"))
  sacc : ∀ s, nr.sacc = some s → s.pkCounter < 2 ^ 64

/-- what the decoder returns for an encoded non-revocation proof: the omitted fields are gone,
    the responses come in key order. -/
def NonRevProof.reread (nr : NonRevProof) : NonRevProof :=
  { nr.strip with responses := sortByKey id nr.strip.responses }

theorem nonrev_mkObj (direct : Bool) {l : List (String × Json)} (hf : FieldNames l) {cr cu : Option Int}
    {rs : List (String × Option Int)} {sa : Option SignedAccumulator}
    (h1 : Decode.big (member l "C_r") direct = .ok cr) (h2 : Decode.big (member l "C_u") direct = .ok cu)
    (h3 : Decode.strMap (member l "responses") direct = .ok rs)
    (h4 : Decode.sacc (member l "sacc") = .ok sa) :
    Decode.nonrev (Json.mkObj l) direct = .ok (some { cr := cr, cu := cu, responses := rs, sacc := sa }) := by
  unfold Decode.nonrev
  simp only [structObj_mkObj hf, optField_mkObj hf.distinct, bind, Except.bind, h1, h2, h3, h4]
  rfl

theorem decode_nonrev (direct : Bool) (x : Option NonRevProof) (h : ∀ nr, x = some nr → nr.WireOk direct) :
    Decode.nonrev (Enc.nonrev x) direct = .ok (x.map NonRevProof.reread) := by
  cases x with
  | none => rfl
  | some nr =>
    have hw := h nr rfl
    exact nonrev_mkObj direct (by simp [FieldNames]) (decode_big _ _ hw.cr) (decode_big _ _ hw.cu)
      (decode_strMap _ _ hw.responses) (decode_sacc _ hw.sacc)

structure RangeProof.WireOk (direct : Bool) (rp : RangeProof) : Prop where
  cs : ∀ x ∈ rp.cs, BigOk direct x
  ds : ∀ x ∈ rp.ds, BigOk direct x
  vs : ∀ x ∈ rp.vs, BigOk direct x
  v5 : BigOk direct rp.v5
  k : BigOk direct rp.k
  ld : rp.ld < 2 ^ 64
  a : rp.a < 2 ^ 64
  sign : Int64 rp.sign

theorem rangeProof_mkObj (direct : Bool) {l : List (String × Json)} (hf : FieldNames l)
    {cs ds vs : List (Option Int)} {v5 k : Option Int} {ld a : Nat} {sign : Int}
    (h1 : Decode.bigList (member l "Cs") direct = .ok cs) (h2 : Decode.bigList (member l "ds") direct = .ok ds)
    (h3 : Decode.bigList (member l "vs") direct = .ok vs) (h4 : Decode.big (member l "v5") direct = .ok v5)
    (h5 : Decode.uint (member l "l_d") = .ok ld) (h6 : Decode.int (member l "sign") = .ok sign)
    (h7 : Decode.uint (member l "a") = .ok a) (h8 : Decode.big (member l "k") direct = .ok k) :
    Decode.rangeProof (Json.mkObj l) direct =
      .ok (some { cs := cs, ds := ds, vs := vs, v5 := v5, ld := ld, sign := sign, a := a, k := k }) := by
  unfold Decode.rangeProof
  simp only [structObj_mkObj hf, optField_mkObj hf.distinct, bind, Except.bind, h1, h2, h3, h4, h5, h6, h7, h8]
  rfl

theorem decode_rangeProof (direct : Bool) (x : Option RangeProof) (h : ∀ rp, x = some rp → rp.WireOk direct) :
    Decode.rangeProof (Enc.rangeProof x) direct = .ok (x.map RangeProof.strip) := by
  cases x with
  | none => rfl
  | some rp =>
    have hw := h rp rfl
    exact rangeProof_mkObj direct (by simp [FieldNames]) (decode_bigList _ _ hw.cs) (decode_bigList _ _ hw.ds)
      (decode_bigList _ _ hw.vs) (decode_big _ _ hw.v5) (decode_uint _ hw.ld) (decode_int _ hw.sign)
      (decode_uint _ hw.a) (decode_big _ _ hw.k)

structure RPMapOk (direct : Bool) (m : RPMap) : Prop where
  nodup : (m.map (·.1)).Nodup
  keys : ∀ kv ∈ m, Int64 kv.1
  vals : ∀ kv ∈ m, ∀ rp ∈ kv.2, ∀ r, rp = some r → r.WireOk direct

theorem rangeProofs_mkObj (direct : Bool) {l : List (String × Json)} (hd : KeysDistinct l) (hn : NotLeaf l) :
    Decode.rangeProofs (Json.mkObj l) direct =
      (do let r ← (sortedEntries l).mapM fun (k, v) => do
            let key ← Decode.parseIntKey k
            let ps ← (match v with
              | .null => pure []
              | .arr a => a.toList.mapM (Decode.rangeProof · direct)
              | _ => throw () : Decode.D (List (Option RangeProof)))
            pure (key, ps)
          pure (some (Decode.dedupKeys r))) := by
  obtain ⟨h1, h2⟩ := leaf_mkObj_none hd hn
  have he := objEntries_mkObj l
  unfold Decode.rangeProofs
  unfold Json.mkObj at h1 h2 he ⊢
  simp only [h1, h2, he]
  rfl

/-- what the decoder returns for an encoded range-proof map: every `mResponse` gone, entries in
    the order of their key texts. -/
def rereadRPMap (m : RPMap) : RPMap := stripRPMap (sortByKey toString m)

theorem decode_rangeProofs (direct : Bool) (x : Option RPMap) (h : ∀ m, x = some m → RPMapOk direct m) :
    Decode.rangeProofs (Enc.rangeProofs x) direct = .ok (x.map rereadRPMap) := by
  cases x with
  | none => rfl
  | some m =>
    have hw := h m rfl
    have hk := keyedDistinct_toString hw.nodup
    show Decode.rangeProofs (Json.mkObj _) direct = _
    rw [rangeProofs_mkObj direct (hk.map _) (notLeaf_intKeys m _),
      mapM_sortedEntries_keyed hk _ _ (fun kv => (kv.1, kv.2.map (Option.map RangeProof.strip)))]
    · show Except.ok (some (Decode.dedupKeys _)) = _
      rw [dedupKeys_of_nodup]
      · rfl
      · rw [List.map_map]
        exact ((sortByKey_perm hk).map _).nodup_iff.mpr hw.nodup
    · intro kv hm
      simp only [parseIntKey_toString kv.1 (hw.keys kv hm),
        Except.mapM_map_ok Enc.rangeProof (Decode.rangeProof · direct) (Option.map RangeProof.strip) kv.2
          (fun rp hrp => decode_rangeProof direct rp (hw.vals kv hm rp hrp))]
      rfl

/-- what the wire can carry of a disclosure proof: non-negative integers (any integers if
    `direct`, see `BigOk`), distinct 64-bit map keys, 64-bit counters. The omitted fields are
    unconstrained. -/
structure ProofD.WireOk (direct : Bool) (p : ProofD) : Prop where
  c : BigOk direct p.c
  a : BigOk direct p.a
  eResponse : BigOk direct p.eResponse
  vResponse : BigOk direct p.vResponse
  aResponses : IntMapOk direct p.aResponses
  aDisclosed : IntMapOk direct p.aDisclosed
  nonrev : ∀ nr, p.nonrev = some nr → nr.WireOk direct
  rangeProofs : ∀ m, p.rangeProofs = some m → RPMapOk direct m

/-- what the decoder returns for an encoded disclosure proof: the omitted fields are gone, maps
    come in the order of their key texts. -/
def ProofD.reread (p : ProofD) : ProofD :=
  { p with aResponses := sortByKey toString p.aResponses, aDisclosed := sortByKey toString p.aDisclosed,
           nonrev := p.nonrev.map NonRevProof.reread, rangeProofs := p.rangeProofs.map rereadRPMap }

theorem proofD_mkObj (direct : Bool) {l : List (String × Json)} (hf : FieldNames l)
    {c a e v : Option Int} {ar ad : IntMap} {nr : Option NonRevProof} {rps : Option RPMap}
    (h1 : Decode.big (member l "c") direct = .ok c) (h2 : Decode.big (member l "A") direct = .ok a)
    (h3 : Decode.big (member l "e_response") direct = .ok e)
    (h4 : Decode.big (member l "v_response") direct = .ok v)
    (h5 : Decode.intMap (member l "a_responses") direct = .ok ar)
    (h6 : Decode.intMap (member l "a_disclosed") direct = .ok ad)
    (h7 : Decode.nonrev (member l "nonrev_proof") direct = .ok nr)
    (h8 : Decode.rangeProofs (member l "rangeproofs") direct = .ok rps) :
    Decode.proofD (Json.mkObj l) direct =
      .ok { c := c, a := a, eResponse := e, vResponse := v, aResponses := ar, aDisclosed := ad,
            nonrev := nr, rangeProofs := rps } := by
  unfold Decode.proofD
  simp only [structObj_mkObj hf, optField_mkObj hf.distinct, bind, Except.bind, h1, h2, h3, h4, h5, h6, h7, h8]
  rfl

/-- the decoder inverts the canonical encoder up to what the wire does not carry: the omitted
    fields and the order in which a map lists its entries (`reread`). -/
theorem decode_encode_proofD (direct : Bool) (p : ProofD) (hw : p.WireOk direct) :
    Decode.proofD p.toTree direct = .ok p.reread :=
  proofD_mkObj direct (by simp [FieldNames]) (decode_big _ _ hw.c) (decode_big _ _ hw.a)
    (decode_big _ _ hw.eResponse) (decode_big _ _ hw.vResponse) (decode_intMap _ _ hw.aResponses)
    (decode_intMap _ _ hw.aDisclosed) (decode_nonrev _ _ hw.nonrev) (decode_rangeProofs _ _ hw.rangeProofs)

structure ProofU.WireOk (direct : Bool) (p : ProofU) : Prop where
  u : BigOk direct p.u
  c : BigOk direct p.c
  vPrimeResponse : BigOk direct p.vPrimeResponse
  sResponse : BigOk direct p.sResponse
  mUserResponses : IntMapOk direct p.mUserResponses

def ProofU.reread (p : ProofU) : ProofU :=
  { p with mUserResponses := sortByKey toString p.mUserResponses }

theorem proofU_mkObj (direct : Bool) {l : List (String × Json)} (hf : FieldNames l)
    {u c vp sr : Option Int} {m : IntMap}
    (h1 : Decode.big (member l "U") direct = .ok u) (h2 : Decode.big (member l "c") direct = .ok c)
    (h3 : Decode.big (member l "v_prime_response") direct = .ok vp)
    (h4 : Decode.big (member l "s_response") direct = .ok sr)
    (h5 : Decode.intMap (member l "m_user_responses") direct = .ok m) :
    Decode.proofU (Json.mkObj l) direct =
      .ok { u := u, c := c, vPrimeResponse := vp, sResponse := sr, mUserResponses := m } := by
  unfold Decode.proofU
  simp only [structObj_mkObj hf, optField_mkObj hf.distinct, bind, Except.bind, h1, h2, h3, h4, h5]
  rfl

theorem decode_encode_proofU (direct : Bool) (p : ProofU) (hw : p.WireOk direct) :
    Decode.proofU p.toTree direct = .ok p.reread :=
  proofU_mkObj direct (by simp [FieldNames]) (decode_big _ _ hw.u) (decode_big _ _ hw.c)
    (decode_big _ _ hw.vPrimeResponse) (decode_big _ _ hw.sResponse) (decode_intMap _ _ hw.mUserResponses)

/-! ## a proof whose maps are already in key order comes back stripped, not reordered -/

/-- the maps of a proof are listed in the order a JSON object yields them. -/
structure ProofD.MapsSorted (p : ProofD) : Prop where
  aResponses : KeyedSorted toString p.aResponses
  aDisclosed : KeyedSorted toString p.aDisclosed
  nonrev : ∀ nr, p.nonrev = some nr → KeyedSorted id (nr.responses.filter (·.1 ≠ "alpha"))
  rangeProofs : ∀ m, p.rangeProofs = some m → KeyedSorted toString m

theorem ProofD.reread_eq_strip (p : ProofD) (h : p.MapsSorted) : p.reread = p.strip := by
  unfold ProofD.reread ProofD.strip
  rw [sortByKey_of_sorted h.aResponses, sortByKey_of_sorted h.aDisclosed]
  congr 1
  · cases hnr : p.nonrev with
    | none => rfl
    | some nr =>
      simp only [Option.map_some, NonRevProof.reread]
      rw [sortByKey_of_sorted (m := nr.strip.responses) (h.nonrev nr hnr)]
  · cases hm : p.rangeProofs with
    | none => rfl
    | some m =>
      simp only [Option.map_some, rereadRPMap]
      rw [sortByKey_of_sorted (h.rangeProofs m hm)]

theorem ProofU.reread_eq_self (p : ProofU) (h : KeyedSorted toString p.mUserResponses) : p.reread = p := by
  unfold ProofU.reread
  rw [sortByKey_of_sorted h]

/-! ## proof lists -/

def Proof.toTree : Proof → Json
  | .d p => p.toTree
  | .u p => p.toTree

def Proof.reread : Proof → Proof
  | .d p => .d p.reread
  | .u p => .u p.reread

/-- a member of a proof list the wire can carry; `ProofList.UnmarshalJSON` tells the two kinds
    apart by the presence of `A` resp. `U`. -/
def Proof.WireOk (direct : Bool) : Proof → Prop
  | .d p => p.WireOk direct ∧ p.a.isSome
  | .u p => p.WireOk direct ∧ p.u.isSome

def Proof.MapsSorted : Proof → Prop
  | .d p => p.MapsSorted
  | .u p => KeyedSorted toString p.mUserResponses

/-- an issuance commitment proof read as a disclosure proof has no `A`: of the members a
    disclosure proof has, its tree carries `c` only. -/
theorem proofD_of_proofU_tree (direct : Bool) (p : ProofU) (hw : p.WireOk direct) :
    ∃ d, Decode.proofD p.toTree direct = .ok d ∧ d.a = none :=
  ⟨_, proofD_mkObj direct (by simp [FieldNames]) (decode_big _ _ hw.c) rfl rfl rfl rfl rfl rfl rfl, rfl⟩

def proofListToTree (pl : List Proof) : Json := .arr (pl.map Proof.toTree).toArray

theorem decode_encode_proofList (direct : Bool) (pl : List Proof) (hw : ∀ pr ∈ pl, pr.WireOk direct) :
    Decode.proofList (proofListToTree pl) direct = .ok (pl.map Proof.reread) := by
  unfold Decode.proofList proofListToTree
  simp only []
  refine Except.mapM_map_ok Proof.toTree _ Proof.reread pl fun pr hpr => ?_
  have hwp := hw pr hpr
  cases pr with
  | d p =>
    show (Decode.proofD p.toTree direct >>= _) = _
    rw [decode_encode_proofD direct p hwp.1]
    exact if_pos hwp.2
  | u p =>
    obtain ⟨d, hd, hda⟩ := proofD_of_proofU_tree direct p hwp.1
    show (Decode.proofD p.toTree direct >>= _) = _
    rw [hd]
    show (if d.a.isSome = true then _ else Decode.proofU p.toTree direct >>= _) = _
    rw [hda, decode_encode_proofU direct p hwp.1]
    exact if_pos hwp.2

theorem Proof.reread_eq_strip (pr : Proof) (h : pr.MapsSorted) : pr.reread = pr.strip := by
  cases pr with
  | d p => exact congrArg Proof.d (ProofD.reread_eq_strip p h)
  | u p => exact congrArg Proof.u (ProofU.reread_eq_self p h)

end Gabi
