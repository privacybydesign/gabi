/-
  GabiProofs.KeyProofTree — the ideal reading (`holds`) of the structure tree of the composed
  key-correctness proof (GabiModel.KeyProofTree); what each structure states under it, as arithmetic over
  the values of its named commitments (`reads`, `*_holds_iff`), and the number theory this entails
  (`*.sound`, `primeReads.evidence`); the assignment of an honest prover; lemmas on the counts, names and
  claims of the tree. The theorems about the tree are in GabiProps.C17Tree.
-/
import GabiModel.KeyProofTree
import Std.Data.String.ToNat
import Mathlib.Data.Int.ModEq
import Mathlib.Tactic.Ring
import Mathlib.Tactic.Linarith
import Mathlib.Data.List.Nodup
import Mathlib.Tactic.IntervalCases

namespace Gabi.KeyProof
open Gabi

/-! ## The ideal reading

Every named commitment `X` stands for an integer `v X` (the committed value), the generators are read as
`v "g" = 1`, `v "h" = 0` (i.e. we look at the exponent of `g`; hiders do not matter), and a representation
relation
    ∏ Lhs.base^power = ∏ Rhs.base^(power·secret)
is read as  Σ power·v(base) = Σ power·v(secret)·v(base)  over ℤ.  Sub-proofs that the code AND-composes
(one common challenge) are conjunctions, the two that it OR-composes (challenges XOR-split: the two
branches of an exponentiation step, `aPlus1ResRep`/`aMin1ResRep`) are disjunctions.  That the relations
hold over ℤ and not only modulo the group order is what the range proofs and the size of the group are
for; this is NOT proved here.  It is the reading under which the wiring is judged: doc.go of package
keyproof describes each sub-proof by the relation between hidden values that it shows. -/

/-- a representation relation read in the exponent of `g` over ℤ. -/
def ReprStructure.holds (v : String → Int) (r : ReprStructure) : Prop :=
  (r.lhs.map fun l => l.power * v l.base).sum = (r.rhs.map fun x => x.power * v x.secret * v x.base).sum

/-- the valuation reads the generators as `g ↦ 1`, `h ↦ 0`. -/
structure Ideal (v : String → Int) : Prop where
  g : v "g" = 1
  h : v "h" = 0

def PedStructure.holds (v : String → Int) (s : PedStructure) : Prop := s.repr.holds v

/-- only the relation of a range proof is read; its bound is not part of the ideal reading. -/
def RangeStructure.holds (v : String → Int) (s : RangeStructure) : Prop := s.repr.holds v

def MulStructure.holds (v : String → Int) (s : MulStructure) : Prop :=
  s.modMultPedersen.holds v ∧ s.modMultRange.holds v ∧ s.multRepr.holds v

def StepAStructure.holds (v : String → Int) (s : StepAStructure) : Prop :=
  s.bitRep.holds v ∧ s.equalityRep.holds v

def StepBStructure.holds (v : String → Int) (s : StepBStructure) : Prop :=
  s.bitRep.holds v ∧ s.mul.holds v ∧ s.prePostMul.holds v

/-- the OR of the two branches (expstep.go: `Achallenge xor Bchallenge = challenge`). -/
def StepStructure.holds (v : String → Int) (s : StepStructure) : Prop :=
  s.stepa.holds v ∨ s.stepb.holds v

def ExpStructure.holds (v : String → Int) (s : ExpStructure) : Prop :=
  (∀ p ∈ s.expBits, p.holds v) ∧ s.expBitEq.holds v ∧ (∀ p ∈ s.basePows, p.holds v) ∧
  (∀ r ∈ s.basePowRange, r.holds v) ∧ (∀ m ∈ s.basePowRels, m.holds v) ∧
  s.start.holds v ∧ s.startRep.holds v ∧ (∀ p ∈ s.interRess, p.holds v) ∧
  (∀ r ∈ s.interResRange, r.holds v) ∧ (∀ st ∈ s.interSteps, st.holds v)

/-- `aPlus1ResRep` and `aMin1ResRep` are OR-composed (primeproof.go: `APlus1Challenge xor
    AMin1Challenge = challenge`), everything else is AND-composed. -/
def PrimeStructure.holds (v : String → Int) (s : PrimeStructure) : Prop :=
  s.halfP.holds v ∧ s.halfPRep.holds v ∧ s.prea.holds v ∧ s.preaRange.holds v ∧ s.a.holds v ∧
  s.aRange.holds v ∧ s.aneg.holds v ∧ s.anegRange.holds v ∧ s.aRes.holds v ∧ s.anegRes.holds v ∧
  (s.aPlus1ResRep.holds v ∨ s.aMin1ResRep.holds v) ∧ s.anegResRep.holds v ∧
  s.aExp.holds v ∧ s.anegExp.holds v

def IsSquareStructure.holds (v : String → Int) (s : IsSquareStructure) : Prop :=
  s.nPedersen.holds v ∧ (∀ p ∈ s.squaresPedersen, p.holds v) ∧ s.nRep.holds v ∧
  (∀ r ∈ s.squaresRep, r.holds v) ∧ (∀ p ∈ s.rootsRep, p.holds v) ∧
  (∀ r ∈ s.rootsRange, r.holds v) ∧ (∀ m ∈ s.rootsValid, m.holds v)

def ValidKeyStructure.holds (v : String → Int) (s : ValidKeyStructure) : Prop :=
  s.p.holds v ∧ s.q.holds v ∧ s.pprime.holds v ∧ s.qprime.holds v ∧
  s.pPprimeRel.holds v ∧ s.qQprimeRel.holds v ∧ s.pQNRel.holds v ∧
  s.pprimeIsPrime.holds v ∧ s.qprimeIsPrime.holds v ∧ s.basesValid.holds v

/-! ## What the structures state under the ideal reading -/

/-- a Pedersen structure states nothing about the value (its relation is the definition of the
    commitment). -/
theorem ped_holds {v : String → Int} (hv : Ideal v) (name : String) : (pedStructure name).holds v := by
  simp [pedStructure, PedStructure.holds, ReprStructure.holds, hv.g, hv.h]

theorem pedRange_holds {v : String → Int} (hv : Ideal v) (name : String) (l1 l2 : Nat) :
    (pedRangeStructure name l1 l2).holds v := by
  simp [pedRangeStructure, RangeStructure.holds, ReprStructure.holds, hv.g, hv.h]

/-- the name of the quotient secret of the multiplication proof over (m1, m2, mod, result). -/
def mulQuot (m1 m2 md result : String) : String := joinU [joinU [m1, m2, md, result, "mul"], "mod"]

/-- multiplicationproof.go: of the three parts only `multRepr`, `result = m2^m1 · mod^(−quotient) · h^hider`, says
    something under the ideal reading; the Pedersen and range parts are about the quotient alone. -/
def MulStructure.reads (v : String → Int) (s : MulStructure) : Prop :=
  v s.result = v s.m1 * v s.m2 - v s.md * v (mulQuot s.m1 s.m2 s.md s.result)

/-- expstep.go: branch A (expstepa.go: the bit is 0 and the result is carried over) or branch B (expstepb.go: the bit
    is 1 and the result is multiplied by the base power `mul`). -/
def StepStructure.reads (v : String → Int) (s : StepStructure) : Prop :=
  (v s.bitname = 0 ∧ v s.stepa.postname = v s.stepa.prename) ∨ (v s.bitname = 1 ∧ s.stepb.prePostMul.reads v)

theorem mul_holds_iff {v : String → Int} (hv : Ideal v) (m1 m2 md result : String) (l : Nat) :
    (mulStructure m1 m2 md result l).holds v ↔ (mulStructure m1 m2 md result l).reads v := by
  simp [MulStructure.holds, MulStructure.reads, mulStructure, mulQuot, ped_holds hv, pedRange_holds hv,
    ReprStructure.holds, hv.h, sub_eq_add_neg, mul_comm]

theorem step_holds_iff {v : String → Int} (hv : Ideal v) (bit pre post mul md : String) (l : Nat) :
    (stepStructure bit pre post mul md l).holds v ↔ (stepStructure bit pre post mul md l).reads v := by
  have hbit0 : (stepAStructure bit pre post).bitRep.holds v ↔ v bit = 0 := by
    simp [stepAStructure, ReprStructure.holds, hv.h]
  have heq : (stepAStructure bit pre post).equalityRep.holds v ↔ v post = v pre := by
    simp [stepAStructure, ReprStructure.holds, hv.h, add_neg_eq_zero, eq_comm]
  have hbit1 : (stepBStructure bit pre post mul md l).bitRep.holds v ↔ v bit = 1 := by
    simp [stepBStructure, ReprStructure.holds, hv.h, hv.g, add_neg_eq_zero]
  exact or_congr (and_congr hbit0 heq)
    (and_congr hbit1 ((and_iff_right (ped_holds hv _)).trans (mul_holds_iff hv ..)))

theorem MulStructure.reads.modEq {v : String → Int} {s : MulStructure} (h : s.reads v) :
    v s.result ≡ v s.m1 * v s.m2 [ZMOD v s.md] :=
  Int.modEq_iff_dvd.mpr ⟨v (mulQuot s.m1 s.m2 s.md s.result), by rw [h]; ring⟩

/-- the number with the binary digits `b 0, b 1, …, b (k-1)` (least significant first). -/
def bitsNat (b : Nat → Int) : Nat → Nat
  | 0 => 0
  | k + 1 => bitsNat b k + 2 ^ k * (b k).toNat

theorem bitsNat_lt (b : Nat → Int) (k : Nat) (hb : ∀ i, i < k → b i = 0 ∨ b i = 1) : bitsNat b k < 2 ^ k := by
  induction k with
  | zero => simp [bitsNat]
  | succ k ih =>
    have := ih (fun i hi => hb i (by omega))
    have hk : (b k).toNat ≤ 1 := by rcases hb k (by omega) with h | h <;> simp [h]
    have : 2 ^ k * (b k).toNat ≤ 2 ^ k * 1 := Nat.mul_le_mul_left _ hk
    simp only [bitsNat, pow_succ]
    omega

theorem sum_bits_eq (b : Nat → Int) (k : Nat) (hb : ∀ i, i < k → b i = 0 ∨ b i = 1) :
    ((List.range k).map fun i => (2 : Int) ^ i * b i).sum = (bitsNat b k : Int) := by
  induction k with
  | zero => simp [bitsNat]
  | succ k ih =>
    rw [List.range_succ, List.map_append, List.sum_append, ih (fun i hi => hb i (by omega))]
    have hk : ((b k).toNat : Int) = b k := by rcases hb k (by omega) with h | h <;> simp [h]
    simp [bitsNat, hk]

/-- the arithmetic of square-and-multiply: with `B i ≡ base^(2^i)` built by squaring and `P k` the
    running product before step `k` (`P 0 = 1`), `P l ≡ base^(b_0 + 2·b_1 + … + 2^(l-1)·b_(l-1))`. -/
theorem exp_chain {m base : Int} {B b P : Nat → Int} {l : Nat}
    (hB0 : B 0 ≡ base [ZMOD m]) (hBs : ∀ i, i + 1 < l → B (i + 1) ≡ B i * B i [ZMOD m]) (hP0 : P 0 = 1)
    (hs : ∀ i, i < l → (b i = 0 ∧ P (i + 1) = P i) ∨ (b i = 1 ∧ P (i + 1) ≡ B i * P i [ZMOD m])) :
    (∀ i, i < l → b i = 0 ∨ b i = 1) ∧ P l ≡ base ^ bitsNat b l [ZMOD m] := by
  have hB : ∀ i, i < l → B i ≡ base ^ 2 ^ i [ZMOD m] := by
    intro i
    induction i with
    | zero => exact fun _ => by simpa using hB0
    | succ i ih =>
      intro hi
      have h := ih (by omega)
      exact (hBs i hi).trans (by simpa [pow_succ, pow_mul, pow_two] using h.mul h)
  have hP : ∀ k, k ≤ l → P k ≡ base ^ bitsNat b k [ZMOD m] := by
    intro k
    induction k with
    | zero => exact fun _ => by simp [bitsNat, hP0]
    | succ k ih =>
      intro hk
      rcases hs k hk with ⟨hb, hp⟩ | ⟨hb, hp⟩
      · simpa [bitsNat, hb, hp] using ih (by omega)
      · refine hp.trans ?_
        simpa [bitsNat, hb, pow_add, mul_comm] using (hB k hk).mul (ih (by omega))
  exact ⟨fun i hi => (hs i hi).imp And.left And.left, hP l le_rfl⟩

theorem getElem?_map_range {α : Type} (f : Nat → α) {n i : Nat} (hi : i < n) :
    ((List.range n).map f)[i]? = some (f i) := by
  simp [hi]

theorem expBasePowRel_eq (my base md : String) (l i : Nat) :
    expBasePowRel my base md l i =
      mulStructure (if i = 0 then expStartName my else expBaseName my (i - 1))
        (if i = 0 then base else expBaseName my (i - 1)) md (expBaseName my i) l := by
  unfold expBasePowRel
  split <;> rfl

/-- step `i` leads from the intermediate result before it (`start` for the first step) to the one after it,
    which is `result` for the last step.  In a proof of one bit the only step is a first step: it writes
    `inter_0`, and nothing writes `result`. -/
theorem expInterStep_eq (my md result : String) (l i : Nat) :
    expInterStep my md result l i =
      stepStructure (expBitName my i) (if i = 0 then expStartName my else expInterName my (i - 1))
        (if i ≠ 0 ∧ i = l - 1 then result else expInterName my i) (expBaseName my i) md l := by
  unfold expInterStep
  by_cases h0 : i = 0
  · rw [if_pos h0, if_pos h0, if_neg (fun h => h.1 h0)]
  · rw [if_neg h0, if_neg h0, if_congr (and_iff_right h0) rfl rfl]
    split <;> rfl

/-- exp.go: `expBitEq`, `basePowRels`, `startRep` and `interSteps`; the remaining parts are Pedersen and range
    structures, which hold for every ideal valuation. -/
def expReads (v : String → Int) (base exponent md result : String) (l : Nat) : Prop :=
  let my := expName base exponent md result
  v exponent = ((List.range l).map fun i => 2 ^ i * v (expBitName my i)).sum ∧
  (∀ i, i < l → (expBasePowRel my base md l i).reads v) ∧ v (expStartName my) = 1 ∧
  ∀ i, i < l → (expInterStep my md result l i).reads v

theorem exp_holds_iff {v : String → Int} (hv : Ideal v) (base exponent md result : String) (l : Nat) :
    (expStructure base exponent md result l).holds v ↔ expReads v base exponent md result l := by
  simp only [ExpStructure.holds, expStructure, expReads, List.forall_mem_map, List.mem_range, ped_holds hv,
    pedRange_holds hv, expBasePowRel_eq, expInterStep_eq, mul_holds_iff hv, step_holds_iff hv, implies_true, true_and]
  -- left are the two linear relations, `expBitEq` and `startRep`
  refine and_congr ?_ (and_congr_right' (and_congr_left' ?_))
  · simp [ReprStructure.holds, hv.h, Function.comp_def, neg_add_eq_zero]
  · simp [ReprStructure.holds, hv.g, hv.h, add_neg_eq_zero]

theorem expReads.sound {v : String → Int} {base exponent md result : String} {l : Nat} (hl : 2 ≤ l)
    (h : expReads v base exponent md result l) :
    0 ≤ v exponent ∧ v exponent < 2 ^ l ∧ v result ≡ v base ^ (v exponent).toNat [ZMOD v md] := by
  obtain ⟨hEq, hRel, hStart, hStep⟩ := h
  set my := expName base exponent md result
  -- the running product before step `k`: `start`, then the intermediate results, `result` after the last step
  let P : Nat → Int := fun k =>
    v (if k = 0 then expStartName my else if k = l then result else expInterName my (k - 1))
  have hB0 : v (expBaseName my 0) ≡ v base [ZMOD v md] := by
    have h0 := (hRel 0 (by omega)).modEq
    rw [expBasePowRel_eq, if_pos rfl, if_pos rfl] at h0
    simpa [hStart, mulStructure] using h0
  have hBs : ∀ i, i + 1 < l →
      v (expBaseName my (i + 1)) ≡ v (expBaseName my i) * v (expBaseName my i) [ZMOD v md] := by
    intro i hi
    have h := (hRel (i + 1) hi).modEq
    rwa [expBasePowRel_eq, if_neg i.succ_ne_zero, if_neg i.succ_ne_zero] at h
  have hs : ∀ i, i < l → (v (expBitName my i) = 0 ∧ P (i + 1) = P i) ∨
      (v (expBitName my i) = 1 ∧ P (i + 1) ≡ v (expBaseName my i) * P i [ZMOD v md]) := by
    intro i hi
    have hpre : P i = v (if i = 0 then expStartName my else expInterName my (i - 1)) := by
      simp only [P, if_neg hi.ne]
    have hpost : P (i + 1) = v (if i ≠ 0 ∧ i = l - 1 then result else expInterName my i) := by
      simp only [P, if_neg i.succ_ne_zero, Nat.add_sub_cancel, show i + 1 = l ↔ i ≠ 0 ∧ i = l - 1 by omega]
    have h := hStep i hi
    rw [expInterStep_eq] at h
    rw [hpre, hpost]
    exact h.imp id (And.imp_right MulStructure.reads.modEq)
  obtain ⟨hbits, hres⟩ := exp_chain hB0 hBs (P := P) (show P 0 = 1 from hStart) hs
  have hexp : v exponent = bitsNat (fun i => v (expBitName my i)) l := hEq.trans (sum_bits_eq _ l hbits)
  have hPl : P l = v result := by simp only [P, if_neg (show l ≠ 0 by omega), if_pos]
  rw [hPl] at hres
  rw [hexp, Int.toNat_natCast]
  exact ⟨by positivity, by exact_mod_cast bitsNat_lt _ l hbits, hres⟩

/-- **Euler-criterion evidence** that the prime proof gives for the value `x` of its prime name:
    `x = 2h+1` with `0 ≤ h < 2^l`, a value `a` with `a^h ≡ ±1 (mod x)` and a value `aneg` with
    `aneg^h ≡ −1 (mod x)`.  (That `a` is unpredictable — the relation `agenproof` to the hash of
    the `prea` commitment — is built on the fly in primeproof.go and is not part of the stored
    structure.) -/
def EulerEvidence (x : Int) (l : Nat) : Prop :=
  ∃ h a aneg : Int, x = 2 * h + 1 ∧ 0 ≤ h ∧ h < 2 ^ l ∧
    (a ^ h.toNat ≡ 1 [ZMOD x] ∨ a ^ h.toNat ≡ -1 [ZMOD x]) ∧ aneg ^ h.toNat ≡ -1 [ZMOD x]

/-- primeproof.go: `halfPRep`, `aPlus1ResRep` or `aMin1ResRep`, `anegResRep`, `aExp` and `anegExp`. -/
def primeReads (v : String → Int) (name : String) (l : Nat) : Prop :=
  let my := joinU [name, "primeproof"]
  v name = 2 * v (joinU [my, "halfp"]) + 1 ∧
  (v (joinU [my, "ares"]) = 1 ∨ v (joinU [my, "ares"]) = -1) ∧ v (joinU [my, "anegres"]) = -1 ∧
  expReads v (joinU [my, "a"]) (joinU [my, "halfp"]) name (joinU [my, "ares"]) l ∧
  expReads v (joinU [my, "aneg"]) (joinU [my, "halfp"]) name (joinU [my, "anegres"]) l

theorem prime_holds_iff {v : String → Int} (hv : Ideal v) (name : String) (l : Nat) :
    (primeStructure name l).holds v ↔ primeReads v name l := by
  simp only [PrimeStructure.holds, primeStructure, primeReads, ped_holds hv, pedRange_holds hv, exp_holds_iff hv,
    true_and]
  -- left are the linear relations `halfPRep`, `aPlus1ResRep` ∨ `aMin1ResRep`, `anegResRep`
  refine and_congr ?_ (and_congr (or_congr ?_ ?_) (and_congr_left' ?_))
  · simp [ReprStructure.holds, hv.g, hv.h]; omega
  · simp [ReprStructure.holds, hv.g, hv.h, add_neg_eq_zero]
  · simp [ReprStructure.holds, hv.g, hv.h, add_eq_zero_iff_eq_neg]
  · simp [ReprStructure.holds, hv.g, hv.h, add_eq_zero_iff_eq_neg]

theorem primeReads.evidence {v : String → Int} {name : String} {l : Nat} (hl : 2 ≤ l)
    (h : primeReads v name l) : EulerEvidence (v name) l := by
  obtain ⟨hhalf, hor, hneg, hA, hAneg⟩ := h
  obtain ⟨he0, helt, hares⟩ := hA.sound hl
  obtain ⟨-, -, hanegres⟩ := hAneg.sound hl
  exact ⟨_, _, _, hhalf, he0, helt, hor.imp (· ▸ hares.symm) (· ▸ hares.symm), hneg ▸ hanegres.symm⟩

/-- `9` has no Euler-criterion evidence: no fourth power is `−1` modulo 9. -/
theorem no_evidence_for_nine (l : Nat) : ¬ EulerEvidence 9 l := by
  rintro ⟨h, a, aneg, h9, -, -, -, hneg⟩
  have hh : h = 4 := by omega
  subst hh
  have h1 : aneg ^ 4 % 9 = 8 := hneg
  have h2 : aneg ^ 4 % 9 = (aneg % 9) ^ 4 % 9 := ((Int.mod_modEq aneg 9).pow 4).symm
  rw [h2] at h1
  have hlo := Int.emod_nonneg aneg (by norm_num : (9 : Int) ≠ 0)
  have hhi := Int.emod_lt_of_pos aneg (by norm_num : (0 : Int) < 9)
  generalize aneg % 9 = r at h1 hlo hhi
  interval_cases r <;> simp at h1

/-- issquareproof.go: `nRep`, `squaresRep` and `rootsValid`. -/
def isSquareReads (v : String → Int) (n : Int) (squares : List Int) : Prop :=
  v "N" = n ∧ (∀ i (hi : i < squares.length), v (sqName i) = squares[i]) ∧
  ∀ i, i < squares.length → (mulStructure (rootName i) (rootName i) "N" (sqName i) (bitLen n)).reads v

theorem isSquare_holds_iff {v : String → Int} (hv : Ideal v) (n : Int) (squares : List Int) :
    (isSquareStructure n squares).holds v ↔ isSquareReads v n squares := by
  simp only [IsSquareStructure.holds, isSquareStructure, isSquareReads, ped_holds hv, pedRange_holds hv,
    mul_holds_iff hv, List.forall_mem_map, List.mem_range, implies_true, true_and]
  -- left are the linear relations `nRep` and `squaresRep`
  refine and_congr ?_ (and_congr_left' ?_)
  · simp [ReprStructure.holds, hv.g, hv.h, neg_add_eq_zero]
  · simp [ReprStructure.holds, hv.g, hv.h, neg_add_eq_zero, List.mk_mem_zipIdx_iff_getElem?,
      List.getElem?_eq_some_iff]
    exact ⟨fun h i hi => h _ i hi rfl, fun h a i hi ha => ha ▸ h i hi⟩

theorem isSquareReads.sound {v : String → Int} {n : Int} {squares : List Int} (h : isSquareReads v n squares) :
    ∀ i (hi : i < squares.length), ∃ r : Int, r * r ≡ squares[i] [ZMOD n] := fun i hi => by
  have hm : v (sqName i) ≡ _ [ZMOD v "N"] := (h.2.2 i hi).modEq
  rw [h.2.1 i hi, h.1] at hm
  exact ⟨_, hm.symm⟩

/-- the key structure with the second prime proof over `name`: `NewValidKeyProofStructure` has "qprime"
    there, `C17Tree.slipStructure` "pprime". -/
theorem validKey_holds_iff {v : String → Int} (hv : Ideal v) (n : Int) (bases : List Int) (name : String) :
    ({ validKeyStructure n bases with qprimeIsPrime := primeStructure name (primeBitlen n) }).holds v ↔
      v "p" = 2 * v "pprime" + 1 ∧ v "q" = 2 * v "qprime" + 1 ∧ v "p" * v "q" = n ∧
      primeReads v "pprime" (primeBitlen n) ∧ primeReads v name (primeBitlen n) ∧ isSquareReads v n bases := by
  simp only [ValidKeyStructure.holds, validKeyStructure, ped_holds hv, prime_holds_iff hv, isSquare_holds_iff hv,
    true_and]
  -- left are the relations `pPprimeRel`, `qQprimeRel`, `pQNRel`
  refine and_congr ?_ (and_congr ?_ (and_congr_left' ?_))
  · simp [ReprStructure.holds, hv.g, hv.h]; omega
  · simp [ReprStructure.holds, hv.g, hv.h]; omega
  · simp [ReprStructure.holds, hv.g, hv.h, mul_comm, eq_comm]

/-! ### The assignment of an honest prover

C17Tree evaluates what the tree states (`validKey_holds_iff`) on it by `decide`, hence the `Decidable`
instances; that it satisfies the reading shows that the statements about the tree are not vacuous. -/

instance (v : String → Int) (s : MulStructure) : Decidable (s.reads v) := by unfold MulStructure.reads; infer_instance
instance (v : String → Int) (s : StepStructure) : Decidable (s.reads v) := by unfold StepStructure.reads; infer_instance
instance (v : String → Int) (base e md r : String) (l : Nat) : Decidable (expReads v base e md r l) := by
  unfold expReads; infer_instance
instance (v : String → Int) (name : String) (l : Nat) : Decidable (primeReads v name l) := by
  unfold primeReads; infer_instance
instance (v : String → Int) (n : Int) (sq : List Int) : Decidable (isSquareReads v n sq) := by
  unfold isSquareReads; infer_instance

/-- the values an honest prover commits to inside the exponentiation proof
    `result = base^exponent mod md` with values `bv, ev, mv, rv` (`rv ≡ bv^ev mod mv`); intermediate
    results equal to `mv − 1` are committed as `−1` (exp.go, "ugly(ish) hack"). -/
def expWitness (base exponent md result : String) (bv ev mv rv : Int) (l : Nat) : List (String × Int) :=
  let my := expName base exponent md result
  let bitv : Nat → Int := fun i => (ev / 2 ^ i) % 2
  let basev : Nat → Int := fun i => bv ^ (2 ^ i) % mv
  let interv : Nat → Int := fun i =>
    if i = l - 1 then rv
    else (List.range (i + 1)).foldl (fun acc j =>
      if bitv j = 1 then (if acc * basev j % mv = mv - 1 then -1 else acc * basev j % mv) else acc) 1
  let pre : Nat → Int := fun i => if i = 0 then 1 else interv (i - 1)
  let idx := List.range l
  (idx.map fun i => (expBitName my i, bitv i)) ++ (idx.map fun i => (expBaseName my i, basev i)) ++
  [(expStartName my, 1)] ++ ((List.range (l - 1)).map fun i => (expInterName my i, interv i)) ++
  (idx.map fun i =>
    if i = 0 then (mulQuot (expStartName my) base md (expBaseName my 0), (bv - basev 0) / mv)
    else (mulQuot (expBaseName my (i - 1)) (expBaseName my (i - 1)) md (expBaseName my i),
          (basev (i - 1) * basev (i - 1) - basev i) / mv)) ++
  (idx.map fun i =>
    let prename := if i = 0 then expStartName my else expInterName my (i - 1)
    let postname := if i = 0 then expInterName my 0 else if i = l - 1 then result else expInterName my i
    (mulQuot (expBaseName my i) prename md postname, (basev i * pre i - interv i) / mv))

/-- the values an honest prover commits to inside the prime proof over `name` with value `x`,
    given `a` and `aneg`. -/
def primeWitness (name : String) (x av anegv : Int) (l : Nat) : List (String × Int) :=
  let my := joinU [name, "primeproof"]
  let h := (x - 1) / 2
  let r := av ^ h.toNat % x
  let ares := if r = 1 then 1 else r - x
  [(joinU [my, "halfp"], h), (joinU [my, "a"], av), (joinU [my, "aneg"], anegv),
   (joinU [my, "ares"], ares), (joinU [my, "anegres"], -1)] ++
  expWitness (joinU [my, "a"]) (joinU [my, "halfp"]) name (joinU [my, "ares"]) av h x ares l ++
  expWitness (joinU [my, "aneg"]) (joinU [my, "halfp"]) name (joinU [my, "anegres"]) anegv h x (-1) l

/-- the values an honest prover commits to inside the bases-valid proof (`roots[i]² ≡ squares[i]`). -/
def isSquareWitness (n : Int) (squares roots : List Int) : List (String × Int) :=
  [("N", n)] ++ (squares.zipIdx.map fun (s, i) => (sqName i, s)) ++ (roots.zipIdx.map fun (r, i) => (rootName i, r)) ++
  ((squares.zip roots).zipIdx.map fun ((s, r), i) => (mulQuot (rootName i) (rootName i) "N" (sqName i), (r * r - s) / n))

/-- the honest assignment for the key `(2p'+1)(2q'+1)`; hiders are irrelevant (read as 0). -/
def validKeyWitness (pp qp ap anegp aq anegq : Int) (bases roots : List Int) : List (String × Int) :=
  let n := (2 * pp + 1) * (2 * qp + 1)
  [("g", 1), ("h", 0), ("p", 2 * pp + 1), ("q", 2 * qp + 1), ("pprime", pp), ("qprime", qp)] ++
  primeWitness "pprime" pp ap anegp (primeBitlen n) ++ primeWitness "qprime" qp aq anegq (primeBitlen n) ++
  isSquareWitness n bases roots

/-- the valuation given by an association list (`0` for unlisted names). -/
def valOf (w : List (String × Int)) : String → Int := fun name => (w.lookup name).getD 0

def revBytes (s : String) : List UInt8 := s.toByteArray.data.toList.reverse

theorem revBytes_injective : Function.Injective revBytes := fun a b h => by
  simpa [revBytes, ← String.toByteArray_inj, ByteArray.ext_iff, ← Array.toList_inj] using h

theorem lookup_map_key {α β γ : Type} [BEq α] [LawfulBEq α] [BEq β] [LawfulBEq β] {f : α → β}
    (hf : Function.Injective f) (k : α) (l : List (α × γ)) :
    (l.map fun p => (f p.1, p.2)).lookup (f k) = l.lookup k := by
  induction l with
  | nil => rfl
  | cons p l ih =>
    obtain ⟨a, c⟩ := p
    have : (f k == f a) = (k == a) := Bool.eq_iff_iff.mpr (by simp [hf.eq_iff])
    simp only [List.map_cons, List.lookup_cons, ih, this]

/-- `valOf` with names compared from their last byte; used only to evaluate the two concrete
    valuations of C17Tree in the kernel.  Names inside one sub-proof share some 70 leading bytes, which
    `valOf` walks through at every entry of the list, while from the end they differ within a few.
    It is the same function: `revBytes` is injective, so re-keying the list and the name alike leaves
    the outcome of every comparison unchanged (`lookup_map_key`). -/
theorem valOf_eq_revBytes (w : List (String × Int)) :
    valOf w = fun name => ((w.map fun p => (revBytes p.1, p.2)).lookup (revBytes name)).getD 0 :=
  funext fun name => congrArg (·.getD 0) (lookup_map_key revBytes_injective name w).symm

/-! ## Counting -/

theorem sum_map_const {α : Type} (c : Nat) (l : List α) : (List.map (fun _ => c) l).sum = l.length * c := by
  induction l with
  | nil => simp
  | cons a l ih => simp [Nat.succ_mul, Nat.add_comm]

theorem sum_map_const_range (c n : Nat) : (List.map (fun _ => c) (List.range n)).sum = n * c := by
  simp

theorem ped_numCommitments (name : String) : (pedStructure name).numCommitments = numPedersen := rfl
theorem pedRange_numCommitments (name : String) (a b : Nat) : (pedRangeStructure name a b).numCommitments = numRange := rfl
theorem mul_numCommitments (m1 m2 md r : String) (l : Nat) : (mulStructure m1 m2 md r l).numCommitments = numMult := by
  simp [MulStructure.numCommitments, numMult, ReprStructure.numCommitments, PedStructure.numCommitments,
    RangeStructure.numCommitments, numPedersen, numRange]
theorem step_numCommitments (a b c d e : String) (l : Nat) : (stepStructure a b c d e l).numCommitments = numStep := by
  simp [stepStructure, StepStructure.numCommitments, StepAStructure.numCommitments, StepBStructure.numCommitments,
    stepBStructure, numStep, ReprStructure.numCommitments, mul_numCommitments, ped_numCommitments]
theorem exp_numCommitments (a b c d : String) (l : Nat) : (expStructure a b c d l).numCommitments = numExp l := by
  simp [expStructure, ExpStructure.numCommitments, numExp, sumBy, Function.comp_def, ped_numCommitments,
    pedRange_numCommitments, expBasePowRel_eq, expInterStep_eq, mul_numCommitments, step_numCommitments,
    ReprStructure.numCommitments]

theorem prime_numCommitments (name : String) (l : Nat) : (primeStructure name l).numCommitments = numPrime l := by
  simp [primeStructure, PrimeStructure.numCommitments, numPrime, exp_numCommitments, ped_numCommitments,
    pedRange_numCommitments, ReprStructure.numCommitments, numRange]
  ring

theorem isSquare_numCommitments (n : Int) (sq : List Int) :
    (isSquareStructure n sq).numCommitments = numIsSquare sq.length := by
  simp [isSquareStructure, IsSquareStructure.numCommitments, numIsSquare, sumBy, Function.comp_def, ped_numCommitments,
    pedRange_numCommitments, mul_numCommitments, ReprStructure.numCommitments]

theorem exp_numRangeProofs (a b c d : String) (l : Nat) :
    (expStructure a b c d l).numRangeProofs = l + l + (l - 1) + l := by
  simp [expStructure, ExpStructure.numRangeProofs, sumBy, Function.comp_def, MulStructure.numRangeProofs,
    StepStructure.numRangeProofs]

/-! ## Names: prefixes -/

/-- `x` begins with `P`. -/
def HasPre (P x : String) : Prop := ∃ t, x = P ++ t

theorem HasPre.refl (P : String) : HasPre P P := ⟨"", by simp⟩

theorem HasPre.append {P x : String} (h : HasPre P x) (y : String) : HasPre P (x ++ y) := by
  obtain ⟨t, rfl⟩ := h; exact ⟨t ++ y, by rw [String.append_assoc]⟩

theorem HasPre.trans {P Q x : String} (h1 : HasPre P Q) (h2 : HasPre Q x) : HasPre P x := by
  obtain ⟨t, rfl⟩ := h1; obtain ⟨u, rfl⟩ := h2; exact ⟨t ++ u, by rw [String.append_assoc]⟩

theorem HasPre.joinU {P x : String} (h : HasPre P x) (rest : List String) : HasPre P (joinU (x :: rest)) := by
  cases rest with
  | nil => simpa [Gabi.KeyProof.joinU] using h
  | cons b r => simp only [Gabi.KeyProof.joinU]; exact (h.append _).append _

theorem hasPre_joinU_sep (x b : String) (rest : List String) : HasPre (x ++ "_") (joinU (x :: b :: rest)) := by
  simp only [Gabi.KeyProof.joinU]; exact (HasPre.refl _).append _

/-! ## The secret names of a tree (every name some sub-proof carries a response for) -/

def ReprStructure.secrets (r : ReprStructure) : List String := r.rhs.map (·.secret)
def PedStructure.secrets (s : PedStructure) : List String := s.repr.secrets
def RangeStructure.secrets (s : RangeStructure) : List String := s.repr.secrets
def MulStructure.secrets (s : MulStructure) : List String :=
  s.modMultPedersen.secrets ++ s.modMultRange.secrets ++ s.multRepr.secrets
def StepAStructure.secrets (s : StepAStructure) : List String := s.bitRep.secrets ++ s.equalityRep.secrets
def StepBStructure.secrets (s : StepBStructure) : List String :=
  s.bitRep.secrets ++ s.mul.secrets ++ s.prePostMul.secrets
def StepStructure.secrets (s : StepStructure) : List String := s.stepa.secrets ++ s.stepb.secrets
def ExpStructure.secrets (s : ExpStructure) : List String :=
  s.expBits.flatMap PedStructure.secrets ++ s.expBitEq.secrets ++ s.basePows.flatMap PedStructure.secrets ++
  s.basePowRange.flatMap RangeStructure.secrets ++ s.basePowRels.flatMap MulStructure.secrets ++
  s.start.secrets ++ s.startRep.secrets ++ s.interRess.flatMap PedStructure.secrets ++
  s.interResRange.flatMap RangeStructure.secrets ++ s.interSteps.flatMap StepStructure.secrets
def PrimeStructure.secrets (s : PrimeStructure) : List String :=
  s.halfP.secrets ++ s.halfPRep.secrets ++ s.prea.secrets ++ s.preaRange.secrets ++ s.a.secrets ++
  s.aRange.secrets ++ s.aneg.secrets ++ s.anegRange.secrets ++ s.aRes.secrets ++ s.anegRes.secrets ++
  s.aPlus1ResRep.secrets ++ s.aMin1ResRep.secrets ++ s.anegResRep.secrets ++ s.aExp.secrets ++ s.anegExp.secrets

theorem ped_secrets_pre {P name : String} (h : HasPre P name) : ∀ x ∈ (pedStructure name).secrets, HasPre P x := by
  simp [pedStructure, PedStructure.secrets, ReprStructure.secrets, h, h.joinU]

theorem pedRange_secrets_pre {P name : String} (h : HasPre P name) (a b : Nat) :
    ∀ x ∈ (pedRangeStructure name a b).secrets, HasPre P x := by
  simp [pedRangeStructure, RangeStructure.secrets, ReprStructure.secrets, h, h.joinU]

theorem mul_secrets_pre {P m1 : String} (h : HasPre P m1) (m2 md r : String) (l : Nat) :
    ∀ x ∈ (mulStructure m1 m2 md r l).secrets, HasPre P x := by
  have hmy : ∀ t, HasPre P (joinU [joinU [m1, m2, md, r, "mul"], t]) := fun t => (h.joinU _).joinU _
  simp only [mulStructure, MulStructure.secrets, ReprStructure.secrets, List.forall_mem_append, and_assoc]
  exact ⟨ped_secrets_pre (hmy _), pedRange_secrets_pre (hmy _) _ _, by simp [h, hmy]⟩

theorem step_secrets_pre {P bit mul : String} (hb : HasPre P bit) (hm : HasPre P mul) (pre post md : String) (l : Nat) :
    ∀ x ∈ (stepStructure bit pre post mul md l).secrets, HasPre P x := by
  simp only [stepStructure, StepStructure.secrets, StepAStructure.secrets, StepBStructure.secrets, stepAStructure,
    stepBStructure, ReprStructure.secrets, List.forall_mem_append, and_assoc]
  exact ⟨by simp [hb.joinU], by simp [(hb.joinU _).joinU], by simp [hb.joinU], ped_secrets_pre hm,
    mul_secrets_pre hm _ _ _ _⟩

theorem exp_secrets_pre {P base : String} (h : HasPre P base) (e md r : String) (l : Nat) :
    ∀ x ∈ (expStructure base e md r l).secrets, HasPre P x := by
  have hmy : ∀ t, HasPre P (joinU (expName base e md r :: t)) := (h.joinU _).joinU
  simp only [expStructure, ExpStructure.secrets, expBasePowRel_eq, expInterStep_eq, List.forall_mem_append,
    List.forall_mem_flatMap, List.forall_mem_map, and_assoc]
  exact ⟨fun i _ => ped_secrets_pre (hmy _), by simp [ReprStructure.secrets, hmy],
    fun i _ => ped_secrets_pre (hmy _), fun i _ => pedRange_secrets_pre (hmy _) _ _,
    fun i _ => mul_secrets_pre (by split <;> exact hmy _) _ _ _ _,
    ped_secrets_pre (hmy _), by simp [ReprStructure.secrets, hmy], fun i _ => ped_secrets_pre (hmy _),
    fun i _ => pedRange_secrets_pre (hmy _) _ _, fun i _ => step_secrets_pre (hmy _) (hmy _) _ _ _ _⟩

/-! ### The commitment names one exponentiation proof introduces

They are pairwise different (`C17Tree.exp_inner_names_distinct`): equal kind and position by `joinU3_inj`,
different kinds by `joinU_ne_of_kind`. -/

/-- the names of the Pedersen commitments newExpProofStructure introduces, in construction order:
    bits, base powers, start, intermediate results. -/
def ExpStructure.innerNames (s : ExpStructure) : List String :=
  s.expBits.map (·.name) ++ s.basePows.map (·.name) ++ [s.start.name] ++ s.interRess.map (·.name)

theorem joinU3_inj {my k : String} {i j : Nat} (h : joinU [my, k, fmtV i] = joinU [my, k, fmtV j]) : i = j := by
  simp only [joinU, String.append_assoc, String.append_right_inj] at h
  exact Nat.repr_inj.mp h

/-- joined names that differ within the first two characters of their second part are different. -/
theorem joinU_ne_of_kind {my k k' : String} {r r' : List String} (hk : k.toList.take 2 ≠ k'.toList.take 2)
    (hk2 : 2 ≤ k.toList.length) (hk2' : 2 ≤ k'.toList.length) : joinU (my :: k :: r) ≠ joinU (my :: k' :: r') := by
  obtain ⟨t, ht⟩ := (HasPre.refl k).joinU r
  obtain ⟨t', ht'⟩ := (HasPre.refl k').joinU r'
  intro h
  simp only [joinU, ht, ht', String.append_assoc, String.append_right_inj] at h
  have h2 := congrArg (fun x => x.toList.take 2) h
  simp only [String.toList_append, List.take_append_of_le_length hk2, List.take_append_of_le_length hk2'] at h2
  exact hk h2

/-! ## The flat list of claims a tree makes about named committed values -/

/-- an atomic claim, as the structure values label it. -/
inductive Claim where
  /-- `name` is a Pedersen commitment the prover can open. -/
  | pedersen (name : String)
  /-- knowledge of secrets satisfying the representation relation, verbatim. -/
  | linear (r : ReprStructure)
  /-- one of the two relations holds (challenges XOR-split). -/
  | oneOf (r1 r2 : ReprStructure)
  /-- range proof over `secret` with limits `l1`, `l2`. -/
  | inRange (secret : String) (l1 l2 : Nat)
  /-- `result ≡ m1·m2 (mod md)` between committed values. -/
  | mulMod (m1 m2 md result : String)
  /-- `result ≡ base^exponent (mod md)`, exponent of `bitlen` bits. -/
  | expMod (base exponent md result : String) (bitlen : Nat)
  /-- the value committed under `name` is (probably) prime, `bitlen` bits. -/
  | isPrime (name : String) (bitlen : Nat)
  /-- the `index`-th supplied base is a square modulo `modulus`. -/
  | isSquare (index : Nat) (base modulus : Int)

def Claim.primeOf : Claim → Option (String × Nat)
  | .isPrime n b => some (n, b)
  | _ => none

def Claim.squareOf : Claim → Option (Nat × Int × Int)
  | .isSquare i b m => some (i, b, m)
  | _ => none

def ExpStructure.claim (s : ExpStructure) : Claim := .expMod s.base s.exponent s.md s.result s.bitlen
def RangeStructure.claim (s : RangeStructure) : Claim := .inRange s.rangeSecret s.l1 s.l2
def MulStructure.claim (s : MulStructure) : Claim := .mulMod s.m1 s.m2 s.md s.result

/-- the claims of a prime proof, from its label fields and the labels of its direct parts. -/
def PrimeStructure.claims (s : PrimeStructure) : List Claim :=
  [.isPrime s.primeName s.bitlen, .pedersen s.halfP.name, .linear s.halfPRep, .pedersen s.prea.name, s.preaRange.claim,
   .pedersen s.a.name, s.aRange.claim, .pedersen s.aneg.name, s.anegRange.claim, .pedersen s.aRes.name,
   .pedersen s.anegRes.name, .oneOf s.aPlus1ResRep s.aMin1ResRep, .linear s.anegResRep, s.aExp.claim, s.anegExp.claim]

def IsSquareStructure.claims (s : IsSquareStructure) : List Claim :=
  [.pedersen s.nPedersen.name, .linear s.nRep] ++ (s.squares.zipIdx.map fun (b, i) => Claim.isSquare i b s.n) ++
  s.squaresPedersen.map (fun p => Claim.pedersen p.name) ++ s.squaresRep.map Claim.linear ++
  s.rootsRep.map (fun p => Claim.pedersen p.name) ++ s.rootsRange.map RangeStructure.claim ++
  s.rootsValid.map MulStructure.claim

/-- the claims of the key statement, in construction order. -/
def ValidKeyStructure.claims (s : ValidKeyStructure) : List Claim :=
  [.pedersen s.p.name, .pedersen s.q.name, .pedersen s.pprime.name, .pedersen s.qprime.name,
   .linear s.pPprimeRel, .linear s.qQprimeRel, .linear s.pQNRel] ++
  s.pprimeIsPrime.claims ++ s.qprimeIsPrime.claims ++ s.basesValid.claims

theorem filterMap_primeOf_isSquare (s : IsSquareStructure) : s.claims.filterMap Claim.primeOf = [] := by
  simp only [IsSquareStructure.claims, List.filterMap_append, List.filterMap_map, Function.comp_def, Claim.primeOf,
    RangeStructure.claim, MulStructure.claim, List.filterMap_cons, List.filterMap_nil, List.append_nil,
    List.filterMap_none]

theorem filterMap_squareOf_isSquare (s : IsSquareStructure) :
    s.claims.filterMap Claim.squareOf = s.squares.zipIdx.map fun (b, i) => (i, b, s.n) := by
  simp only [IsSquareStructure.claims, List.filterMap_append, List.filterMap_map, Function.comp_def, Claim.squareOf,
    RangeStructure.claim, MulStructure.claim, List.filterMap_cons, List.filterMap_nil, List.nil_append,
    List.append_nil, List.filterMap_none, List.filterMap_eq_map']

theorem filterMap_squareOf_validKey (s : ValidKeyStructure) :
    s.claims.filterMap Claim.squareOf = s.basesValid.squares.zipIdx.map fun (b, i) => (i, b, s.basesValid.n) := by
  simp only [ValidKeyStructure.claims, PrimeStructure.claims, List.filterMap_append, List.filterMap_cons,
    List.filterMap_nil, Claim.squareOf, ExpStructure.claim, RangeStructure.claim, List.nil_append,
    filterMap_squareOf_isSquare]

end Gabi.KeyProof
