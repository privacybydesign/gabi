/-
  GabiProofs.RevLemmas — the revocation model `GabiModel.Revocation` in three parts:
  the event log as a hash chain (multihash framing, the bytes hashed for an event, what
  `EventList.Verify` accepts and why that binds the list: `GabiProps/C10.lean`); the exits of
  `Witness.update` as equations over `Connects`, `Witness.advance` and the product cache; and the
  invariant of honest updates (`Honest`, `HonestUpdate`, `TracksAt`), whose algebra is done in an
  arbitrary commutative group and carried to `goExp` through `(ZMod n)ˣ` (`GabiProps/C09.lean`).
  At the end the index machine `stepIdx` that says where a witness stands after a list of honest
  updates, and a toy history (`n = 77`) that satisfies the three predicates.
-/
import GabiModel.Revocation
import GabiProofs.NumLemmas
import GabiProofs.DerLemmas
import GabiProofs.Bridge
import Mathlib.Data.List.Chain
import Mathlib.Data.List.Forall2
import Mathlib.Data.Int.ModEq
import Mathlib.Algebra.Group.Basic
import Mathlib.Algebra.BigOperators.Group.List.Basic
import Mathlib.Tactic.Ring
import Mathlib.Tactic.LinearCombination
import Mathlib.RingTheory.Coprime.Lemmas
import Mathlib.RingTheory.Int.Basic

namespace Gabi.Rev
open Gabi

/-! ### hashes are compared whole -/

theorem hashEqual_iff (a b : Hash) : hashEqual a b = true ↔ a = b := beq_iff_eq

theorem hashEquals_iff (ev : Event) (h : Hash) :
    ev.hashEquals h = true ↔ hashAlgOk h = true ∧ ev.hash = h := by
  unfold Event.hashEquals
  rw [Bool.and_eq_true, hashEqual_iff]

/-! ### multihash framing: varints and `hashDecode` -/

/-- the loop of `uvarint`: it consumes at least one byte; with a continuation byte behind it
    (`0 < n`) the value lies above the current weight (minimal encoding); and bytes after the
    varint are left alone. -/
theorem uvarint_go_spec (fuel : Nat) (bs : List UInt8) (shift acc n v : Nat) (rest : List UInt8)
    (h : uvarint.go fuel bs shift acc n = some (v, rest)) :
    rest.length < bs.length ∧ (0 < n → acc + 2 ^ shift ≤ v) ∧
      ∀ t, uvarint.go fuel (bs ++ t) shift acc n = some (v, rest ++ t) := by
  induction fuel generalizing bs shift acc n with
  | zero => simp [uvarint.go] at h
  | succ fuel ih =>
    cases bs with
    | nil => simp [uvarint.go] at h
    | cons b bs =>
      simp only [uvarint.go, List.cons_append] at h ⊢
      by_cases hb : b.toNat < 128
      · rw [if_pos hb] at h
        by_cases hz : b.toNat = 0 ∧ n > 0
        · rw [if_pos hz] at h; cases h
        · rw [if_neg hz] at h
          obtain ⟨rfl, rfl⟩ := Prod.mk.inj (Option.some.inj h)
          refine ⟨Nat.lt_succ_self _, fun hn => ?_, fun t => by rw [if_pos hb, if_neg hz]⟩
          have := Nat.mul_le_mul_right (2 ^ shift) (show 1 ≤ b.toNat by omega)
          omega
      · rw [if_neg hb] at h
        obtain ⟨h1, h2, h3⟩ := ih _ _ _ _ h
        refine ⟨Nat.lt_succ_of_lt h1, fun _ => ?_, fun t => by rw [if_neg hb]; exact h3 t⟩
        have := h2 (Nat.succ_pos n)
        have h2 : 2 ^ (shift + 7) = 128 * 2 ^ shift := by rw [pow_add]; ring
        have hp : 0 < 2 ^ shift := Nat.pow_pos (by norm_num)
        omega

theorem uvarint_go_length (fuel : Nat) (bs : List UInt8) (shift acc n v : Nat)
    (rest : List UInt8) (h : uvarint.go fuel bs shift acc n = some (v, rest)) :
    rest.length < bs.length := (uvarint_go_spec fuel bs shift acc n v rest h).1

theorem uvarint_append {bs rest : List UInt8} {v : Nat} (h : uvarint bs = some (v, rest))
    (t : List UInt8) : uvarint (bs ++ t) = some (v, rest ++ t) :=
  (uvarint_go_spec 9 bs 0 0 0 v rest h).2.2 t

theorem uvarint_small {bs rest : List UInt8} {v : Nat} (h : uvarint bs = some (v, rest))
    (hv : v < 128) : bs = v.toUInt8 :: rest := by
  unfold uvarint at h
  cases bs with
  | nil => simp [uvarint.go] at h
  | cons b bs =>
    simp only [uvarint.go] at h
    split at h
    · split at h
      · exact absurd h (by simp)
      · obtain ⟨rfl, rfl⟩ := Prod.mk.inj (Option.some.inj h)
        simp
    · have := (uvarint_go_spec _ _ _ _ _ _ _ h).2.1 (by norm_num)
      omega

theorem uvarint_single (b : UInt8) (r : List UInt8) (hb : b.toNat < 128) :
    uvarint (b :: r) = some (b.toNat, r) := by
  simp [uvarint, uvarint.go, hb]

theorem hashDecode_eq_some_iff (h : Hash) (d : List UInt8) :
    hashDecode h = some d ↔
      2 ≤ h.length ∧ ∃ rest, uvarint h = some (sha2_256Code, rest) ∧
        uvarint rest = some (d.length, d) ∧ d.length ≤ 2 ^ 31 - 1 := by
  unfold hashDecode
  constructor
  · intro hh
    split at hh
    · cases hh
    split at hh
    · cases hh
    split at hh
    · cases hh
    rename_i hl _ code rest h1 _ len digest h2
    split_ifs at hh with a b c
    obtain rfl := Option.some.inj hh
    obtain rfl : digest.length = len := not_not.mp b
    obtain rfl : code = sha2_256Code := not_not.mp c
    exact ⟨by omega, rest, h1, h2, by omega⟩
  · rintro ⟨h2, rest, h3, h4, h5⟩
    rw [if_neg (by omega), h3]
    dsimp only
    rw [h4]
    dsimp only
    rw [if_neg (by omega), if_neg (not_not.mpr rfl), if_neg (not_not.mpr rfl)]

/-- well-formed hashes are self-delimiting: the frame carries the length of the digest. -/
theorem hashAlgOk_append {h t : Hash} (h1 : hashAlgOk h = true) (h2 : hashAlgOk (h ++ t) = true) :
    t = [] := by
  unfold hashAlgOk at h1 h2
  obtain ⟨d, hd⟩ := Option.isSome_iff_exists.mp h1
  obtain ⟨d', hd'⟩ := Option.isSome_iff_exists.mp h2
  obtain ⟨-, rest, ha, hb, -⟩ := (hashDecode_eq_some_iff _ _).mp hd
  obtain ⟨-, rest', ha', hb', -⟩ := (hashDecode_eq_some_iff _ _).mp hd'
  rw [uvarint_append ha t] at ha'
  obtain ⟨-, rfl⟩ := Prod.mk.inj (Option.some.inj ha')
  rw [uvarint_append hb t] at hb'
  obtain ⟨hlen, rfl⟩ := Prod.mk.inj (Option.some.inj hb')
  simpa using hlen

theorem hashAlgOk_append_inj {a b x y : List UInt8} (ha : hashAlgOk a = true)
    (hb : hashAlgOk b = true) (h : a ++ x = b ++ y) : a = b ∧ x = y := by
  rcases List.append_eq_append_iff.mp h with ⟨c, rfl, rfl⟩ | ⟨c, rfl, rfl⟩
  · obtain rfl := hashAlgOk_append ha hb; simp
  · obtain rfl := hashAlgOk_append hb ha; simp

theorem hashDecode_frame (d : List UInt8) (hlen : d.length < 128) :
    hashDecode (0x12 :: d.length.toUInt8 :: d) = some d := by
  have hl : d.length.toUInt8.toNat = d.length := by
    rw [toUInt8_toNat, Nat.mod_eq_of_lt (by omega)]
  rw [hashDecode_eq_some_iff]
  refine ⟨by simp, d.length.toUInt8 :: d, uvarint_single _ _ (by decide), ?_, by omega⟩
  have := uvarint_single d.length.toUInt8 d (by rw [hl]; exact hlen)
  rwa [hl] at this

theorem hashAlgOk_eventHash (ev : Event) : hashAlgOk ev.hash = true := by
  unfold hashAlgOk Event.hash
  have := hashDecode_frame (Sha256.hash ev.hashBytes) (by rw [Sha256.hash_length]; norm_num)
  rw [Sha256.hash_length] at this
  rw [show (0x20 : UInt8) = (32 : Nat).toUInt8 from rfl, this]; rfl

theorem hashAlgOk_length {h : Hash} (hh : hashAlgOk h = true) : 2 ≤ h.length := by
  obtain ⟨d, hd⟩ := Option.isSome_iff_exists.mp hh
  exact ((hashDecode_eq_some_iff _ _).mp hd).1

/-! ### the bytes hashed for an event determine the event -/

theorem be64_length (n : Nat) : (be64 n).length = 8 := Der.toBytesFixed_length 8 n

theorem be64_injective {a b : Nat} (ha : a < 2 ^ 64) (hb : b < 2 ^ 64) (h : be64 a = be64 b) :
    a = b :=
  have h64 : 2 ^ 64 = 256 ^ 8 := by norm_num
  Der.toBytesFixed_injective (k := 8) (h64 ▸ ha) (h64 ▸ hb) h

theorem intBytes_injective_nonneg {a b : Int} (ha : 0 ≤ a) (hb : 0 ≤ b)
    (h : intBytes a = intBytes b) : a = b := by
  unfold intBytes at h
  have := congrArg ofBytesBE h
  rw [ofBytesBE_natBytesBE, ofBytesBE_natBytesBE] at this
  omega

/-- fixed length ‖ self-delimiting ‖ rest: index (8 bytes), well-formed parent hash, minimal
    bytes of a non-negative `E`. -/
theorem event_hashBytes_injective {e1 e2 : Event}
    (h1 : hashAlgOk e1.parentHash = true) (h2 : hashAlgOk e2.parentHash = true)
    (p1 : 0 ≤ e1.e) (p2 : 0 ≤ e2.e) (i1 : e1.index < 2 ^ 64) (i2 : e2.index < 2 ^ 64)
    (h : e1.hashBytes = e2.hashBytes) : e1 = e2 := by
  unfold Event.hashBytes at h
  rw [List.append_assoc, List.append_assoc] at h
  obtain ⟨ha, hb⟩ := List.append_inj h (by rw [be64_length, be64_length])
  obtain ⟨hc, hd⟩ := hashAlgOk_append_inj h1 h2 hb
  have hi := be64_injective i1 i2 ha
  have he := intBytes_injective_nonneg p1 p2 hd
  cases e1; cases e2
  rw [Event.mk.injEq]
  exact ⟨hi, he, hc⟩

theorem event_hash_binds {e1 e2 : Event}
    (h1 : hashAlgOk e1.parentHash = true) (h2 : hashAlgOk e2.parentHash = true)
    (p1 : 0 ≤ e1.e) (p2 : 0 ≤ e2.e) (i1 : e1.index < 2 ^ 64) (i2 : e2.index < 2 ^ 64)
    (h : e1.hash = e2.hash) :
    e1 = e2 ∨ (e1.hashBytes ≠ e2.hashBytes ∧
      Sha256.hash e1.hashBytes = Sha256.hash e2.hashBytes) := by
  by_cases hb : e1.hashBytes = e2.hashBytes
  · exact Or.inl (event_hashBytes_injective h1 h2 p1 p2 i1 i2 hb)
  · right
    refine ⟨hb, ?_⟩
    unfold Event.hash at h
    exact List.tail_eq_of_cons_eq (List.tail_eq_of_cons_eq h)

/-- `ambiguousEvent1` and `ambiguousEvent2` are two events with the same hashed bytes
    (`Gabi.C10.malformed_parent_ambiguous`): without well-formedness of the parent hash a byte can
    be moved from its end to the front of `E`. -/
def ambiguousEvent1 : Event := { index := 0, e := 7, parentHash := [0x12, 0x01, 0x05] }
def ambiguousEvent2 : Event := { index := 0, e := 0x0507, parentHash := [0x12, 0x01] }

/-! ### what `EventList.Verify` accepts -/

theorem eventsVerify_go_iff (start : Nat) (l : List Event) (i : Nat) (prev : Option Event) :
    eventsVerify.go start i prev l = true ↔
      (∀ f, l.head? = some f →
        (match prev with
        | none => hashAlgOk f.parentHash
        | some p => p.hashEquals f.parentHash) = true) ∧
      List.IsChain (fun a b : Event => a.hashEquals b.parentHash = true) l ∧
      ∀ k (hk : k < l.length), l[k].index = i + k + start := by
  induction l generalizing i prev with
  | nil => simp [eventsVerify.go]
  | cons ev rest ih =>
    unfold eventsVerify.go
    simp only [Bool.and_eq_true, decide_eq_true_eq, ih, List.head?_cons, Option.some.injEq,
      forall_eq', List.isChain_cons, Option.mem_def, List.length_cons]
    have hidx : (∀ k (hk : k < rest.length + 1), (ev :: rest)[k].index = i + k + start) ↔
        i + start = ev.index ∧ ∀ k (hk : k < rest.length), rest[k].index = i + 1 + k + start :=
      ⟨fun h => ⟨(h 0 (Nat.succ_pos _)).symm, fun k hk => by
          have := h (k + 1) (Nat.succ_lt_succ hk)
          rw [List.getElem_cons_succ] at this; omega⟩,
        fun h k hk => by
          cases k with
          | zero => exact h.1.symm
          | succ k => rw [List.getElem_cons_succ, h.2 k (Nat.lt_of_succ_lt_succ hk)]; omega⟩
    rw [hidx]
    exact ⟨fun ⟨⟨a, b⟩, c, d, e⟩ => ⟨a, ⟨c, d⟩, b, e⟩, fun ⟨a, ⟨c, d⟩, b, e⟩ => ⟨⟨a, b⟩, c, d, e⟩⟩

theorem eventsVerify_spec (evs : List Event) (h : Hash) :
    eventsVerify evs h = true ↔
      evs = [] ∨
      ((∃ last, evs.getLast? = some last ∧ last.hashEquals h = true) ∧
       (∀ f, evs.head? = some f → hashAlgOk f.parentHash = true) ∧
       List.IsChain (fun a b : Event => a.hashEquals b.parentHash = true) evs ∧
       ∀ k (hk : k < evs.length), evs[k].index = (evs.head?.map (·.index)).getD 0 + k) := by
  unfold eventsVerify
  cases hl : evs.getLast? with
  | none =>
    have : evs = [] := by simpa using hl
    simp [this]
  | some last =>
    have hne : evs ≠ [] := by rintro rfl; simp at hl
    simp only [hne, false_or, Option.some.injEq, exists_eq_left']
    by_cases hh : last.hashEquals h = true
    · simp only [hh, Bool.not_true, Bool.false_eq_true, if_false, true_and]
      rw [eventsVerify_go_iff]
      simp only [Nat.zero_add]
      exact and_congr_right fun _ => and_congr_right fun _ =>
        forall₂_congr fun k hk => by rw [Nat.add_comm]
    · simp [hh]

/-! ### an accepted chain is determined by the hash it ends in -/

def Sha256Collision : Prop := ∃ a b : List UInt8, a ≠ b ∧ Sha256.hash a = Sha256.hash b

/-- the side conditions under which the hashed bytes determine the event. The index bound holds
    for every `uint64`; `0 ≤ E` is a real hypothesis: `Event.E` is a signed `*big.Int` and
    `hashBytes` takes `E.Bytes()`, the bytes of `|E|`, so `E` and `-E` are hashed alike. -/
def Event.InRange (ev : Event) : Prop := 0 ≤ ev.e ∧ ev.index < 2 ^ 64

theorem isChain_parent_ok {l : List Event}
    (hc : List.IsChain (fun a b : Event => a.hashEquals b.parentHash = true) l)
    (hf : ∀ f, l.head? = some f → hashAlgOk f.parentHash = true) :
    ∀ e ∈ l, hashAlgOk e.parentHash = true := by
  induction l with
  | nil => nofun
  | cons a t ih =>
    rw [List.isChain_cons] at hc
    intro e he
    rcases List.mem_cons.mp he with rfl | he
    · exact hf _ rfl
    · exact ih hc.2 (fun f hf' => ((hashEquals_iff _ _).mp (hc.1 f hf')).1) e he

theorem eventsVerify_parent_ok {evs : List Event} {h : Hash} (hv : eventsVerify evs h = true) :
    ∀ e ∈ evs, hashAlgOk e.parentHash = true := by
  rcases (eventsVerify_spec evs h).mp hv with rfl | ⟨-, hf, hc, -⟩
  · simp
  · exact isChain_parent_ok hc hf

theorem revChain_prefix (hinj : ¬ Sha256Collision) (r1 r2 : List Event)
    (c1 : List.IsChain (fun b a : Event => a.hashEquals b.parentHash = true) r1)
    (c2 : List.IsChain (fun b a : Event => a.hashEquals b.parentHash = true) r2)
    (p1 : ∀ e ∈ r1, hashAlgOk e.parentHash = true ∧ e.InRange)
    (p2 : ∀ e ∈ r2, hashAlgOk e.parentHash = true ∧ e.InRange)
    (hh : ∀ a b, r1.head? = some a → r2.head? = some b → a.hash = b.hash) :
    r1 <+: r2 ∨ r2 <+: r1 := by
  induction r1 generalizing r2 with
  | nil => exact Or.inl List.nil_prefix
  | cons a t1 ih =>
    cases r2 with
    | nil => exact Or.inr List.nil_prefix
    | cons b t2 =>
      obtain ⟨ha, ha1, ha2⟩ := p1 a (by simp)
      obtain ⟨hb, hb1, hb2⟩ := p2 b (by simp)
      obtain rfl : a = b :=
        (event_hash_binds ha hb ha1 hb1 ha2 hb2 (hh a b rfl rfl)).resolve_right
          fun ⟨h1, h2⟩ => hinj ⟨_, _, h1, h2⟩
      rw [List.isChain_cons] at c1 c2
      -- the next events of both lists hash to the parent hash of `a`
      have hh' : ∀ a' b', t1.head? = some a' → t2.head? = some b' → a'.hash = b'.hash :=
        fun a' b' h1 h2 => by
          rw [((hashEquals_iff _ _).mp (c1.1 a' h1)).2, ((hashEquals_iff _ _).mp (c2.1 b' h2)).2]
      exact (ih t2 c1.2 c2.2 (fun e he => p1 e (List.mem_cons_of_mem _ he))
        (fun e he => p2 e (List.mem_cons_of_mem _ he)) hh').imp
        (List.prefix_cons_inj a).mpr (List.prefix_cons_inj a).mpr

theorem chain_suffix {l1 l2 : List Event} {h : Hash}
    (v1 : eventsVerify l1 h = true) (v2 : eventsVerify l2 h = true)
    (r1 : ∀ e ∈ l1, e.InRange) (r2 : ∀ e ∈ l2, e.InRange) :
    l1 <:+ l2 ∨ l2 <:+ l1 ∨ Sha256Collision := by
  by_cases hinj : Sha256Collision
  · exact Or.inr (Or.inr hinj)
  have ok1 := eventsVerify_parent_ok v1
  have ok2 := eventsVerify_parent_ok v2
  rcases (eventsVerify_spec l1 h).mp v1 with rfl | ⟨⟨last1, hl1, hh1⟩, -, c1, -⟩
  · exact Or.inl (List.nil_suffix)
  rcases (eventsVerify_spec l2 h).mp v2 with rfl | ⟨⟨last2, hl2, hh2⟩, -, c2, -⟩
  · exact Or.inr (Or.inl List.nil_suffix)
  have := revChain_prefix hinj l1.reverse l2.reverse (List.isChain_reverse.mpr c1)
    (List.isChain_reverse.mpr c2)
    (fun e he => ⟨ok1 e (List.mem_reverse.mp he), r1 e (List.mem_reverse.mp he)⟩)
    (fun e he => ⟨ok2 e (List.mem_reverse.mp he), r2 e (List.mem_reverse.mp he)⟩)
    (fun a b ha hb => by
      -- the heads of the reversed lists are `last1` and `last2`, which both hash to `h`
      rw [List.head?_reverse, hl1] at ha
      rw [List.head?_reverse, hl2] at hb
      cases ha; cases hb
      rw [((hashEquals_iff _ _).mp hh1).2, ((hashEquals_iff _ _).mp hh2).2])
  rcases this with h | h
  · exact Or.inl (List.reverse_prefix.mp h)
  · exact Or.inr (Or.inl (List.reverse_prefix.mp h))

theorem chain_binds {l1 l2 : List Event} {h : Hash}
    (v1 : eventsVerify l1 h = true) (v2 : eventsVerify l2 h = true)
    (r1 : ∀ e ∈ l1, e.InRange) (r2 : ∀ e ∈ l2, e.InRange) (hlen : l1.length = l2.length) :
    l1 = l2 ∨ Sha256Collision := by
  rcases chain_suffix v1 v2 r1 r2 with h | h | h
  · exact Or.inl (h.eq_of_length hlen)
  · exact Or.inl (h.eq_of_length hlen.symm).symm
  · exact Or.inr h

/-! ### `Update.verify` and `Update.prepend` -/

theorem unmarshalVerify_eq_some_iff (pk : PublicKey) (s acc : SAcc) :
    s.unmarshalVerify pk = some acc ↔ pk.counter = s.pkCounter ∧ s.sigOk = true ∧ acc = s := by
  unfold SAcc.unmarshalVerify
  by_cases h1 : pk.counter = s.pkCounter
  · cases h2 : s.sigOk <;> simp [h1, eq_comm]
  · simp [h1]

theorem verify_eq_some_iff (pk : PublicKey) (u : Update) (acc : SAcc) :
    u.verify pk = some acc ↔
      pk.counter = u.sacc.pkCounter ∧ u.sacc.sigOk = true ∧ acc = u.sacc ∧
        eventsVerify u.events u.sacc.eventHash = true := by
  unfold Update.verify
  cases hs : u.sacc.unmarshalVerify pk with
  | none =>
    have := (unmarshalVerify_eq_some_iff pk u.sacc u.sacc).not.mp (by rw [hs]; nofun)
    exact ⟨nofun, fun h => absurd ⟨h.1, h.2.1, rfl⟩ this⟩
  | some a =>
    obtain ⟨h1, h2, rfl⟩ := (unmarshalVerify_eq_some_iff pk u.sacc a).mp hs
    dsimp only
    split_ifs with hev
    · exact ⟨fun h => ⟨h1, h2, (Option.some.inj h).symm, hev⟩, fun h => h.2.2.1 ▸ rfl⟩
    · exact ⟨nofun, fun h => absurd h.2.2.2 hev⟩

theorem verify_some {pk : PublicKey} {u : Update} {acc : SAcc} (h : u.verify pk = some acc) :
    acc = u.sacc := ((verify_eq_some_iff pk u acc).mp h).2.2.1

theorem verify_cache_irrelevant (pk : PublicKey) (u : Update) (c : Option (Int × Nat)) :
    ({ u with product := c } : Update).verify pk = u.verify pk := rfl

theorem verify_congr (pk : PublicKey) {u1 u2 : Update} (hs : u1.sacc = u2.sacc)
    (he : u1.events = u2.events) : u1.verify pk = u2.verify pk := by
  unfold Update.verify; rw [hs, he]

theorem prepend_nil (u : Update) : u.prepend [] = some u := by
  simp [Update.prepend]

/-! ### the product cache of an update object -/

/-- what `Update.Product(from)` computes on an object without cache: the product of the values of
    the events with index `≥ frm` (`none`: slice bounds out of range, a Go panic). -/
def trueProduct (events : List Event) (frm : Nat) : Option Int :=
  match events.head? with
  | none => some 1
  | some h =>
    if frm < h.index ∨ frm - h.index > events.length then none
    else some (((events.drop (frm - h.index)).map (·.e)).foldl (· * ·) 1)

theorem trueProduct_of_head {events : List Event} {h : Event} (hh : events.head? = some h)
    {frm : Nat} (h1 : h.index ≤ frm) (h2 : frm - h.index ≤ events.length) :
    trueProduct events frm = some ((events.map (·.e)).drop (frm - h.index)).prod := by
  unfold trueProduct
  rw [hh]
  dsimp only
  rw [if_neg (by omega), List.prod_eq_foldl, List.map_drop]

/-- the cache invariant: a cached product is the true product for the cached start index. -/
def CacheOk (u : Update) : Prop :=
  ∀ p f, u.product = some (p, f) → trueProduct u.events f = some p

theorem cacheOk_none (u : Update) (h : u.product = none) : CacheOk u := by
  intro p f hp; rw [h] at hp; exact absurd hp (by simp)

theorem productFrom_of_hit {u : Update} {p : Int} {f frm : Nat} (hp : u.product = some (p, f))
    (h : f = frm ∨ u.events = []) : u.productFrom frm = some (p, u) := by
  unfold Update.productFrom
  rw [hp]
  exact if_pos (h.imp_right List.isEmpty_iff.mpr)

theorem productFrom_of_miss {u : Update} {frm : Nat}
    (h : ∀ p f, u.product = some (p, f) → ¬(f = frm ∨ u.events = [])) :
    u.productFrom frm =
      (trueProduct u.events frm).map fun p => (p, { u with product := some (p, frm) }) := by
  unfold Update.productFrom trueProduct
  rcases hp : u.product with _ | ⟨p, f⟩
  · cases u.events.head? with
    | none => rfl
    | some e => dsimp only; split <;> rfl
  · have h' := h p f hp
    dsimp only
    rw [if_neg (by rwa [List.isEmpty_iff])]
    cases hh : u.events.head? with
    | none => exact absurd (Or.inr (List.head?_eq_none_iff.mp hh)) h'
    | some e => dsimp only; split <;> rfl

theorem productFrom_coherent (u : Update) (frm : Nat) (hc : CacheOk u) :
    (trueProduct u.events frm = none ∧ u.productFrom frm = none) ∨
    ∃ p u', trueProduct u.events frm = some p ∧ u.productFrom frm = some (p, u') ∧
      u'.sacc = u.sacc ∧ u'.events = u.events ∧ CacheOk u' := by
  by_cases h : ∃ p f, u.product = some (p, f) ∧ (f = frm ∨ u.events = [])
  · obtain ⟨p, f, hp, h⟩ := h
    refine Or.inr ⟨p, u, ?_, productFrom_of_hit hp h, rfl, rfl, hc⟩
    have hpf := hc p f hp
    rcases h with rfl | he
    · exact hpf
    · rw [he] at hpf ⊢; exact hpf
  · rw [productFrom_of_miss fun p f hp hh => h ⟨p, f, hp, hh⟩]
    cases ht : trueProduct u.events frm with
    | none => exact Or.inl ⟨rfl, rfl⟩
    | some p => exact Or.inr ⟨p, _, rfl, rfl, rfl, rfl, fun p' f' h' => by cases h'; exact ht⟩

theorem productFrom_value (u : Update) (frm : Nat) (hc : CacheOk u) :
    (u.productFrom frm).map (·.1) = trueProduct u.events frm := by
  rcases productFrom_coherent u frm hc with ⟨h1, h2⟩ | ⟨p, u', h1, h2, -⟩ <;> rw [h1, h2] <;> rfl

def Update.fresh (u : Update) : Update := { u with product := none }

theorem fresh_cacheOk (u : Update) : CacheOk u.fresh := cacheOk_none _ rfl

theorem fresh_eq_of {u1 u2 : Update} (hs : u1.sacc = u2.sacc) (he : u1.events = u2.events) :
    u1.fresh = u2.fresh := by
  unfold Update.fresh; rw [hs, he]

/-! ### `Witness.update` exit by exit -/

theorem update_verify_none {pk : PublicKey} {w : Witness} {upd : Update}
    (h : upd.verify pk = none) : w.update pk upd = (.err, w, upd) := by
  unfold Witness.update; rw [h]

/-- what `Witness.Update` does once it has the product `prod` of the removed values: Bezout pair,
    the two modular powers, the new `u`, and the check of the new witness against `acc`. -/
def Witness.advance (pk : PublicKey) (w : Witness) (acc : SAcc) (prod : Int) :
    UpdateResult × Witness :=
  let (g, a, b) := xgcd w.e.toNat prod.toNat
  if g ≠ 1 then (.revoked, w)
  else
    match goExp w.u b pk.n, goExp acc.nu a pk.n with
    | some ub, some na =>
      let newU := ub * na % pk.n
      if goExp newU w.e pk.n == some acc.nu then (.ok, { w with u := newU, sacc := acc })
      else (.err, w)
    | _, _ => (.panic, w)

/-- the exits for a verified update, in the order of the code: same index (only the signed
    accumulator may be replaced); nothing to do; update too new; otherwise the product is computed
    and `Witness.advance` decides. -/
theorem update_of_verified {pk : PublicKey} {w : Witness} {upd : Update}
    (hv : upd.verify pk = some upd.sacc) :
    w.update pk upd =
      if upd.sacc.index = w.sacc.index then
        (.ok, if upd.sacc.time ≤ w.sacc.time then w else { w with sacc := upd.sacc }, upd)
      else if upd.events = [] ∨ upd.sacc.index ≤ w.sacc.index then (.ok, w, upd)
      else if w.sacc.index + 1 < (upd.events.head?.map (·.index)).getD 0 then (.err, w, upd)
      else
        match upd.productFrom (w.sacc.index + 1) with
        | none => (.panic, w, upd)
        | some (prod, upd') =>
          ((w.advance pk upd.sacc prod).1, (w.advance pk upd.sacc prod).2, upd') := by
  unfold Witness.update
  rw [hv]
  dsimp only
  -- `rw [if_pos, if_pos]` on both sides: `split` on a goal of this size is far slower
  by_cases h1 : upd.sacc.index = w.sacc.index
  · rw [if_pos h1, if_pos h1]
    by_cases h2 : upd.sacc.time ≤ w.sacc.time
    · rw [if_pos h2, if_pos h2]
    · rw [if_neg h2, if_neg h2]
  rw [if_neg h1, if_neg h1]
  by_cases h3 : upd.events = []
  · rw [if_pos (List.isEmpty_iff.mpr h3), if_pos (Or.inl h3)]
  rw [if_neg (mt List.isEmpty_iff.mp h3)]
  by_cases h4 : upd.sacc.index ≤ w.sacc.index
  · rw [if_pos h4, if_pos (Or.inr h4)]
  rw [if_neg h4, if_neg (not_or.mpr ⟨h3, h4⟩)]
  by_cases h5 : w.sacc.index + 1 < (upd.events.head?.map (·.index)).getD 0
  · rw [if_pos h5, if_pos h5]
  rw [if_neg h5, if_neg h5]
  rcases upd.productFrom (w.sacc.index + 1) with _ | ⟨prod, upd'⟩
  · rfl
  unfold Witness.advance
  dsimp only
  by_cases h6 : (xgcd w.e.toNat prod.toNat).1 ≠ 1
  · rw [if_pos h6, if_pos h6]
  rw [if_neg h6, if_neg h6]
  rcases goExp w.u (xgcd w.e.toNat prod.toNat).2.2 pk.n with _ | ub
  · rfl
  rcases goExp upd.sacc.nu (xgcd w.e.toNat prod.toNat).2.1 pk.n with _ | na
  · rfl
  dsimp only
  split <;> rfl

/-- the update gets as far as the product: it verifies, is not empty, is newer than the witness
    and starts no later than the event after the one the witness stands at. -/
structure Connects (pk : PublicKey) (w : Witness) (upd : Update) : Prop where
  verified : upd.verify pk = some upd.sacc
  nonempty : upd.events ≠ []
  newer : w.sacc.index < upd.sacc.index
  start : (upd.events.head?.map (·.index)).getD 0 ≤ w.sacc.index + 1

theorem update_of_connects {pk : PublicKey} {w : Witness} {upd : Update}
    (C : Connects pk w upd) :
    w.update pk upd =
      match upd.productFrom (w.sacc.index + 1) with
      | none => (.panic, w, upd)
      | some (prod, upd') =>
        ((w.advance pk upd.sacc prod).1, (w.advance pk upd.sacc prod).2, upd') := by
  rw [update_of_verified C.verified, if_neg (Nat.ne_of_gt C.newer),
    if_neg (not_or.mpr ⟨C.nonempty, Nat.not_le_of_gt C.newer⟩), if_neg (Nat.not_lt_of_le C.start)]

/-- all exits before the product at once, the unverified update included: the object is handed
    back, and the witness at most takes over the signed accumulator. -/
theorem update_of_not_connects {pk : PublicKey} {w : Witness} {upd : Update}
    (C : ¬ Connects pk w upd) :
    w.update pk upd =
      (if upd.verify pk = some upd.sacc → w.sacc.index < upd.sacc.index ∧ upd.events ≠ [] then
          .err else .ok,
        if upd.verify pk = some upd.sacc ∧ upd.sacc.index = w.sacc.index ∧
            w.sacc.time < upd.sacc.time then { w with sacc := upd.sacc } else w,
        upd) := by
  rcases hv : upd.verify pk with _ | acc
  · rw [update_verify_none hv, if_pos nofun, if_neg fun h => nomatch h.1]
  obtain rfl := verify_some hv
  rw [update_of_verified hv]
  simp only [forall_const, true_and]
  by_cases h1 : upd.sacc.index = w.sacc.index
  · rw [if_pos h1, if_neg fun h : _ ∧ upd.events ≠ [] => absurd h.1 (by omega)]
    by_cases h2 : upd.sacc.time ≤ w.sacc.time
    · rw [if_pos h2, if_neg fun h : _ ∧ w.sacc.time < upd.sacc.time => absurd h.2 (by omega)]
    · rw [if_neg h2, if_pos ⟨h1, by omega⟩]
  rw [if_neg h1, if_neg fun h : _ ∧ w.sacc.time < upd.sacc.time => h1 h.1]
  by_cases h3 : upd.events = [] ∨ upd.sacc.index ≤ w.sacc.index
  · rw [if_pos h3, if_neg fun h : w.sacc.index < upd.sacc.index ∧ upd.events ≠ [] =>
      h3.elim h.2 fun h' => absurd h.1 (by omega)]
  · have h3' := not_or.mp h3
    by_cases h5 : w.sacc.index + 1 < (upd.events.head?.map (·.index)).getD 0
    · rw [if_neg h3, if_pos h5, if_pos ⟨by omega, h3'.1⟩]
    · exact absurd ⟨hv, h3'.1, by omega, by omega⟩ C

theorem xgcd_toNat {e P : Int} (he : 0 ≤ e) (hP : 0 ≤ P) :
    (xgcd e.toNat P.toNat).1 = Int.gcd e P ∧
      (xgcd e.toNat P.toNat).2.1 * e + (xgcd e.toNat P.toNat).2.2 * P = Int.gcd e P := by
  have hg : (xgcd e.toNat P.toNat).1 = Int.gcd e P := by
    rw [xgcd_gcd, Int.gcd, show e.natAbs = e.toNat by omega, show P.natAbs = P.toNat by omega]
  have := xgcd_bezout e.toNat P.toNat
  rw [hg, Int.toNat_of_nonneg he, Int.toNat_of_nonneg hP] at this
  exact ⟨hg, by linear_combination this⟩

theorem advance_revoked {pk : PublicKey} {w : Witness} {acc : SAcc} {prod : Int}
    (hg : (xgcd w.e.toNat prod.toNat).1 ≠ 1) : w.advance pk acc prod = (.revoked, w) := by
  unfold Witness.advance
  exact if_pos hg

theorem advance_ok {pk : PublicKey} {w : Witness} {acc : SAcc} {prod ub na : Int}
    (hg : (xgcd w.e.toNat prod.toNat).1 = 1)
    (hub : goExp w.u (xgcd w.e.toNat prod.toNat).2.2 pk.n = some ub)
    (hna : goExp acc.nu (xgcd w.e.toNat prod.toNat).2.1 pk.n = some na)
    (hchk : goExp (ub * na % pk.n) w.e pk.n = some acc.nu) :
    w.advance pk acc prod = (.ok, { w with u := ub * na % pk.n, sacc := acc }) := by
  unfold Witness.advance
  simp only [hub, hna, hchk]
  rw [if_neg (not_not.mpr hg), if_pos (beq_self_eq_true _)]

theorem witnessValid_congr (pk : PublicKey) {w w' : Witness} (hu : w'.u = w.u) (he : w'.e = w.e)
    (hn : w'.sacc.nu = w.sacc.nu) : witnessValid pk w' = witnessValid pk w := by
  unfold witnessValid; rw [hu, he, hn]

theorem advance_cases (pk : PublicKey) (w : Witness) (acc : SAcc) (prod : Int) :
    ((w.advance pk acc prod).1 ≠ .ok ∧ (w.advance pk acc prod).2 = w) ∨
      ((w.advance pk acc prod).1 = .ok ∧ (w.advance pk acc prod).2.sacc = acc ∧
        (w.advance pk acc prod).2.e = w.e ∧
        witnessValid pk (w.advance pk acc prod).2 = true) := by
  unfold Witness.advance
  dsimp only
  split
  · exact Or.inl ⟨nofun, rfl⟩
  split
  · split
    · exact Or.inr ⟨rfl, rfl, rfl, ‹_›⟩
    · exact Or.inl ⟨nofun, rfl⟩
  · exact Or.inl ⟨nofun, rfl⟩

/-- **how `Witness.update` can change the witness**: not at all, or – returning `ok` for a
    verified update whose accumulator the witness now carries, `e` untouched – in one of two
    ways: only the signed accumulator is replaced (same index, later time), or the update
    connects and the recomputed witness has passed the validity check. -/
theorem update_witness_cases (pk : PublicKey) (w : Witness) (upd : Update) :
    (w.update pk upd).2.1 = w ∨
      ((w.update pk upd).1 = .ok ∧ (w.update pk upd).2.1.sacc = upd.sacc ∧
        (w.update pk upd).2.1.e = w.e ∧ upd.verify pk = some upd.sacc ∧
        ((upd.sacc.index = w.sacc.index ∧ w.sacc.time < upd.sacc.time ∧
            (w.update pk upd).2.1.u = w.u) ∨
          (Connects pk w upd ∧ witnessValid pk (w.update pk upd).2.1 = true))) := by
  by_cases C : Connects pk w upd
  · rw [update_of_connects C]
    cases upd.productFrom (w.sacc.index + 1) with
    | none => exact Or.inl rfl
    | some r =>
      rcases advance_cases pk w upd.sacc r.1 with ⟨-, h⟩ | ⟨a, b, c, d⟩
      exacts [Or.inl h, Or.inr ⟨a, b, c, C.verified, Or.inr ⟨C, d⟩⟩]
  rw [update_of_not_connects C]
  by_cases h : upd.verify pk = some upd.sacc ∧ upd.sacc.index = w.sacc.index ∧
      w.sacc.time < upd.sacc.time
  · exact Or.inr ⟨if_neg fun h' => absurd (h' h.1).1 (by omega), by rw [if_pos h], by rw [if_pos h],
      h.1, Or.inl ⟨h.2.1, h.2.2, by rw [if_pos h]⟩⟩
  · exact Or.inl (if_neg h)

theorem update_of_ne_ok {pk : PublicKey} {w : Witness} {upd : Update}
    (h : (w.update pk upd).1 ≠ .ok) : (w.update pk upd).2.1 = w :=
  (update_witness_cases pk w upd).resolve_right fun h' => h h'.1

theorem update_sacc_cases (pk : PublicKey) (w : Witness) (upd : Update) :
    (w.update pk upd).2.1 = w ∨
      ((w.update pk upd).1 = .ok ∧ (w.update pk upd).2.1.sacc = upd.sacc ∧
        upd.verify pk = some upd.sacc) :=
  (update_witness_cases pk w upd).imp_right fun ⟨a, b, _, d, _⟩ => ⟨a, b, d⟩

theorem Connects.congr {pk : PublicKey} {w : Witness} {u1 u2 : Update} (hs : u1.sacc = u2.sacc)
    (he : u1.events = u2.events) (C : Connects pk w u1) : Connects pk w u2 :=
  ⟨by rw [← verify_congr pk hs he, ← hs]; exact C.verified, he ▸ C.nonempty, hs ▸ C.newer,
    he ▸ C.start⟩

/-- `Witness.update` sees the update object only through its accumulator, its events and the
    value returned by `productFrom`. -/
theorem update_congr (pk : PublicKey) (w : Witness) {u1 u2 : Update} (hs : u1.sacc = u2.sacc)
    (he : u1.events = u2.events)
    (hp : (u1.productFrom (w.sacc.index + 1)).map (·.1) =
      (u2.productFrom (w.sacc.index + 1)).map (·.1)) :
    (w.update pk u1).1 = (w.update pk u2).1 ∧ (w.update pk u1).2.1 = (w.update pk u2).2.1 := by
  by_cases C : Connects pk w u1
  · rw [update_of_connects C, update_of_connects (C.congr hs he), hs]
    rcases h1 : u1.productFrom (w.sacc.index + 1) with _ | ⟨p1, o1⟩ <;>
      rcases h2 : u2.productFrom (w.sacc.index + 1) with _ | ⟨p2, o2⟩ <;>
      rw [h1, h2] at hp
    · exact ⟨rfl, rfl⟩
    · cases hp
    · cases hp
    · cases hp; exact ⟨rfl, rfl⟩
  · rw [update_of_not_connects C, update_of_not_connects (mt (Connects.congr hs.symm he.symm) C),
      verify_congr pk hs he, hs, he]
    exact ⟨rfl, rfl⟩

/-! ### the update object handed back; one object for several witnesses, several updates for one -/

theorem update_object (pk : PublicKey) (w : Witness) (upd : Update) (hc : CacheOk upd) :
    (w.update pk upd).2.2.sacc = upd.sacc ∧ (w.update pk upd).2.2.events = upd.events ∧
    CacheOk (w.update pk upd).2.2 := by
  by_cases C : Connects pk w upd
  · rw [update_of_connects C]
    rcases productFrom_coherent upd (w.sacc.index + 1) hc with
      ⟨-, h⟩ | ⟨_, _, -, h, hs, he, hc'⟩ <;> rw [h]
    exacts [⟨rfl, rfl, hc⟩, ⟨hs, he, hc'⟩]
  · rw [update_of_not_connects C]; exact ⟨rfl, rfl, hc⟩

/-- one update object handed from witness to witness (each call may fill or replace the cache). -/
def updateAll (pk : PublicKey) (upd : Update) : List Witness → List (UpdateResult × Witness) × Update
  | [] => ([], upd)
  | w :: ws =>
    let r := w.update pk upd
    let rest := updateAll pk r.2.2 ws
    ((r.1, r.2.1) :: rest.1, rest.2)

/-- a witness fed a sequence of update messages, one after the other. -/
def applyAll (pk : PublicKey) (w : Witness) : List Update → Witness
  | [] => w
  | u :: us => applyAll pk (w.update pk u).2.1 us

/-! ### the algebra of a witness update and of a history of removals, in any commutative group -/
section Algebra
variable {G : Type*} [CommGroup G]

theorem update_algebra {u ν ν' : G} {e prod a b : ℤ} (hu : u ^ e = ν) (hν : ν' ^ prod = ν)
    (hab : a * e + b * prod = 1) : (u ^ b * ν' ^ a) ^ e = ν' := by
  rw [mul_zpow, ← zpow_mul, ← zpow_mul, mul_comm b e, zpow_mul, hu, ← hν, ← zpow_mul, ← zpow_add]
  have : prod * b + a * e = 1 := by linear_combination hab
  rw [this, zpow_one]

theorem update_algebra_prod {u ν ν' : G} {e prod a b : ℤ} (hu : u ^ e = ν) (hν : ν' ^ prod = ν)
    (hab : a * e + b * prod = 1) : (u ^ b * ν' ^ a) ^ prod = u := by
  -- `update_algebra` with the roles of `(u, e, a)` and `(ν', prod, b)` exchanged
  rw [mul_comm]
  exact update_algebra hν hu (by linear_combination hab)

/-- accumulator after the first `k` removals: `ν₀ ^ (d₁⋯d_k)` (`d_i = e_i⁻¹ mod ord`, as in
    `Accumulator.Remove`). -/
def accAt (ν₀ : G) (ds : List ℤ) (k : ℕ) : G := ν₀ ^ (ds.take k).prod

/-- product of the values removed by the events with index in `(i, j]`. -/
def window (es : List ℤ) (i j : ℕ) : ℤ := ((es.drop i).take (j - i)).prod

/-- `d_k` inverts `e_k` modulo the group order, for every `k`. -/
def InvPairs (ord : ℤ) (es ds : List ℤ) : Prop :=
  List.Forall₂ (fun e d : ℤ => d * e ≡ 1 [ZMOD ord]) es ds

theorem accAt_zero (ν₀ : G) (ds : List ℤ) : accAt ν₀ ds 0 = ν₀ := by simp [accAt]

theorem accAt_succ (ν₀ : G) {ds : List ℤ} {k : ℕ} (hk : k < ds.length) :
    accAt ν₀ ds (k + 1) = accAt ν₀ ds k ^ ds[k] := by
  unfold accAt
  rw [List.take_add_one, List.getElem?_eq_getElem hk, Option.toList_some, List.prod_append,
    List.prod_singleton, zpow_mul]

theorem prod_inv_modEq {ord : ℤ} {es ds : List ℤ} (h : InvPairs ord es ds) :
    ds.prod * es.prod ≡ 1 [ZMOD ord] := by
  induction h with
  | nil => simp
  | cons hd _ ih =>
    rw [List.prod_cons, List.prod_cons]
    have := hd.mul ih
    rw [one_mul] at this
    refine Int.ModEq.trans ?_ this
    rw [show ∀ a b c d : ℤ, a * b * (c * d) = a * c * (b * d) from fun a b c d => by ring]

theorem zpow_eq_of_modEq {ν : G} {ord a b : ℤ} (hν : ν ^ ord = 1) (h : a ≡ b [ZMOD ord]) :
    ν ^ a = ν ^ b := by
  obtain ⟨t, ht⟩ := h.symm.dvd
  have : a = b + ord * t := by linear_combination ht
  rw [this, zpow_add, zpow_mul, hν, one_zpow, mul_one]

/-- the chain lemma: the later accumulator raised to the product of the values removed in
    between is the earlier one. -/
theorem accAt_window {ν₀ : G} {ord : ℤ} {es ds : List ℤ} (hν : ν₀ ^ ord = 1)
    (h : InvPairs ord es ds) {i j : ℕ} (hij : i ≤ j) :
    accAt ν₀ ds j ^ window es i j = accAt ν₀ ds i := by
  unfold accAt window
  have hj : j = i + (j - i) := by omega
  conv_lhs => rw [hj, List.take_add, List.prod_append]
  have hw : InvPairs ord ((es.drop i).take (i + (j - i) - i)) ((ds.drop i).take (j - i)) := by
    rw [Nat.add_sub_cancel_left]
    exact List.forall₂_take _ (List.forall₂_drop _ h)
  have := prod_inv_modEq hw
  rw [← zpow_mul]
  apply zpow_eq_of_modEq hν
  have h2 := this.mul_left (List.take i ds).prod
  rw [mul_one, ← mul_assoc] at h2
  exact h2

theorem accAt_ord {ν₀ : G} {ord : ℤ} (hν : ν₀ ^ ord = 1) (ds : List ℤ) (k : ℕ) :
    accAt ν₀ ds k ^ ord = 1 := by
  unfold accAt
  rw [← zpow_mul, mul_comm, zpow_mul, hν, one_zpow]

end Algebra

/-! ### the product of a window of removed values -/

theorem isCoprime_list_prod {e : ℤ} {l : List ℤ} (h : ∀ x ∈ l, IsCoprime e x) :
    IsCoprime e l.prod := by
  induction l with
  | nil => exact isCoprime_one_right
  | cons a t ih =>
    rw [List.prod_cons]
    exact IsCoprime.mul_right (h a (by simp)) (ih fun x hx => h x (List.mem_cons_of_mem _ hx))

theorem mem_of_mem_window {es : List Int} {i n : ℕ} {x : Int} (h : x ∈ (es.drop i).take n) :
    x ∈ es := List.mem_of_mem_drop (List.mem_of_mem_take h)

theorem window_pos {es : List Int} (h : ∀ x ∈ es, 0 < x) (i j : ℕ) : 0 < window es i j :=
  List.prod_pos fun x hx => h x (mem_of_mem_window hx)

theorem mem_window_iff {es : List Int} {i j : ℕ} {x : Int} :
    x ∈ (es.drop i).take (j - i) ↔ ∃ k, ∃ hk : k < es.length, i ≤ k ∧ k < j ∧ es[k] = x := by
  simp only [List.mem_iff_getElem, List.getElem_take, List.getElem_drop, List.length_take,
    List.length_drop]
  constructor
  · rintro ⟨n, hn, rfl⟩
    exact ⟨i + n, by omega, by omega, by omega, rfl⟩
  · rintro ⟨k, hk, h1, h2, rfl⟩
    obtain ⟨n, rfl⟩ := Nat.exists_eq_add_of_le h1
    exact ⟨n, by omega, rfl⟩

/-! ### an honest history in the model: the issuer, a witness, an update message -/

theorem accRemove_some {n order nu : Int} {index : Nat} {e : Int} {parent : Event} {nu' : Int}
    {ev : Event} (h : accRemove n order nu index e parent = some (nu', ev)) :
    ∃ d, commonModInverse e order = some d ∧ goExp nu d n = some nu' ∧
      ev = { index := index + 1, e := e, parentHash := parent.hash } := by
  unfold accRemove at h
  simp only [Option.bind_eq_bind, Option.bind_eq_some_iff, Option.pure_def, Option.some.injEq,
    Prod.mk.injEq] at h
  obtain ⟨d, hd, x, hg, rfl, rfl⟩ := h
  exact ⟨d, hd, hg, rfl⟩

/-- `hd` says that `d` is the only inverse of `e` in `[1, order)`: that identifies it with
    whatever `commonModInverse` returns. -/
theorem accRemove_of_inverse {n order nu e d : Int} {index : Nat} (parent : Event) (hn : 0 < n)
    (ho : 1 < order) (hg : Int.gcd e order = 1)
    (hd : ∀ r, 1 ≤ r → r < order → e * r % order = 1 → r = d) :
    accRemove n order nu index e parent =
      some (nu ^ d.toNat % n, { index := index + 1, e := e, parentHash := parent.hash }) := by
  unfold accRemove
  cases h : commonModInverse e order with
  | none => exact absurd hg ((commonModInverse_none_iff e order (by omega)).mp h)
  | some r =>
    obtain ⟨h1, h2, h3⟩ := commonModInverse_some ho h
    obtain rfl := hd r h1 h2 h3
    simp only [Option.bind_eq_bind, Option.bind_some]
    rw [goExp_nonneg nu r n hn (by omega)]
    rfl

/-- the issuer's side of a revocation history: modulus `N`, an exponent `ord` annihilating the
    initial accumulator (`p'q'` for a quadratic residue), the removed values `es` in order and the
    accumulator values `nu 0, nu 1, …` produced by `Accumulator.Remove`. -/
structure Honest (pk : PublicKey) (N : ℕ) (ord : Int) (es : List Int) (nu : ℕ → Int) : Prop where
  n_eq : pk.n = (N : Int)
  n_gt : 1 < N
  ord_gt : 1 < ord
  base : goExp (nu 0) ord pk.n = some 1
  es_pos : ∀ x ∈ es, 0 < x
  step : ∀ k (hk : k < es.length), ∃ parent ev,
    accRemove pk.n ord (nu k) k es[k] parent = some (nu (k + 1), ev)

/-- the witness `w` for the value `e` stands at index `idx` of the history. -/
structure TracksAt (pk : PublicKey) (nu : ℕ → Int) (e : Int) (w : Witness) (idx : ℕ) : Prop where
  index : w.sacc.index = idx
  nu : w.sacc.nu = nu idx
  e : w.e = e
  valid : witnessValid pk w = true

/-- an update message of the honest issuer for the events with index `frm..hi` (event `0` is the
    initial event with value 1, event `k ≥ 1` removes `es[k-1]`), possibly with a filled but
    coherent product cache. -/
structure HonestUpdate (pk : PublicKey) (es : List Int) (nu : ℕ → Int) (upd : Update)
    (frm hi : ℕ) : Prop where
  le : frm ≤ hi
  hi_le : hi ≤ es.length
  verified : upd.verify pk = some upd.sacc
  index : upd.sacc.index = hi
  nu : upd.sacc.nu = nu hi
  events_e : upd.events.map (·.e) = ((1 :: es).drop frm).take (hi + 1 - frm)
  start : upd.events.head?.map (·.index) = some frm
  cache : CacheOk upd

theorem HonestUpdate.length {pk : PublicKey} {es : List Int} {nu : ℕ → Int} {upd : Update}
    {frm hi : ℕ} (U : HonestUpdate pk es nu upd frm hi) : upd.events.length = hi + 1 - frm := by
  have := congrArg List.length U.events_e
  have h1 := U.le; have h2 := U.hi_le
  simp only [List.length_map, List.length_take, List.length_drop, List.length_cons] at this
  omega

/-- the inverses `Accumulator.Remove` used (0 where there is none, which `Honest.step` excludes). -/
def invList (ord : Int) (es : List Int) : List Int :=
  es.map fun e => (commonModInverse e ord).getD 0

section
variable {pk : PublicKey} {N : ℕ} {ord : Int} {es : List Int} {nu : ℕ → Int}

theorem Honest.invPairs (H : Honest pk N ord es nu) : InvPairs ord es (invList ord es) := by
  unfold InvPairs invList
  rw [List.forall₂_map_right_iff, List.forall₂_same]
  intro x hx
  obtain ⟨k, hk, rfl⟩ := List.getElem_of_mem hx
  obtain ⟨parent, ev, hs⟩ := H.step k hk
  obtain ⟨d, hd, -, -⟩ := accRemove_some hs
  obtain ⟨-, -, h3⟩ := commonModInverse_some H.ord_gt hd
  rw [hd, Option.getD_some]
  unfold Int.ModEq
  rw [mul_comm, h3, Int.emod_eq_of_lt (by norm_num) H.ord_gt]

theorem Honest.pow_ord (H : Honest pk N ord es nu) : zunit N (nu 0) ^ ord = 1 :=
  zunit_pow_order H.n_gt (by have := H.ord_gt; omega) (H.n_eq ▸ H.base)

theorem Honest.nu_range (H : Honest pk N ord es nu) {k : ℕ} (h0 : 0 < k) (hk : k ≤ es.length) :
    0 ≤ nu k ∧ nu k < N := by
  obtain ⟨k, rfl⟩ := Nat.exists_eq_add_one_of_ne_zero h0.ne'
  obtain ⟨_, _, hs⟩ := H.step k hk
  obtain ⟨_, -, hg, -⟩ := accRemove_some hs
  exact goExp_range (by have := H.n_gt; omega) (H.n_eq ▸ hg)

/-- the accumulator values of the model are units modulo `N`, and as such they are the
    accumulators `accAt` of the history in `(ZMod N)ˣ`. -/
theorem Honest.nu_eq_accAt (H : Honest pk N ord es nu) {k : ℕ} (hk : k ≤ es.length) :
    IsUnit ((nu k : Int) : ZMod N) ∧
      zunit N (nu k) = accAt (zunit N (nu 0)) (invList ord es) k := by
  induction k with
  | zero =>
    exact ⟨isUnit_of_goExp_one (by have := H.n_gt; omega) (by have := H.ord_gt; omega)
      (H.n_eq ▸ H.base), (accAt_zero _ _).symm⟩
  | succ k ih =>
    obtain ⟨hu, hz⟩ := ih (by omega)
    obtain ⟨parent, ev, hs⟩ := H.step k hk
    obtain ⟨d, hd, hg, -⟩ := accRemove_some hs
    rw [H.n_eq] at hg
    obtain ⟨-, -, hc⟩ := goExp_unit_eq H.n_gt hu hg
    refine ⟨isUnit_of_cast hc, ?_⟩
    have hlen : k < (invList ord es).length := by simpa [invList] using hk
    rw [zunit_of_cast hc, hz, accAt_succ _ hlen]
    congr 1
    simp [invList, hd]

/-! ### honest updates applied to a non-revoked witness -/

/-- the arithmetic heart of an honest update: the removed product is coprime to the witness
    value, both modular powers exist, and the recomputed witness passes the validity check
    against the new accumulator – so `Witness.advance` returns `ok`. -/
theorem honest_core (H : Honest pk N ord es nu) {e : Int} (he : 1 < e) {w : Witness}
    {idx hi : ℕ}
    (hcop : ∀ x ∈ (es.drop idx).take (hi - idx), Int.gcd e x = 1)
    (T : TracksAt pk nu e w idx) (hih : idx < hi) (hhi : hi ≤ es.length) {acc : SAcc}
    (hacc : acc.nu = nu hi) :
    ∃ u', w.advance pk acc (window es idx hi) = (.ok, { w with u := u', sacc := acc }) ∧
      goExp u' w.e pk.n = some acc.nu := by
  obtain ⟨hu_idx, hz_idx⟩ := H.nu_eq_accAt (k := idx) (by omega)
  obtain ⟨hu_hi, hz_hi⟩ := H.nu_eq_accAt hhi
  obtain ⟨hr0, hr1⟩ := H.nu_range (by omega) hhi
  obtain ⟨-, Tn, rfl, Tv⟩ := T
  have hN := H.n_gt
  have hn := H.n_eq
  have hP : 0 < window es idx hi := window_pos H.es_pos idx hi
  have hcopP : Int.gcd w.e (window es idx hi) = 1 := Int.isCoprime_iff_gcd_eq_one.mp
    (isCoprime_list_prod fun x hx => Int.isCoprime_iff_gcd_eq_one.mpr (hcop x hx))
  obtain ⟨hg, hbez⟩ := xgcd_toNat (by omega : 0 ≤ w.e) hP.le
  rw [hcopP] at hg hbez
  -- the old witness is a unit, and `u^e = ν_idx` in `(ZMod N)ˣ`
  have hvalid : goExp w.u w.e N = some (nu idx) := by
    rw [← hn, ← Tn]; exact eq_of_beq Tv
  have huU : IsUnit ((w.u : Int) : ZMod N) := by
    rw [goExp_cast (by omega) w.u w.e (by omega) hvalid] at hu_idx
    exact (isUnit_pow_iff (by omega : w.e.toNat ≠ 0)).mp hu_idx
  have hUe : zunit N w.u ^ w.e = accAt (zunit N (nu 0)) (invList ord es) idx :=
    hz_idx ▸ (zunit_of_cast (goExp_unit_eq hN huU hvalid).2.2).symm
  have hstep := update_algebra hUe (accAt_window H.pow_ord H.invPairs hih.le)
    (by exact_mod_cast hbez)
  rw [← hz_hi] at hstep
  -- the three modular powers of `Witness.advance`, read in `(ZMod N)ˣ`
  obtain ⟨ub, hub, -, -, cub⟩ := goExp_unit hN huU (xgcd w.e.toNat (window es idx hi).toNat).2.2
  obtain ⟨na, hna, -, -, cna⟩ := goExp_unit hN hu_hi (xgcd w.e.toNat (window es idx hi).toNat).2.1
  obtain ⟨-, -, cnew⟩ := mul_emod_unit (by omega) cub cna
  obtain ⟨r, hr, r0, r1, cr⟩ := goExp_unit hN (isUnit_of_cast cnew) w.e
  rw [zunit_of_cast cnew, hstep, zunit_val hu_hi] at cr
  obtain rfl := eq_of_cast_eq r0 r1 hr0 hr1 cr
  rw [← hn] at hub hna hr
  exact ⟨_, advance_ok hg hub (hacc ▸ hna) (hacc ▸ hr), hacc ▸ hr⟩

theorem HonestUpdate.productFrom {upd : Update} {frm hi : ℕ}
    (U : HonestUpdate pk es nu upd frm hi) {idx : ℕ} (h1 : frm ≤ idx + 1) (h2 : idx < hi) :
    ∃ upd', upd.productFrom (idx + 1) = some (window es idx hi, upd') := by
  obtain ⟨h, hh, rfl⟩ := Option.map_eq_some_iff.mp U.start
  have ht : trueProduct upd.events (idx + 1) = some (window es idx hi) := by
    rw [trueProduct_of_head hh (by omega) (by rw [U.length]; omega), U.events_e, List.drop_take,
      List.drop_drop]
    unfold window
    have e1 : h.index + (idx + 1 - h.index) = idx + 1 := by omega
    have e2 : hi + 1 - h.index - (idx + 1 - h.index) = hi - idx := by omega
    rw [e1, e2, List.drop_succ_cons]
  rcases productFrom_coherent upd (idx + 1) U.cache with ⟨h', -⟩ | ⟨p, u', h', hp, -⟩
  · rw [ht] at h'; cases h'
  · rw [ht] at h'; cases h'; exact ⟨u', hp⟩

theorem HonestUpdate.events_ne_nil {upd : Update} {frm hi : ℕ}
    (U : HonestUpdate pk es nu upd frm hi) : upd.events ≠ [] := by
  intro h
  have := U.start
  rw [h] at this
  cases this

theorem HonestUpdate.connects_iff {upd : Update} {frm hi : ℕ}
    (U : HonestUpdate pk es nu upd frm hi) {w : Witness} {idx : ℕ} (hw : w.sacc.index = idx) :
    Connects pk w upd ↔ idx < hi ∧ frm ≤ idx + 1 := by
  have hstart : (upd.events.head?.map (·.index)).getD 0 = frm := by rw [U.start]; rfl
  subst hw
  rw [← U.index, ← hstart]
  exact ⟨fun C => ⟨C.newer, C.start⟩, fun h => ⟨U.verified, U.events_ne_nil, h.1, h.2⟩⟩

/-- an honest update that does not connect leaves the witness where it stands: if it takes over
    the signed accumulator (same index, later time), that carries the same value. -/
theorem TracksAt.update_of_not_connects {e : Int} {w : Witness} {idx : ℕ}
    (T : TracksAt pk nu e w idx) {upd : Update} {frm hi : ℕ}
    (U : HonestUpdate pk es nu upd frm hi) (C : ¬ Connects pk w upd) :
    TracksAt pk nu e (w.update pk upd).2.1 idx := by
  rcases update_witness_cases pk w upd with h | ⟨-, hs, he, -, ⟨h1, -, hu⟩ | ⟨C', -⟩⟩
  · rw [h]; exact T
  · have hn : (w.update pk upd).2.1.sacc.nu = w.sacc.nu := by
      rw [hs, U.nu, ← U.index, h1, T.index, T.nu]
    exact ⟨by rw [hs, h1]; exact T.index, hn.trans T.nu, he.trans T.e,
      by rw [witnessValid_congr pk hu he hn]; exact T.valid⟩
  · exact absurd C' C

/-- being an honest update for a window depends on the accumulator and the events only, given a
    coherent cache: so the object handed back by `Witness.update` is one again. -/
theorem HonestUpdate.update {upd : Update} {frm hi : ℕ}
    (U : HonestUpdate pk es nu upd frm hi) (w : Witness) :
    HonestUpdate pk es nu (w.update pk upd).2.2 frm hi :=
  have ⟨hs, he, hc⟩ := update_object pk w upd U.cache
  { le := U.le
    hi_le := U.hi_le
    verified := by rw [verify_congr pk hs he, hs]; exact U.verified
    index := hs ▸ U.index
    nu := hs ▸ U.nu
    events_e := he ▸ U.events_e
    start := he ▸ U.start
    cache := hc }

end

/-! ### the index a witness stands at, update by update -/

/-- the index a witness standing at `idx` reaches through an honest update for events
    `frm..hi`: it jumps to `hi` when the update is newer and connects (`frm ≤ idx+1`), and stays
    where it is otherwise (older or equal update; or update too new, which is an error). -/
def stepIdx (idx : ℕ) (win : ℕ × ℕ) : ℕ :=
  if idx < win.2 ∧ win.1 ≤ idx + 1 then win.2 else idx

theorem le_stepIdx (idx : ℕ) (win : ℕ × ℕ) : idx ≤ stepIdx idx win := by
  unfold stepIdx; split <;> omega

theorem le_foldl_stepIdx (wins : List (ℕ × ℕ)) (idx : ℕ) :
    idx ≤ wins.foldl stepIdx idx := by
  induction wins generalizing idx with
  | nil => exact Nat.le_refl _
  | cons a t ih => exact Nat.le_trans (le_stepIdx idx a) (ih _)

/-- the index machine of a witness whose value is removed by event `k+1`: updates that end at or
    before `k` act as usual, all others leave it where it is. -/
def stepIdxRemoved (k : ℕ) (idx : ℕ) (win : ℕ × ℕ) : ℕ :=
  if win.2 ≤ k then stepIdx idx win else idx

theorem le_stepIdxRemoved (k idx : ℕ) (win : ℕ × ℕ) : idx ≤ stepIdxRemoved k idx win := by
  unfold stepIdxRemoved
  split
  · exact le_stepIdx idx win
  · exact Nat.le_refl idx

theorem stepIdxRemoved_le {k idx : ℕ} (h : idx ≤ k) (win : ℕ × ℕ) :
    stepIdxRemoved k idx win ≤ k := by
  unfold stepIdxRemoved stepIdx
  split
  · split <;> omega
  · exact h

/-! ### a toy history satisfying `Honest`, `TracksAt` and `HonestUpdate`
  `n = 77`, squares of order dividing 15, `ν₀ = 4`; removed values 7 then 11; a witness for 13.
  `powMod` and `xgcd` recurse on a measure and do not evaluate in the kernel, so the vector is
  checked through `goExp_nonneg` and `accRemove_of_inverse`, whose side conditions are evaluated. -/

def toyParams : SysParams :=
  { LePrime := 3, Lh := 8, Lm := 8, Ln := 7, Lstatzk := 1, Le := 4, LeCommit := 12, LmCommit := 17,
    LRA := 8, LsCommit := 18, Lv := 20, LvCommit := 29, LvPrime := 8, LvPrimeCommit := 300 }

/-- `n = 7·11`; the squares modulo 77 form a group of order 15. -/
def toyKey : PublicKey :=
  { n := 77, z := 9, s := 4, g := none, h := none, r := [16, 25, 36], counter := 0,
    params := toyParams, hasEcdsa := true, issuer := "toy" }

def toyNu : ℕ → Int
  | 0 => 4
  | 1 => 53
  | 2 => 9
  | _ => 0

def toyEv0 : Event := { index := 0, e := 1, parentHash := 0x12 :: 0x20 :: List.replicate 32 0 }
def toyEv1 : Event := { index := 1, e := 7, parentHash := toyEv0.hash }
def toyEv2 : Event := { index := 2, e := 11, parentHash := toyEv1.hash }

def toySacc (i : ℕ) (ev : Event) : SAcc :=
  { nu := toyNu i, index := i, time := i, eventHash := ev.hash, pkCounter := 0, sigOk := true }

/-- the issuer's update message for events 1..2. -/
def toyUpdate : Update := { sacc := toySacc 2 toyEv2, events := [toyEv1, toyEv2] }

/-- a witness for the value 13 issued at index 0: `60^13 = 4 (mod 77)`. -/
def toyWitness : Witness := { u := 60, e := 13, sacc := toySacc 0 toyEv0 }

theorem toy_honest : Honest toyKey 77 15 [7, 11] toyNu where
  n_eq := rfl
  n_gt := by norm_num
  ord_gt := by norm_num
  base := by
    show goExp 4 15 77 = some 1
    rw [goExp_nonneg 4 15 77 (by norm_num) (by norm_num)]; decide
  es_pos := by decide
  step := by
    intro k hk
    have : k = 0 ∨ k = 1 := by simp at hk; omega
    rcases this with rfl | rfl
    · exact ⟨toyEv0, _, accRemove_of_inverse (e := 7) (d := 13) toyEv0 (by decide) (by norm_num)
        (by decide) fun r _ _ _ => by omega⟩
    · exact ⟨toyEv1, _, accRemove_of_inverse (e := 11) (d := 11) toyEv1 (by decide) (by norm_num)
        (by decide) fun r _ _ _ => by omega⟩

theorem toy_tracks : TracksAt toyKey toyNu 13 toyWitness 0 where
  index := rfl
  nu := rfl
  e := rfl
  valid := by
    show (goExp 60 13 77 == some 4) = true
    rw [goExp_nonneg 60 13 77 (by norm_num) (by norm_num)]; decide

theorem toy_update : HonestUpdate toyKey [7, 11] toyNu toyUpdate 1 2 where
  le := by norm_num
  hi_le := by simp
  verified := by
    rw [verify_eq_some_iff]
    refine ⟨rfl, rfl, rfl, ?_⟩
    rw [eventsVerify_spec]
    right
    refine ⟨⟨toyEv2, rfl, ?_⟩, ?_, ?_, ?_⟩
    · rw [hashEquals_iff]; exact ⟨hashAlgOk_eventHash _, rfl⟩
    · intro f hf
      obtain rfl : toyEv1 = f := by simpa [toyUpdate] using hf
      exact hashAlgOk_eventHash _
    · show List.IsChain _ [toyEv1, toyEv2]
      rw [List.isChain_cons_cons]
      refine ⟨?_, List.isChain_singleton _⟩
      rw [hashEquals_iff]; exact ⟨hashAlgOk_eventHash _, rfl⟩
    · intro k hk
      have : k = 0 ∨ k = 1 := by simp [toyUpdate] at hk; omega
      rcases this with rfl | rfl <;> rfl
  index := rfl
  nu := rfl
  events_e := rfl
  start := rfl
  cache := cacheOk_none _ rfl

/-- an issuer-signed accumulator with the *same index* as that of `toyWitness` but another value
    and a later time: the model (like `Witness.Update` in Go) takes it over without re-checking
    the witness (`Gabi.C09.same_index_unchecked`). -/
def toyBadUpdate : Update :=
  { sacc := { nu := 5, index := 0, time := 1, eventHash := [], pkCounter := 0, sigOk := true },
    events := [] }

end Gabi.Rev
